/-
  C02 / C14 — HISTORY INDEPENDENCE of the raw LZMA2 decoder object.

  A well-formed LZMA2 stream whose first LZMA chunk sets new properties (`StartsFresh`; in
  particular every stream a conforming encoder produces, `StartsFreshStrict`) is decoded by
  `Lzma2Decoder::decompress` on ANY usable decoder object — whatever an earlier `decompress`,
  successful or failed, left in it — exactly as by a fresh `Lzma2Decoder::new()`: same bytes
  delivered, same flush, same verdict `Ok`, same reader position.  No `reset()` is needed.

  This justifies the test oracle "after a failed decode, the same `Lzma2Decoder` object, without
  `reset`, still decodes a well-formed stream to exactly the bytes the format defines".

  The model's `M` monad drops the decoder object on `Err`, so "the object after a failed decode"
  is not a value of the model.  The theorem therefore quantifies over ALL objects satisfying
  `Lzma2Decoder.Inv` (C14): every probability table has its allocated size, the literal table
  has `1 << (lc + lp)` rows, and `partial_input_buf` is empty.  Rust maintains the first two by
  construction (`Vec2D`, fixed-size arrays; `reset_state` reallocates when `lc + lp` changes)
  and the third because `Lzma2Decoder` only ever runs `process_mode(Finish)`, which never
  stages input (C14 `finish_mode_keeps_partialBuf_empty`) — at every point where `?` can leave
  `decompress`.

  DEAD fields of `lzma_state` (arbitrary in the theorem): the CONTENTS of every probability
  table (`literal_probs`, `pos_slot_decoder`, `align_decoder`, `pos_decoders`, `is_match`,
  `is_rep*`, `is_rep_0long`, `len_decoder`, `rep_len_decoder`), `lzma_props` (`lc`, `lp`, `pb`
  — not even `lc + lp ≤ 4`/validity is assumed), `unpacked_size`, `state`, `rep[0..4]`.
  The window is not a field: `decompress` creates a new `LzAccumBuffer` per call, which is why
  NOT EVEN a dictionary reset in the first chunk is needed for lzma-rs (liblzma demands it).
  NOT dead: `partial_input_buf` (kept by `reset_state`; `partialBuf_needed` below) and the
  table sizes (`tableSizes_needed` below; unreachable in Rust).
-/
import LzmaProofs.Lemmas.Lzma2Hist
import LzmaProofs.Props.C14
namespace Lzma.C02
open Lzma L2 L2E L2H

/-- History independence, full statement.  For every decoder object `d` with intact table
sizes and empty staging buffer, every well-formed chunk list `cs` whose first LZMA chunk (if
any) sets new properties, every tail `t` and every perfect sink `s0`:
`d.decompress` on `encode2 cs ++ [0] ++ t` returns `Ok`, delivers exactly `expand2 cs`, ends with
a flush, leaves the reader just behind the end byte — and sink, verdict and reader are THE SAME
as for the fresh decoder `Lzma2Decoder::new()` (`Lzma2Decoder.init`) on the same input.  The
object afterwards is usable again, and is even equal to the fresh decoder's object unless the
stream has no LZMA chunk at all (then neither object was touched). -/
theorem lzma2_history_independent_full (d : Lzma2Decoder) (hd : d.Inv) (cs : List SChunk)
    (hwf : WF2 cs) (hsf : StartsFresh cs) (t : Bytes) (s0 : Sink) (hs : s0.script = []) :
    ∃ out s' d' dF, expand2 cs = some out ∧
      d.decompress (Rd.ofBytes (encode2 cs ++ [0] ++ t)) s0 = (s', .ok (d', Rd.ofBytes t)) ∧
      Lzma2Decoder.init.decompress (Rd.ofBytes (encode2 cs ++ [0] ++ t)) s0 =
        (s', .ok (dF, Rd.ofBytes t)) ∧
      s'.out = s0.out ++ out.toArray ∧ s'.lastFlush = true ∧ s'.script = [] ∧
      d'.Inv ∧ (d' = dF ∨ (AllRaw cs ∧ d' = d ∧ dF = Lzma2Decoder.init)) := by
  obtain ⟨chs, out, d0', d', a', k', es', F', g1, g2, g3, g4, g4', g5, g6, g7⟩ :=
    run_chunks_hist cs _ [] Lzma2Decoder.init d (Accum.fromStream USIZE_MAX) s0 (inv_init hs) hd
      hwf hsf
  obtain ⟨s', hdec, hout, hlf, hperf⟩ :=
    decompress_of_run t g2 g3 g5 (by simpa [EncSt.new] using g6)
  exact ⟨out, s', d', d0', g1, hdec g4', hdec g4, hout, hlf, hperf,
    Lzma2Decoder.decompress_inv d hd _ (hdec g4'), g7⟩

/-- History independence in the form the oracle uses: whatever is in the object, the stream
is decoded to exactly the bytes the format defines. -/
theorem lzma2_history_independent (d : Lzma2Decoder) (hd : d.Inv) (cs : List SChunk)
    (hwf : WF2 cs) (hsf : StartsFresh cs) (t : Bytes) (s0 : Sink) (hs : s0.script = []) :
    ∃ out s' d', expand2 cs = some out ∧
      d.decompress (Rd.ofBytes (encode2 cs ++ [0] ++ t)) s0 = (s', .ok (d', Rd.ofBytes t)) ∧
      s'.out = s0.out ++ out.toArray ∧ s'.lastFlush = true :=
  let ⟨out, s', d', _, h1, h2, _, h3, h4, _⟩ :=
    lzma2_history_independent_full d hd cs hwf hsf t s0 hs
  ⟨out, s', d', h1, h2, h3, h4⟩

/-- the same as an equation with the one-shot API `lzma2_decompress` (which creates a fresh
decoder): same sink (every field: `out`, `lastFlush`, `script`, call counters), and the same
verdict and remaining reader -/
theorem lzma2_dirty_eq_fresh (d : Lzma2Decoder) (hd : d.Inv) (cs : List SChunk)
    (hwf : WF2 cs) (hsf : StartsFresh cs) (t : Bytes) (s0 : Sink) (hs : s0.script = []) :
    (d.decompress (Rd.ofBytes (encode2 cs ++ [0] ++ t)) s0).1 =
        (lzma2Decompress (Rd.ofBytes (encode2 cs ++ [0] ++ t)) s0).1 ∧
    (d.decompress (Rd.ofBytes (encode2 cs ++ [0] ++ t)) s0).2.map Prod.snd =
        (lzma2Decompress (Rd.ofBytes (encode2 cs ++ [0] ++ t)) s0).2 := by
  obtain ⟨out, s', d', dF, -, h2, h3, -⟩ := lzma2_history_independent_full d hd cs hwf hsf t s0 hs
  rw [h2, lzma2Decompress_eq, bind_run_ok h3]
  exact ⟨rfl, rfl⟩

/-- the hypothesis in the form of the format's own rule (what every conforming encoder emits):
the first chunk is an LZMA chunk with full reset, or an uncompressed chunk with dictionary reset
after which the first LZMA chunk sets new properties -/
theorem lzma2_history_independent_strict (d : Lzma2Decoder) (hd : d.Inv) (cs : List SChunk)
    (hwf : WF2 cs) (hsf : StartsFreshStrict cs) (t : Bytes) (s0 : Sink) (hs : s0.script = []) :
    ∃ out s' d', expand2 cs = some out ∧
      d.decompress (Rd.ofBytes (encode2 cs ++ [0] ++ t)) s0 = (s', .ok (d', Rd.ofBytes t)) ∧
      s'.out = s0.out ++ out.toArray ∧ s'.lastFlush = true :=
  lzma2_history_independent d hd cs hwf hsf.startsFresh t s0 hs

/-- The form the test oracle uses.  `d1` is any object the API can produce (`C14.Lzma2Reachable`): `new()`,
then any number of `reset()`s and `decompress` calls on any inputs and sinks — successful ones,
and failed ones after which the object is ANYTHING with intact table sizes and an empty staging
buffer.  Then `d1.decompress` on a well-formed stream that starts fresh gives what the fresh
decoder gives: `Ok`, exactly `expand2 cs`, flushed, reader behind the end byte; and `d1'` is
reachable again, so the statement applies to the next stream as well. -/
theorem lzma2_reused_object_decodes_like_fresh (d1 : Lzma2Decoder) (hr : C14.Lzma2Reachable d1)
    (cs : List SChunk) (hwf : WF2 cs) (hsf : StartsFresh cs) (t : Bytes) (s0 : Sink)
    (hs : s0.script = []) :
    ∃ out s' d1' dF, expand2 cs = some out ∧
      d1.decompress (Rd.ofBytes (encode2 cs ++ [0] ++ t)) s0 = (s', .ok (d1', Rd.ofBytes t)) ∧
      Lzma2Decoder.init.decompress (Rd.ofBytes (encode2 cs ++ [0] ++ t)) s0 =
        (s', .ok (dF, Rd.ofBytes t)) ∧
      lzma2Decompress (Rd.ofBytes (encode2 cs ++ [0] ++ t)) s0 = (s', .ok (Rd.ofBytes t)) ∧
      s'.out = s0.out ++ out.toArray ∧ s'.lastFlush = true ∧ C14.Lzma2Reachable d1' := by
  obtain ⟨out, s', d', dF, h1, h2, h3, h4, h5, -, -, -⟩ :=
    lzma2_history_independent_full d1 (C14.lzma2_reachable_inv d1 hr) cs hwf hsf t s0 hs
  refine ⟨out, s', d', dF, h1, h2, h3, ?_, h4, h5, .decompress hr h2⟩
  rw [lzma2Decompress_eq, bind_run_ok h3]; rfl

/-! ## non-vacuity -/

/-- a hand-made dirty object: properties `lc = 1, pb = 2`, a stale size, a state after a match,
non-zero `rep`s, and table CONTENTS at the extreme values (`is_match` all 31, literals all 2017) -/
def dirtyLit : Lzma2Decoder :=
  { lzmaState :=
      { props := { lc := 1, lp := 0, pb := 2 }
        unpackedSize := some 12345
        probs := { Probs.init 2 with
          lit := Array.replicate (2 * 0x300) 2017
          isMatch := Array.replicate 192 31 }
        state := 11, rep0 := 77, rep1 := 3, rep2 := 2, rep3 := 1 } }

theorem dirtyLit_inv : dirtyLit.Inv := by
  refine ⟨⟨⟨?_, ?_, ?_, ?_, ?_, ?_, ?_, ?_, ?_, ?_, ⟨?_, ?_, ?_⟩, ⟨?_, ?_, ?_⟩⟩, rfl⟩, rfl⟩ <;>
    exact Array.size_replicate

/-- the decoder object `new()` + one successful `decompress` of `bytes` leaves behind -/
def objectAfter (bytes : Bytes) : Option Lzma2Decoder :=
  match Lzma2Decoder.init.decompress (Rd.ofBytes bytes) {} with
  | (_, .ok (d, _)) => some d
  | _ => none

theorem objectAfter_reachable {bytes : Bytes} {d : Lzma2Decoder} (h : objectAfter bytes = some d) :
    C14.Lzma2Reachable d := by
  unfold objectAfter at h
  split at h
  · rename_i heq
    cases h
    exact .decompress (.new Lzma2Decoder.new_eq) heq
  · cases h

/-- another stream: `lc = 1, pb = 2`, ends in a match -/
def otherChunks : List SChunk := [.lzma 3 ⟨1, 0, 2⟩ [.lit 0x78, .lit 0x79, .mtch 2 5]]

/-- a dirty object that really arises: after decoding `otherChunks` the object holds
`lc = 1, pb = 2`, `state = 7`, `rep[0] = 1`, a stale size (and adapted probabilities) -/
theorem dirtyRun_exists : ∃ d1, objectAfter (encode2 otherChunks ++ [0]) = some d1 ∧
    C14.Lzma2Reachable d1 ∧ d1.Inv ∧ d1.lzmaState.props = ⟨1, 0, 2⟩ ∧ d1.lzmaState.state = 7 ∧
    d1.lzmaState.rep0 = 1 ∧ d1.lzmaState.unpackedSize = some 7 := by
  have h : (objectAfter (encode2 otherChunks ++ [0])).map (fun d =>
      (d.lzmaState.props, d.lzmaState.state, d.lzmaState.rep0, d.lzmaState.unpackedSize)) =
      some (⟨1, 0, 2⟩, 7, 1, some 7) := by decide +kernel
  cases hobj : objectAfter (encode2 otherChunks ++ [0]) with
  | none => rw [hobj] at h; cases h
  | some d1 =>
    rw [hobj] at h
    simp only [Option.map_some, Option.some.injEq, Prod.mk.injEq] at h
    have hr := objectAfter_reachable hobj
    exact ⟨d1, rfl, hr, C14.lzma2_reachable_inv d1 hr, h.1, h.2.1, h.2.2.1, h.2.2.2⟩

/-- a stream meeting the hypotheses in the lenient way: an uncompressed chunk WITHOUT dictionary
reset, then new properties (class 2), then a chunk continuing the coder state -/
def histChunks : List SChunk :=
  [ .raw false [0x68, 0x69],
    .lzma 2 ⟨1, 0, 1⟩ [.mtch 2 2, .lit 0x6a],
    .lzma 0 ⟨0, 0, 0⟩ [.lit 0x6b, .rep 0 2] ]

/-- a two-chunk stream as a conforming encoder writes it: full reset, then a continuing chunk -/
def histChunks2 : List SChunk :=
  [ .lzma 3 ⟨0, 0, 0⟩ [.lit 0x61, .lit 0x62, .lit 0x10, .lit 0xF3, .lit 0x77],
    .lzma 0 ⟨0, 0, 0⟩ [.mtch 5 3, .lit 0x63] ]

theorem histChunks_hyps : WF2 histChunks ∧ StartsFresh histChunks ∧ ¬ StartsFreshStrict histChunks ∧
    WF2 histChunks2 ∧ StartsFreshStrict histChunks2 := by
  refine ⟨?_, ?_, ?_, ?_, ?_⟩ <;> decide +kernel

theorem histChunks_expand :
    expand2 histChunks = some [0x68, 0x69, 0x68, 0x69, 0x6a, 0x6b, 0x6a, 0x6b] ∧
    expand2 histChunks2 = some [0x61, 0x62, 0x10, 0xF3, 0x77, 0x61, 0x62, 0x10, 0x63] := by
  constructor <;> decide +kernel

/-- the theorem applied: the hand-made dirty object decodes `histChunks` (tail `[9]`) correctly -/
example : ∃ s' d', dirtyLit.decompress (Rd.ofBytes (encode2 histChunks ++ [0] ++ [9])) {} =
      (s', .ok (d', Rd.ofBytes [9])) ∧
    s'.out.toList = [0x68, 0x69, 0x68, 0x69, 0x6a, 0x6b, 0x6a, 0x6b] ∧ s'.lastFlush = true := by
  obtain ⟨out, s', d', h1, h2, h3, h4⟩ :=
    lzma2_history_independent dirtyLit dirtyLit_inv histChunks histChunks_hyps.1 histChunks_hyps.2.1
      [9] {} rfl
  rw [histChunks_expand.1] at h1
  cases h1
  exact ⟨s', d', h2, by rw [h3]; simp, h4⟩

/-- the oracle applied: the object left by decoding `otherChunks` decodes `histChunks2` correctly,
without `reset` -/
example : ∃ d1 s' d1', objectAfter (encode2 otherChunks ++ [0]) = some d1 ∧
    d1.lzmaState.props = ⟨1, 0, 2⟩ ∧
    d1.decompress (Rd.ofBytes (encode2 histChunks2 ++ [0] ++ [])) {} =
      (s', .ok (d1', Rd.ofBytes [])) ∧
    s'.out.toList = [0x61, 0x62, 0x10, 0xF3, 0x77, 0x61, 0x62, 0x10, 0x63] ∧ s'.lastFlush = true := by
  obtain ⟨d1, hobj, hr, -, hp, -⟩ := dirtyRun_exists
  obtain ⟨out, s', d1', dF, h1, h2, -, -, h3, h4, -⟩ :=
    lzma2_reused_object_decodes_like_fresh d1 hr histChunks2 histChunks_hyps.2.2.2.1
      histChunks_hyps.2.2.2.2.startsFresh [] {} rfl
  rw [histChunks_expand.2] at h1
  cases h1
  exact ⟨d1, s', d1', hobj, hp, h2, by rw [h3]; simp, h4⟩

/-! ## every hypothesis is needed -/

/-- did the call return `Ok`? -/
def isOk {α : Type} (r : Sink × Except Err α) : Bool :=
  match r.2 with
  | .ok _ => true
  | .error _ => false

theorem error_of_not_ok {α : Type} {r : Sink × Except Err α} (h : isOk r = false) :
    ∃ s e, r = (s, .error e) := by
  obtain ⟨s, x⟩ := r
  cases x with
  | error e => exact ⟨s, e, rfl⟩
  | ok a => cases h

/-- `Ok`, exactly `out` delivered, exactly `rest` unread -/
def deliversExactly (r : Sink × Except Err (Lzma2Decoder × Rd)) (out rest : Bytes) : Bool :=
  match r with
  | (s, .ok (_, rd)) => s.out.toList == out && rd.rem == rest
  | _ => false

/-- class 1 (state reset, OLD properties) as the first LZMA chunk -/
def class1Chunks : List SChunk := [.lzma 1 ⟨0, 0, 0⟩ [.lit 0x61, .lit 0x62, .lit 0x63, .mtch 3 4]]

/-- **`StartsFresh` cannot be weakened to "state reset" (class ≥ 1): `lzma_props` is not dead
then.**  `class1Chunks` is well-formed for lzma-rs (the fresh decoder has `lc = lp = pb = 0` and
delivers `"abcabca"`), but the dirty object — whose tables the state reset re-creates for ITS
properties `lc = 1, pb = 2` — fails. -/
theorem startsFresh_needed_class1 :
    WF2 class1Chunks ∧ ¬ StartsFresh class1Chunks ∧ dirtyLit.Inv ∧
    deliversExactly (Lzma2Decoder.init.decompress (Rd.ofBytes (encode2 class1Chunks ++ [0])) {})
      [0x61, 0x62, 0x63, 0x61, 0x62, 0x63, 0x61] [] = true ∧
    ∃ s e, dirtyLit.decompress (Rd.ofBytes (encode2 class1Chunks ++ [0])) {} = (s, .error e) := by
  rw [show encode2 class1Chunks = [160, 0, 6, 0, 8, 0, 48, 153, 171, 214, 237, 112, 215, 0] by
    decide +kernel]
  exact ⟨by decide +kernel, by decide +kernel, dirtyLit_inv, by decide +kernel,
    error_of_not_ok (by decide +kernel)⟩

/-- class 0 (nothing reset) as the first LZMA chunk -/
def class0Chunks : List SChunk := [.lzma 0 ⟨0, 0, 0⟩ [.lit 0x61, .lit 0x62, .lit 0x63, .mtch 3 4]]

/-- the same stream decoded twice by one object: is the first call `Ok` (everything read) and
the second one not? -/
def secondCallFails (bytes : Bytes) : Bool :=
  match Lzma2Decoder.init.decompress (Rd.ofBytes bytes) {} with
  | (_, .ok (d1, rd)) => rd.rem == [] && !isOk (d1.decompress (Rd.ofBytes bytes) {})
  | _ => false

/-- **`StartsFresh` is needed: probabilities, `state` and `rep`s are not dead under class 0.**
`class0Chunks` is well-formed for lzma-rs; the fresh object decodes it — and the SAME object,
with the properties unchanged, fails on the SAME bytes the second time (adapted probabilities,
`state = 7`). -/
theorem startsFresh_needed_class0 :
    WF2 class0Chunks ∧ ¬ StartsFresh class0Chunks ∧
    ∃ s1 d1 rd1, Lzma2Decoder.init.decompress (Rd.ofBytes (encode2 class0Chunks ++ [0])) {} =
        (s1, .ok (d1, rd1)) ∧ C14.Lzma2Reachable d1 ∧
      ∃ s e, d1.decompress (Rd.ofBytes (encode2 class0Chunks ++ [0])) {} = (s, .error e) := by
  refine ⟨by decide +kernel, by decide +kernel, ?_⟩
  rw [show encode2 class0Chunks = [128, 0, 6, 0, 8, 0, 48, 153, 171, 214, 237, 112, 215, 0] by
    decide +kernel]
  have h : secondCallFails ([128, 0, 6, 0, 8, 0, 48, 153, 171, 214, 237, 112, 215, 0] ++ [0]) = true := by
    decide +kernel
  unfold secondCallFails at h
  split at h
  · rename_i s1 d1 rd1 heq
    simp only [Bool.and_eq_true, Bool.not_eq_true'] at h
    exact ⟨s1, d1, rd1, heq, .decompress (.new Lzma2Decoder.new_eq) heq, error_of_not_ok h.2⟩
  · cases h

theorem histChunks2_bytes : encode2 histChunks2 =
    [224, 0, 4, 0, 9, 0, 0, 48, 153, 158, 21, 81, 26, 207, 95, 0, 128, 0, 3, 0, 6, 0, 150, 97, 224, 2,
     248, 123] := by decide +kernel

/-- the fresh object, but with one stray byte staged in `partial_input_buf` -/
def stagedByte : Lzma2Decoder :=
  { lzmaState := { Lzma2Decoder.init.lzmaState with partialBuf := [0xFF] } }

/-- **`partial_input_buf = []` is needed (it is NOT dead):** `reset_state` keeps it and
`process_mode` consumes it before the chunk's payload.  Table sizes intact, stream starting
with a full reset — and the decode fails.  (Unreachable through the `Lzma2Decoder` API.) -/
theorem partialBuf_needed :
    stagedByte.lzmaState.WF ∧ WF2 histChunks2 ∧ StartsFreshStrict histChunks2 ∧
    ∃ s e, stagedByte.decompress (Rd.ofBytes (encode2 histChunks2 ++ [0])) {} = (s, .error e) :=
  ⟨DState.fresh_WF _ _ _, histChunks_hyps.2.2.2.1, histChunks_hyps.2.2.2.2,
    error_of_not_ok (by rw [histChunks2_bytes]; decide +kernel)⟩

/-- the fresh object, but with an EMPTY literal table (still claiming 1 row) -/
def shortTable : Lzma2Decoder :=
  { lzmaState := { Lzma2Decoder.init.lzmaState with probs := { Probs.init 1 with lit := #[] } } }

/-- **the table sizes are needed:** when `lc + lp` does not change, `reset_state` refills the
literal table in place, so a wrong size survives a full reset; the model then reports the
panic "index out of bounds".  (Unreachable in Rust: `Vec2D` is only ever built with
`1 << (lc + lp)` rows.) -/
theorem tableSizes_needed :
    shortTable.lzmaState.partialBuf = [] ∧ WF2 histChunks2 ∧ StartsFreshStrict histChunks2 ∧
    ∃ s, shortTable.decompress (Rd.ofBytes (encode2 histChunks2 ++ [0])) {} =
      (s, .error (.panic "index out of bounds")) := by
  refine ⟨rfl, histChunks_hyps.2.2.2.1, histChunks_hyps.2.2.2.2, ?_⟩
  rw [histChunks2_bytes]
  generalize hr : shortTable.decompress _ {} = r
  have h : (match r.2 with
      | .error e => e == .panic "index out of bounds"
      | .ok _ => false) = true := by rw [← hr]; decide +kernel
  clear hr
  revert h
  obtain ⟨s, x⟩ := r
  cases x with
  | ok a => intro h; cases h
  | error e =>
    intro h
    have : e = .panic "index out of bounds" := by simpa using h
    exact ⟨s, by rw [this]⟩

end Lzma.C02
