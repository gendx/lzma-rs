/-
  C08 – LZMA size and end-of-stream rules hold for every option combination
  (and the header part of C01: `header_spec`, `dict_below_4096_behaves_as_4096`).

  All statements are about the model functions `readHeader`, `lzmaDecompress`,
  `DState.processMode`, `DState.applySym`, `Stream.finish`; every reader, every
  option combination, every memlimit.  Sinks are ARBITRARY (scripted, possibly
  failing) unless a theorem says `snk.script = []` (perfect sink).
-/
import LzmaProofs.Lemmas.Header
import LzmaProofs.Lemmas.ProcessMode
import LzmaProofs.Lemmas.Window
namespace Lzma.C08
open DState

/-- complete functional description of `LzmaParams::read_header`.
* no byte ⇒ `HeaderTooShort`;
* first byte `b ≥ 225` ⇒ `LzmaError` (whatever follows);
* fewer than `hdrLen` (13 / 13 / 5) bytes ⇒ `HeaderTooShort`;
* otherwise `lc = b % 9`, `lp = b / 9 % 5`, `pb = b / 45`, `dictSize = max (LE bytes 1..4) 4096`,
  size in effect `effSize` and the reader advanced by exactly `hdrLen` bytes. -/
theorem header_spec (rd : Rd) (opts : Options) :
    readHeader rd opts =
      match rd.rem with
      | [] => .error .headerTooShort
      | b :: rest =>
        if b.toNat ≥ 225 then .error .lzma
        else if rest.length + 1 < hdrLen opts.unpackedSize then .error .headerTooShort
        else .ok ({ props := { lc := b.toNat % 9, lp := b.toNat / 9 % 5, pb := b.toNat / 45 }
                    dictSize := max (leVal (rest.take 4)) 4096
                    unpackedSize := effSize opts.unpackedSize (leVal ((rest.drop 4).take 8)) },
                  { rd with rem := rd.rem.drop (hdrLen opts.unpackedSize) }) :=
  readHeader_eq rd opts

/-- (a) `HeaderTooShort` iff the needed reads fail: no byte at all, or a valid properties byte
followed by fewer than 12 (resp. 4) further bytes -/
theorem header_too_short_iff (rd : Rd) (opts : Options) :
    readHeader rd opts = .error .headerTooShort ↔
      rd.rem = [] ∨
      (∃ b rest, rd.rem = b :: rest ∧ b.toNat < 225 ∧ rd.rem.length < hdrLen opts.unpackedSize) :=
  readHeader_error_iff.trans
    ⟨fun h => h.elim (·.2) (fun h => nomatch h.1), fun h => .inl ⟨rfl, h⟩⟩

/-- (b) `LzmaError` iff there is a first byte and it is `≥ 225` -/
theorem header_lzma_iff (rd : Rd) (opts : Options) :
    readHeader rd opts = .error .lzma ↔ ∃ b rest, rd.rem = b :: rest ∧ b.toNat ≥ 225 :=
  readHeader_error_iff.trans
    ⟨fun h => h.elim (fun h => nomatch h.1) (·.2), fun h => .inr ⟨rfl, h⟩⟩

/-- the header never fails in any other way (in particular it never panics) -/
theorem header_errors (rd : Rd) (opts : Options) (e : Err) (h : readHeader rd opts = .error e) :
    e = .headerTooShort ∨ e = .lzma :=
  (readHeader_error_iff.1 h).elim (fun h => .inl h.1) (fun h => .inr h.1)

/-- (c) on success: the parameter ranges, the dictionary floor and the exact consumption -/
theorem header_ok_spec {rd rd' : Rd} {opts : Options} {p : LzmaParams}
    (h : readHeader rd opts = .ok (p, rd')) :
    ∃ b rest, rd.rem = b :: rest ∧ b.toNat < 225 ∧ hdrLen opts.unpackedSize ≤ rd.rem.length ∧
      p.props.lc = b.toNat % 9 ∧ p.props.lp = b.toNat / 9 % 5 ∧ p.props.pb = b.toNat / 45 ∧
      p.props.lc ≤ 8 ∧ p.props.lp ≤ 4 ∧ p.props.pb ≤ 4 ∧
      p.dictSize = max (leVal (rest.take 4)) 4096 ∧ 4096 ≤ p.dictSize ∧
      p.unpackedSize = effSize opts.unpackedSize (leVal ((rest.drop 4).take 8)) ∧
      rd' = { rd with rem := rd.rem.drop (hdrLen opts.unpackedSize) } := by
  obtain ⟨b, rest, h0, hb, hl, rfl, rfl⟩ := readHeader_ok_iff.1 h
  refine ⟨b, rest, h0, hb, hl, rfl, rfl, rfl, ?_, ?_, ?_, rfl, ?_, rfl, rfl⟩
  all_goals simp only [hdrParams]; omega

/-- `ReadFromHeader`, `ReadHeaderButUseProvided _` and `UseProvided _`
consume exactly 13, 13 and 5 bytes -/
theorem header_bytes_consumed {rd rd' : Rd} {opts : Options} {p : LzmaParams}
    (h : readHeader rd opts = .ok (p, rd')) :
    rd.rem.length = rd'.rem.length +
      (match opts.unpackedSize with
        | .readFromHeader => 13
        | .readHeaderButUseProvided _ => 13
        | .useProvided _ => 5) ∧
    rd'.rem = rd.rem.drop (rd.rem.length - rd'.rem.length) ∧ rd'.bad = rd.bad := by
  obtain ⟨b, rest, -, -, hlen, -, -, -, -, -, -, -, -, -, rfl⟩ := header_ok_spec h
  have : hdrLen opts.unpackedSize = (match opts.unpackedSize with
        | .readFromHeader => 13
        | .readHeaderButUseProvided _ => 13
        | .useProvided _ => 5) := by cases opts.unpackedSize <;> rfl
  rw [← this]
  simp only [List.length_drop]
  refine ⟨by omega, ?_, trivial⟩
  congr 1; omega

/-- the size in effect: header field (all ones ⇒ none) / provided / provided -/
theorem header_size_in_effect {rd rd' : Rd} {opts : Options} {p : LzmaParams}
    (h : readHeader rd opts = .ok (p, rd')) :
    match opts.unpackedSize with
    | .readFromHeader =>
      p.unpackedSize = (if leVal ((rd.rem.drop 5).take 8) = 0xFFFFFFFFFFFFFFFF then none
                        else some (leVal ((rd.rem.drop 5).take 8)))
    | .readHeaderButUseProvided x => p.unpackedSize = x
    | .useProvided x => p.unpackedSize = x := by
  obtain ⟨b, rest, hrem, -, -, -, -, -, -, -, -, -, -, hu, -⟩ := header_ok_spec h
  rw [hu, hrem]
  cases opts.unpackedSize <;> simp [effSize]

/-- all-ones size field ⇔ no size in effect (`ReadFromHeader`) -/
theorem header_size_none_iff_all_ff {rd rd' : Rd} {opts : Options} {p : LzmaParams}
    (h : readHeader rd opts = .ok (p, rd')) (ho : opts.unpackedSize = .readFromHeader) :
    p.unpackedSize = none ↔ leVal ((rd.rem.drop 5).take 8) = 0xFFFFFFFFFFFFFFFF := by
  have := header_size_in_effect h
  rw [ho] at this
  simp only at this
  rw [this]
  split <;> simp [*]

/-- with a provided size the 8 size bytes of the header are
irrelevant (read and ignored, resp. not read at all): the parameters do not depend on them -/
theorem provided_overrides_header (b : UInt8) (d f1 f2 tail : Bytes) (bad : Bool) (x : Option Nat)
    (ml : Option Nat) (ai : Bool) (hd : d.length = 4) (h1 : f1.length = 8) (h2 : f2.length = 8) :
    readHeader ⟨b :: d ++ f1 ++ tail, bad⟩ ⟨.readHeaderButUseProvided x, ml, ai⟩ =
      readHeader ⟨b :: d ++ f2 ++ tail, bad⟩ ⟨.readHeaderButUseProvided x, ml, ai⟩ ∧
    ∀ p rd', readHeader ⟨b :: d ++ f1 ++ tail, bad⟩ ⟨.readHeaderButUseProvided x, ml, ai⟩ = .ok (p, rd') →
      p.unpackedSize = x ∧ rd'.rem = tail := by
  simp only [List.append_assoc]
  rw [readHeader_cons_append b d (f1 ++ tail) bad _ hd, readHeader_cons_append b d (f2 ++ tail) bad _ hd]
  simp only [hdrLen, effSize, List.length_append, h1, h2, List.drop_left' h1, List.drop_left' h2,
    true_and]
  intro p rd' h
  split at h
  · cases h
  · split at h <;> cases h
    exact ⟨rfl, rfl⟩

/-- two headers that differ only in the dictionary field,
one `< 4096` (or `= 4096`), the other `= 4096`, give identical results (parameters and reader) -/
theorem dict_below_4096_behaves_as_4096 (b : UInt8) (d1 d2 tail : Bytes) (bad : Bool)
    (opts : Options) (h1 : d1.length = 4) (h2 : d2.length = 4)
    (hv1 : leVal d1 ≤ 4096) (hv2 : leVal d2 = 4096) :
    readHeader ⟨b :: d1 ++ tail, bad⟩ opts = readHeader ⟨b :: d2 ++ tail, bad⟩ opts := by
  rw [readHeader_cons_append b d1 tail bad opts h1, readHeader_cons_append b d2 tail bad opts h2,
    hv2, Nat.max_eq_right hv1, Nat.max_self]

example : readHeader ⟨0x5d :: [1, 0, 0, 0] ++ [9, 9], false⟩ {} =
    readHeader ⟨0x5d :: [0, 0x10, 0, 0] ++ [9, 9], false⟩ {} :=
  dict_below_4096_behaves_as_4096 _ _ _ _ _ _ rfl rfl (by decide) (by decide)

/-- … and therefore the whole decompression is identical -/
theorem dict_below_4096_decompress_same (b : UInt8) (d1 d2 tail : Bytes) (bad : Bool)
    (opts : Options) (h1 : d1.length = 4) (h2 : d2.length = 4)
    (hv1 : leVal d1 ≤ 4096) (hv2 : leVal d2 = 4096) (snk : Sink) :
    lzmaDecompress ⟨b :: d1 ++ tail, bad⟩ opts snk = lzmaDecompress ⟨b :: d2 ++ tail, bad⟩ opts snk := by
  rw [lzmaDecompress_congr (dict_below_4096_behaves_as_4096 b d1 d2 tail bad opts h1 h2 hv1 hv2) rfl]

/-- after a successful header the decoder is always constructed: no zero dictionary, and
`LzmaProperties::validate` cannot panic -/
theorem decoder_new_ok_after_header {rd rd' : Rd} {opts : Options} {p : LzmaParams}
    (h : readHeader rd opts = .ok (p, rd')) (ml : Option Nat) :
    ∃ dec, LzmaDecoder.new p ml = .ok dec := by
  obtain ⟨b, rest, -, -, -, -, -, -, h1, h2, h3, -, hd, -, -⟩ := header_ok_spec h
  refine ⟨_, LzmaDecoder.new_ok_iff.2 ⟨by omega, ?_, rfl⟩⟩
  simp [Props.validate, h1, h2, h3]
  rfl

/-! Non-vacuity of the header theorems: one concrete header per option form. -/

example : readHeader (Rd.ofBytes ([0x5d, 0, 0, 0x80, 0] ++ leBytes 8 5 ++ [7, 7])) {} =
    .ok ({ props := ⟨3, 0, 2⟩, dictSize := 0x800000, unpackedSize := some 5 }, Rd.ofBytes [7, 7]) := by
  rfl
example : readHeader (Rd.ofBytes ([0x5d, 0, 0, 0x80, 0] ++ leBytes 8 0xFFFFFFFFFFFFFFFF ++ [7])) {} =
    .ok ({ props := ⟨3, 0, 2⟩, dictSize := 0x800000, unpackedSize := none }, Rd.ofBytes [7]) := by
  rfl
example : readHeader (Rd.ofBytes ([0x5d, 0, 0, 0x80, 0] ++ leBytes 8 5 ++ [7]))
      { unpackedSize := .readHeaderButUseProvided (some 9) } =
    .ok ({ props := ⟨3, 0, 2⟩, dictSize := 0x800000, unpackedSize := some 9 }, Rd.ofBytes [7]) := by
  rfl
example : readHeader (Rd.ofBytes ([0x5d, 1, 0, 0, 0] ++ [7, 8])) { unpackedSize := .useProvided none } =
    .ok ({ props := ⟨3, 0, 2⟩, dictSize := 4096, unpackedSize := none }, Rd.ofBytes [7, 8]) := by
  rfl
example : readHeader (Rd.ofBytes [225, 0, 0]) {} = .error .lzma := by rfl
example : readHeader (Rd.ofBytes [224, 0, 0, 0, 0, 0, 0, 0, 0, 0, 0, 0]) {} = .error .headerTooShort := by
  rfl
example : readHeader (Rd.ofBytes [224, 0, 0, 0, 0]) { unpackedSize := .useProvided (some 3) } =
    .ok ({ props := ⟨8, 4, 4⟩, dictSize := 4096, unpackedSize := some 3 }, Rd.ofBytes []) := by
  rfl

section generic
variable {ω : Type} [LzBuf ω]

/-- the loop never changes `unpacked_size` nor the properties -/
theorem loop_keeps_size {mode : Mode} {fuel : Nat} {s : DState} {w : ω} {rc : RC}
    {rd : Rd} {snk snk' : Sink} {s' : DState} {w' : ω} {rc' : RC} {rd' : Rd}
    (h : processLoop mode fuel s w rc rd snk = (snk', .ok (s', w', rc', rd'))) :
    s'.unpackedSize = s.unpackedSize ∧ s'.props = s.props :=
  processLoop_fields fuel h

/-- loop level of `size_in_effect_exact`: Finish mode with size `n` in effect succeeds only with
exactly `n` bytes in the window (any staged `partial_input_buf`, any sink, any window type) -/
theorem finish_size_exact {s : DState} {w : ω} {rc : RC} {rd : Rd}
    {snk snk' : Sink} {s' : DState} {w' : ω} {rc' : RC} {rd' : Rd} {n : Nat}
    (h : processMode .finish s w rc rd snk = (snk', .ok (s', w', rc', rd')))
    (hn : s.unpackedSize = some n) : LzBuf.len w' = n :=
  processMode_finish_size h hn

/-- … and the only way out of the loop was the size test: the end marker, if any, is NOT consumed
when a size is in effect -/
theorem finish_size_exit {c : Cfg ω} {snk' : Sink} {s' : DState} {w' : ω} {rc' : RC} {rd' : Rd} {n : Nat}
    (hp : c.s.partialBuf = [])
    (h : processMode .finish c.s c.w c.rc c.rd c.snk = (snk', .ok (s', w', rc', rd')))
    (hn : c.s.unpackedSize = some n) :
    ∃ k, FinishRun c k .sizeReached ⟨s', w', rc', rd', snk'⟩ ∧ LzBuf.len w' = n := by
  obtain ⟨k, e, hr, hsz⟩ := processMode_finish_run hp h
  have hlen := hsz n hn
  have := hr.exit_of_size hn hlen
  subst this
  exact ⟨k, hr, hlen⟩

/-- contrapositive of `finish_size_exact`: if after `k` full
iterations the window is still short of `n` and decoding the next symbol fails — in particular
when `read_u8` hits the end of the input (`e = .eof`/`.io`) — then `process_mode` does not succeed -/
theorem input_exhausted_is_error {c c1 : Cfg ω} {k n : Nat} {e : Err} (hp : c.s.partialBuf = [])
    (hs : FinishSteps c k c1) (hn : c.s.unpackedSize = some n) (hlt : LzBuf.len c1.w < n)
    (hfail : runDec true (symTree (c1.s.mkCtx c1.w)) c1.s.probs c1.rc c1.rd = .error e)
    (snk' : Sink) (r : DState × ω × RC × Rd) :
    processMode .finish c.s c.w c.rc c.rd c.snk ≠ (snk', .ok r) := by
  refine hs.processMode_ne_ok hp hn (fun hr => ?_) snk' r
  rcases hr.head with ⟨-, rfl⟩ | ⟨_, _, _, _, _, _, -, hnx, -⟩
  · omega
  · obtain ⟨_, _, h1, -⟩ := processNext_ok_iff.1 hnx
    rw [hfail] at h1; cases h1

/-- the same with the exact result: given enough fuel the loop returns that very error (or the
I/O error of `fill_buf`) and has not touched the sink since -/
theorem input_exhausted_loop_error {c c1 : Cfg ω} {k n : Nat} {e : Err} (hp : c.s.partialBuf = [])
    (hs : FinishSteps c k c1) (hn : c.s.unpackedSize = some n) (hlt : LzBuf.len c1.w < n)
    (hfail : runDec true (symTree (c1.s.mkCtx c1.w)) c1.s.probs c1.rc c1.rd = .error e) (fuel : Nat) :
    processLoop .finish (fuel + 1 + k) c.s c.w c.rc c.rd c.snk =
      (c1.snk, .error (if c1.rd.rem.isEmpty && c1.rd.bad then .io else e)) := by
  rw [hs.loop_eq hp, processLoop_finish_succ (hs.partialBuf hp)]
  have hn1 : c1.s.unpackedSize = some n := hs.fields.1.trans hn
  have : ¬ n ≤ LzBuf.len c1.w := by omega
  simp only [bind_run, stopTest_some hn1, this, decide_false, liftE_ok, Bool.false_eq_true, if_false,
    Rd.fillBuf]
  by_cases hb : (c1.rd.rem.isEmpty && c1.rd.bad) = true
  · simp [hb]
  · simp [hb, processNext, bind_run, hfail]

/-- symbol level of `marker_before_size_is_error`: the end marker never extends the window; it
yields `Finished` (iff `is_finished_ok`), `LzmaError`, or the reader's I/O error -/
theorem marker_sym_result (s : DState) (w : ω) (rc : RC) (rd : Rd) (l : Nat) (snk : Sink) :
    applySym s w rc rd (.mtch l 0xFFFFFFFF) snk =
      (snk, match rc.isFinishedOk rd with
        | .ok true => .ok (.finished, markerState s, w)
        | .ok false => .error .lzma
        | .error e => .error e) :=
  applySym_marker s w rc rd l snk

/-- if after `k` full iterations the window is still short of `n`
and the next symbol is the end marker (`process_next` returns `Finished`), `process_mode` does
not succeed … -/
theorem marker_before_size_is_error {c c1 : Cfg ω} {k n : Nat} (hp : c.s.partialBuf = [])
    (hs : FinishSteps c k c1) (hn : c.s.unpackedSize = some n) (hlt : LzBuf.len c1.w < n)
    {snk1 : Sink} {s1 : DState} {w1 : ω} {rc1 : RC} {rd1 : Rd}
    (hm : processNext c1.s c1.w c1.rc c1.rd c1.snk = (snk1, .ok (.finished, s1, w1, rc1, rd1)))
    (snk' : Sink) (r : DState × ω × RC × Rd) :
    processMode .finish c.s c.w c.rc c.rd c.snk ≠ (snk', .ok r) := by
  refine hs.processMode_ne_ok hp hn (fun hr => ?_) snk' r
  rcases hr.head with ⟨-, rfl⟩ | ⟨_, _, _, _, _, _, -, hnx, hfin⟩
  · omega
  · rw [hm] at hnx; cases hnx
    obtain ⟨_, _, -, -, -, rfl, -⟩ := processNext_finished_iff.1 hm
    rw [hfin rfl]; exact Nat.ne_of_lt hlt

/-- … precisely: the loop stops there with the window unchanged, and the final check
`unpacked_size != output.len()` of `process_mode` is what turns it into `LzmaError` -/
theorem marker_before_size_loop_exit {c c1 : Cfg ω} {k n : Nat} (hp : c.s.partialBuf = [])
    (hs : FinishSteps c k c1) (hn : c.s.unpackedSize = some n) (hlt : LzBuf.len c1.w < n)
    (hfill : c1.rd.fillBuf = .ok ())
    {snk1 : Sink} {s1 : DState} {w1 : ω} {rc1 : RC} {rd1 : Rd}
    (hm : processNext c1.s c1.w c1.rc c1.rd c1.snk = (snk1, .ok (.finished, s1, w1, rc1, rd1)))
    (fuel : Nat) :
    processLoop .finish (fuel + 2 + k) c.s c.w c.rc c.rd c.snk = (snk1, .ok (s1, c1.w, rc1, rd1)) ∧
      LzBuf.len c1.w ≠ n := by
  have hn1 : c1.s.unpackedSize = some n := hs.fields.1.trans hn
  obtain ⟨_, _, -, -, -, hw1, -⟩ := processNext_finished_iff.1 hm
  have hstop : stopTest .finish c1.s c1.w c1.rc c1.rd = .ok false := by
    rw [stopTest_some hn1]; congr 1; exact decide_eq_false (by omega)
  have hr := hs.append_run (FinishRun.marker hstop hfill hm)
  have := hr.loop_ok hp (fuel + 2 + k) (by omega)
  rw [hw1] at this
  exact ⟨this, by omega⟩

/-- the final check of `process_mode` (Finish): a loop that ends with `len ≠ n` is `LzmaError` -/
theorem size_mismatch_is_lzma_error {s : DState} {w : ω} {rc : RC} {rd : Rd}
    {snk snk' : Sink} {s' : DState} {w' : ω} {rc' : RC} {rd' : Rd} {n : Nat}
    (hl : processLoop .finish (loopFuel s rd) s w rc rd snk = (snk', .ok (s', w', rc', rd')))
    (hn : s.unpackedSize = some n) (hne : LzBuf.len w' ≠ n) :
    processMode .finish s w rc rd snk = (snk', .error .lzma) :=
  processMode_size_mismatch hl hn hne

/-- if after `k` full iterations (the last one e.g. a copy passing `n`) the
window is longer than `n`, `process_mode` does not succeed: the loop exits at its next test
(`len ≥ n`) and then `n ≠ len` -/
theorem overshoot_is_error {c c2 : Cfg ω} {k n : Nat} (hp : c.s.partialBuf = [])
    (hs : FinishSteps c k c2) (hn : c.s.unpackedSize = some n) (hgt : n < LzBuf.len c2.w)
    (snk' : Sink) (r : DState × ω × RC × Rd) :
    processMode .finish c.s c.w c.rc c.rd c.snk ≠ (snk', .ok r) := by
  refine hs.processMode_ne_ok hp hn (fun hr => ?_) snk' r
  rcases hr.head with ⟨-, rfl⟩ | ⟨_, _, _, _, _, _, hstop, -, -⟩
  · omega
  · rw [stopTest_some (hs.fields.1.trans hn), decide_eq_true (by omega)] at hstop
    cases hstop

/-- … precisely: the loop exits right there, successfully, with `len > n` -/
theorem overshoot_loop_exit {c c2 : Cfg ω} {k n : Nat} (hp : c.s.partialBuf = [])
    (hs : FinishSteps c k c2) (hn : c.s.unpackedSize = some n) (hgt : n < LzBuf.len c2.w)
    (fuel : Nat) :
    processLoop .finish (fuel + 1 + k) c.s c.w c.rc c.rd c.snk = (c2.snk, .ok (c2.s, c2.w, c2.rc, c2.rd)) ∧
      LzBuf.len c2.w ≠ n := by
  have hn2 : c2.s.unpackedSize = some n := hs.fields.1.trans hn
  have hr := hs.append_run (FinishRun.sizeReached hn2 (by omega : n ≤ LzBuf.len c2.w))
  exact ⟨hr.loop_ok hp (fuel + 1 + k) (by omega), by omega⟩

/-- "any byte after the marker is an error": when the end marker is
decoded while the reader still has bytes, or `code ≠ 0`, the result is `LzmaError`
(size in effect or not, any sink, any window) -/
theorem marker_then_bytes_errs (s : DState) (w : ω) (rc : RC) (rd : Rd) (l : Nat) (snk : Sink)
    (h : rd.rem ≠ [] ∨ rc.code ≠ 0) :
    applySym s w rc rd (.mtch l 0xFFFFFFFF) snk = (snk, .error .lzma) := by
  rw [applySym_marker, isFinishedOk_eq, Rd.isEof]
  rcases h with h | h <;> simp [h]

/-- the same for a whole `process_next`: if the symbol decoded is the end marker and after its
last bit the reader still has bytes or `code ≠ 0`, `process_next` fails with `LzmaError`,
sink untouched -/
theorem marker_then_bytes_errs_next (s : DState) (w : ω) (rc : RC) (rd : Rd) (snk : Sink)
    {l : Nat} {probs : Probs} {rc' : RC} {rd' : Rd}
    (hdec : runDec true (symTree (s.mkCtx w)) s.probs rc rd = .ok (.mtch l 0xFFFFFFFF, probs, rc', rd'))
    (h : rd'.rem ≠ [] ∨ rc'.code ≠ 0) :
    processNext s w rc rd snk = (snk, .error .lzma) := by
  simp only [processNext, bind_run, hdec, liftE_ok]
  rw [marker_then_bytes_errs _ w rc' rd' l snk h]

end generic

/-- The decoding stage of `lzmaDecompress rd opts` on sink `snk`: the header is parsed, decoder and
range coder are set up, and from there the Finish-mode loop makes `k` calls of `process_next`
and leaves successfully by exit `e` in configuration `c'`. -/
def LzmaRun (rd : Rd) (opts : Options) (snk : Sink) (k : Nat) (e : Exit) (c' : Cfg Circ) : Prop :=
  ∃ params rd1 dec rc rd2,
    readHeader rd opts = .ok (params, rd1) ∧
    LzmaDecoder.new params opts.memlimit = .ok dec ∧
    RC.new rd1 = .ok (rc, rd2) ∧
    FinishRun ⟨dec.state, Circ.fromStream params.dictSize (opts.memlimit.getD USIZE_MAX), rc, rd2, snk⟩
      k e c'

/-- the end marker was decoded (and accepted) -/
def MarkerSeen (rd : Rd) (opts : Options) (snk : Sink) : Prop := ∃ k c', LzmaRun rd opts snk k .marker c'

/-- the loop was left by the top-of-loop test `is_finished_ok` with no size in effect (K1):
all input consumed, `code = 0`, at a symbol boundary, after `k` symbols, none of them the marker -/
def CleanEofExit (rd : Rd) (opts : Options) (snk : Sink) : Prop := ∃ k c', LzmaRun rd opts snk k .cleanEof c'

/-- the run of a given call is unique -/
theorem LzmaRun.unique {rd : Rd} {opts : Options} {snk : Sink} {k1 k2 : Nat} {e1 e2 : Exit}
    {c1 c2 : Cfg Circ} (h1 : LzmaRun rd opts snk k1 e1 c1) (h2 : LzmaRun rd opts snk k2 e2 c2) :
    k1 = k2 ∧ e1 = e2 ∧ c1 = c2 := by
  obtain ⟨p, r1, d, rc, r2, a1, a2, a3, a4⟩ := h1
  obtain ⟨p', r1', d', rc', r2', b1, b2, b3, b4⟩ := h2
  rw [a1] at b1; cases b1
  rw [a2] at b2; cases b2
  rw [a3] at b3; cases b3
  exact a4.unique b4 (LzmaDecoder.new_ok a2).2.2.1

/-- where the loop of a run starts: nothing staged, the header's size in effect, a fresh window of
the header's dictionary size, the caller's sink -/
theorem LzmaRun.start {rd : Rd} {opts : Options} {snk : Sink} {k : Nat} {e : Exit} {c' : Cfg Circ}
    (h : LzmaRun rd opts snk k e c') :
    ∃ params rd1 c0, readHeader rd opts = .ok (params, rd1) ∧ FinishRun c0 k e c' ∧
      c0.s.partialBuf = [] ∧ c0.s.unpackedSize = params.unpackedSize ∧
      c0.w = Circ.fromStream params.dictSize (opts.memlimit.getD USIZE_MAX) ∧ c0.snk = snk := by
  obtain ⟨p, r1, d, rc, r2, a1, a2, a3, a4⟩ := h
  obtain ⟨-, -, hp, hu, -⟩ := LzmaDecoder.new_ok a2
  exact ⟨p, r1, _, a1, a4, hp, hu, rfl, rfl⟩

/-- every successful call has a run; `Circ.finish` on its final window produced the final sink -/
theorem lzmaDecompress_run {rd : Rd} {opts : Options} {snk snk' : Sink} {rd' : Rd}
    (h : lzmaDecompress rd opts snk = (snk', .ok rd')) :
    ∃ k e c', LzmaRun rd opts snk k e c' ∧ c'.rd = rd' ∧ c'.w.finish c'.snk = (snk', .ok ()) ∧
      ∀ params rd1, readHeader rd opts = .ok (params, rd1) →
        ∀ n, params.unpackedSize = some n → c'.w.len = n := by
  obtain ⟨params, rd1, dec, rc, rd2, s', w', rc', snk1, hh, hd, hrc, hpm, hfin⟩ :=
    lzmaDecompress_ok_iff.1 h
  obtain ⟨-, -, hp, hu, -⟩ := LzmaDecoder.new_ok hd
  obtain ⟨k, e, hr, hsz⟩ := processMode_finish_run
    (c := ⟨dec.state, Circ.fromStream params.dictSize (opts.memlimit.getD USIZE_MAX), rc, rd2, snk⟩) hp hpm
  refine ⟨k, e, _, ⟨params, rd1, dec, rc, rd2, hh, hd, hrc, hr⟩, rfl, hfin, ?_⟩
  intro params' rd1' hh' n hn
  rw [hh] at hh'; cases hh'
  exact hsz n (hu.trans hn)

/-- the core of C08 (arbitrary sink, every memlimit, every option form): if the
size in effect is `some n` and `lzma_decompress` succeeds, the decoder left its loop through the
size test with exactly `n` bytes in the window (`len = n`), and that window was `finish`ed -/
theorem size_in_effect_exact {rd : Rd} {opts : Options} {snk snk' : Sink} {rd' : Rd}
    {params : LzmaParams} {rd1 : Rd} {n : Nat}
    (h : lzmaDecompress rd opts snk = (snk', .ok rd'))
    (hh : readHeader rd opts = .ok (params, rd1)) (hn : params.unpackedSize = some n) :
    ∃ k c', LzmaRun rd opts snk k .sizeReached c' ∧ c'.w.len = n ∧ c'.rd = rd' ∧
      c'.w.finish c'.snk = (snk', .ok ()) := by
  obtain ⟨k, e, c', hrun, hrd, hfin, hsz⟩ := lzmaDecompress_run h
  have hlen := hsz params rd1 hh n hn
  obtain ⟨p, r1, c0, a1, a4, -, hu, -⟩ := hrun.start
  rw [hh] at a1; cases a1
  cases a4.exit_of_size (hu.trans hn) hlen
  exact ⟨k, c', hrun, hlen, hrd, hfin⟩

/-- for the runs of `lzma_decompress`: on a perfect sink (`script = []`:
every write is accepted in full) the circular window has delivered, once `finish`ed, exactly
`len` bytes: the history the window represents (`StreamEq.HistGe`) has length `len`. -/
theorem circ_len_counts_output {rd : Rd} {opts : Options} {snk snk' : Sink} {k : Nat} {e : Exit}
    {c' : Cfg Circ} (hperfect : snk.script = []) (hrun : LzmaRun rd opts snk k e c')
    (hfin : c'.w.finish c'.snk = (snk', .ok ())) :
    snk'.out.size = snk.out.size + c'.w.len ∧ snk'.script = [] := by
  obtain ⟨p, r1, c0, a1, a4, -, -, hw, rfl⟩ := hrun.start
  obtain ⟨b, rest, -, -, -, -, -, -, -, -, -, -, hdict, -, -⟩ := header_ok_spec a1
  have h0 := StreamEq.histInv_init (d := p.dictSize) (m := opts.memlimit.getD USIZE_MAX) (by omega)
    hperfect
  rw [← hw] at h0
  obtain ⟨H, -, hci, hs, hout⟩ := a4.inv (I := StreamEq.HistGe c0.snk.out []) StreamEq.histGe_lit
    StreamEq.histGe_lz ⟨[], List.prefix_refl _, h0⟩
  obtain ⟨s', hf, hp, ho, -⟩ := Circ.finish_spec (s0 := { out := c0.snk.out }) hci hs hout
  rw [hfin] at hf
  cases hf
  exact ⟨by rw [ho, hci.len_eq]; simp, hp⟩

/-- byte-count form of `size_in_effect_exact` (perfect sink): exactly `n` bytes were delivered -/
theorem size_in_effect_exact_bytes {rd : Rd} {opts : Options} {snk snk' : Sink} {rd' : Rd}
    {params : LzmaParams} {rd1 : Rd} {n : Nat} (hperfect : snk.script = [])
    (h : lzmaDecompress rd opts snk = (snk', .ok rd'))
    (hh : readHeader rd opts = .ok (params, rd1)) (hn : params.unpackedSize = some n) :
    snk'.out.size = snk.out.size + n := by
  obtain ⟨k, c', hrun, hlen, -, hfin⟩ := size_in_effect_exact h hh hn
  rw [← hlen]
  exact (circ_len_counts_output hperfect hrun hfin).1

/-- with a size in effect the end marker is never consumed: a successful call never saw it -/
theorem size_in_effect_no_marker {rd : Rd} {opts : Options} {snk snk' : Sink} {rd' : Rd}
    {params : LzmaParams} {rd1 : Rd} {n : Nat}
    (h : lzmaDecompress rd opts snk = (snk', .ok rd'))
    (hh : readHeader rd opts = .ok (params, rd1)) (hn : params.unpackedSize = some n) :
    ¬ MarkerSeen rd opts snk := by
  rintro ⟨k2, c2, h2⟩
  obtain ⟨k, c', hrun, -⟩ := size_in_effect_exact h hh hn
  have := (hrun.unique h2).2.1
  cases this

/-- (arbitrary sink) with no size in effect, success implies that
the end marker was decoded with `is_finished_ok`, OR the clean-EOF exit was taken (finding K1);
in both cases all input is consumed (`rd'.rem = []`, no pending I/O fault) and the final
`code = 0`.  These are the only two ways. -/
theorem no_size_needs_marker_partial {rd : Rd} {opts : Options} {snk snk' : Sink} {rd' : Rd}
    {params : LzmaParams} {rd1 : Rd}
    (h : lzmaDecompress rd opts snk = (snk', .ok rd'))
    (hh : readHeader rd opts = .ok (params, rd1)) (hn : params.unpackedSize = none) :
    (MarkerSeen rd opts snk ∨ CleanEofExit rd opts snk) ∧
    rd'.rem = [] ∧ rd'.bad = false ∧
    ∃ k e c', LzmaRun rd opts snk k e c' ∧ c'.rd = rd' ∧ c'.rc.code = 0 := by
  obtain ⟨k, e, c', hrun, rfl, hfin, -⟩ := lzmaDecompress_run h
  obtain ⟨p, r1, c0, a1, a4, -, hu, -⟩ := hrun.start
  rw [hh] at a1; cases a1
  have hs := a4.exit_spec
  -- both remaining exits have checked `is_finished_ok`
  have hfin : c'.rc.isFinishedOk c'.rd = .ok true ∧
      (MarkerSeen rd opts snk ∨ CleanEofExit rd opts snk) := by
    cases e with
    | sizeReached => obtain ⟨n, h1, -⟩ := hs; rw [hu.trans hn] at h1; cases h1
    | cleanEof => exact ⟨hs.2, .inr ⟨k, c', hrun⟩⟩
    | marker => exact ⟨hs.2, .inl ⟨k, c', hrun⟩⟩
  obtain ⟨hc, hr, hb⟩ := isFinishedOk_iff.1 hfin.1
  exact ⟨hfin.2, hr, hb, k, e, c', hrun, rfl, hc⟩

/-- what `MarkerSeen` means: the LAST symbol decoded was the end marker (`rep0 = 0xFFFF_FFFF`),
after which `code = 0` and the input is exhausted -/
theorem markerSeen_spec {rd : Rd} {opts : Options} {snk : Sink} {k : Nat} {c' : Cfg Circ}
    (h : LzmaRun rd opts snk k .marker c') :
    ∃ (c1 : Cfg Circ) (l : Nat) (probs : Probs),
      runDec true (symTree (c1.s.mkCtx c1.w)) c1.s.probs c1.rc c1.rd =
        .ok (.mtch l 0xFFFFFFFF, probs, c'.rc, c'.rd) ∧
      c'.rc.code = 0 ∧ c'.rd.rem = [] ∧ c'.rd.bad = false ∧ c'.w = c1.w ∧ c'.snk = c1.snk := by
  obtain ⟨p, r1, d, rc, r2, a1, a2, a3, a4⟩ := h
  obtain ⟨j, c1, l, probs, -, -, h1, h2, h3, h4, -⟩ := a4.marker_last rfl
  obtain ⟨hc, hr, hb⟩ := isFinishedOk_iff.1 h2
  exact ⟨c1, l, probs, h1, hc, hr, hb, h3, h4⟩

/-- K1 witness: a 13-byte header with an all-ones size field followed by `00 00 00 00 00` -/
def k1Witness : Bytes :=
  [0x5d, 0, 0, 0x80, 0, 0xff, 0xff, 0xff, 0xff, 0xff, 0xff, 0xff, 0xff, 0, 0, 0, 0, 0]

theorem k1Witness_ok :
    lzmaDecompress (Rd.ofBytes k1Witness) {} {} =
      ({ flushes := 1, lastFlush := true }, .ok (Rd.ofBytes [])) := by
  rfl

/-- executable form of `LzmaRun` (for the concrete witnesses below) -/
def lzmaTrace (rd : Rd) (opts : Options) (snk : Sink) (fuel : Nat) : Option (Nat × Exit × Cfg Circ) :=
  match readHeader rd opts with
  | .ok (params, rd1) =>
    match LzmaDecoder.new params opts.memlimit, RC.new rd1 with
    | .ok dec, .ok (rc, rd2) =>
      finishTrace fuel
        ⟨dec.state, Circ.fromStream params.dictSize (opts.memlimit.getD USIZE_MAX), rc, rd2, snk⟩
    | _, _ => none
  | _ => none

theorem lzmaTrace_sound {rd : Rd} {opts : Options} {snk : Sink} {fuel k : Nat} {e : Exit}
    {c' : Cfg Circ} (h : lzmaTrace rd opts snk fuel = some (k, e, c')) : LzmaRun rd opts snk k e c' := by
  unfold lzmaTrace at h
  split at h
  · rename_i params rd1 hh
    split at h
    · rename_i dec rc rd2 hd hrc
      exact ⟨params, rd1, dec, rc, rd2, hh, hd, hrc,
        finishTrace_sound fuel h (LzmaDecoder.new_ok hd).2.2.1⟩
    · cases h
  · cases h

theorem lzmaTrace_exit {rd : Rd} {opts : Options} {snk : Sink} {fuel k : Nat} {e : Exit}
    (h : (lzmaTrace rd opts snk fuel).map (fun r => (r.1, r.2.1)) = some (k, e)) :
    ∃ c', LzmaRun rd opts snk k e c' := by
  rcases hr : lzmaTrace rd opts snk fuel with _ | ⟨k', e', c'⟩
  · rw [hr] at h; cases h
  · rw [hr] at h
    simp only [Option.map_some, Option.some.injEq, Prod.mk.injEq] at h
    obtain ⟨rfl, rfl⟩ := h
    exact ⟨c', lzmaTrace_sound hr⟩

/-- the K1 witness leaves by the clean-EOF exit at the very first loop test: NO symbol decoded -/
theorem k1Witness_cleanEof : ∃ c', LzmaRun (Rd.ofBytes k1Witness) {} {} 0 .cleanEof c' :=
  lzmaTrace_exit (fuel := 1) (by rfl)

theorem k1Witness_no_size :
    readHeader (Rd.ofBytes k1Witness) {} =
      .ok ({ props := ⟨3, 0, 2⟩, dictSize := 0x800000, unpackedSize := none }, Rd.ofBytes [0, 0, 0, 0, 0]) := by
  rfl

/-- Finding K1, witness form: `5d 00 00 80 00 ff×8 00 00 00 00 00` is accepted (output empty,
all 18 bytes consumed) although not a single symbol — let alone the marker — was decoded. -/
theorem no_size_needs_marker_witness :
    lzmaDecompress (Rd.ofBytes k1Witness) {} {} =
        ({ flushes := 1, lastFlush := true }, .ok (Rd.ofBytes [])) ∧
      ¬ MarkerSeen (Rd.ofBytes k1Witness) {} {} ∧ CleanEofExit (Rd.ofBytes k1Witness) {} {} := by
  obtain ⟨c1, h1⟩ := k1Witness_cleanEof
  refine ⟨k1Witness_ok, ?_, 0, c1, h1⟩
  rintro ⟨k, c2, h2⟩
  cases (h1.unique h2).2.1

/-- finding K1: with no size in effect, success does NOT imply that
the end marker was decoded. -/
theorem no_size_needs_marker_false :
    ¬ ∀ (rd : Rd) (opts : Options) (snk snk' : Sink) (rd' : Rd) (params : LzmaParams) (rd1 : Rd),
        lzmaDecompress rd opts snk = (snk', .ok rd') → readHeader rd opts = .ok (params, rd1) →
        params.unpackedSize = none → MarkerSeen rd opts snk :=
  fun hall => no_size_needs_marker_witness.2.1
    (hall _ _ _ _ _ _ _ k1Witness_ok k1Witness_no_size rfl)

/-- `Stream::finish` without `allow_incomplete`, in the data state, runs
`process_mode(Finish)` on the staged bytes; success with a size `n` in effect means `len = n`
(ARBITRARY sink; `partial_input_buf` may be non-empty here) -/
theorem stream_finish_size {st : Stream} {rs : RunState} {snk snk' : Sink} {n : Nat}
    (hs : st.state = some (.data rs)) (hai : st.options.allowIncomplete = false)
    (hn : rs.decoder.unpackedSize = some n) (h : st.finish snk = (snk', .ok ())) :
    ∃ s' w' rc' rd' snk1,
      rs.decoder.processMode .finish rs.output { range := rs.range, code := rs.code }
        (Rd.ofBytes st.tmp) snk = (snk1, .ok (s', w', rc', rd')) ∧
      w'.len = n ∧ w'.finish snk1 = (snk', .ok ()) := by
  simp only [Stream.finish, hs, hai, Bool.not_false, if_true] at h
  rw [mBind_eq_ok] at h
  obtain ⟨⟨s', w', rc', rd'⟩, s1, hpm, hfin⟩ := h
  exact ⟨s', w', rc', rd', s1, hpm, processMode_finish_size hpm hn, hfin⟩

/-- the size the stream decoder works with is the size in effect of the header -/
theorem stream_header_size {rd rd' : Rd} {opts : Options} {rs : RunState}
    (h : Stream.readHeader rd opts = .ok (some rs, rd')) :
    ∃ params rd1, readHeader rd opts = .ok (params, rd1) ∧
      rs.decoder.unpackedSize = params.unpackedSize ∧ rs.decoder.partialBuf = [] := by
  unfold Stream.readHeader at h
  split at h
  · rename_i params rd1 hh
    split at h
    · cases h
    · rename_i dec hd
      obtain ⟨h1, h2, -⟩ := DState.new_ok hd
      split at h
      · cases h; exact ⟨params, rd1, hh, h2, h1⟩
      · cases h
  · cases h
  · cases h

/-- … and `read_data` (every later `write`) keeps it -/
theorem stream_readData_keeps_size {rs rs' : RunState} {rd rd' : Rd} {snk snk' : Sink}
    (h : Stream.readData rs rd snk = (snk', .ok (rs', rd'))) :
    rs'.decoder.unpackedSize = rs.decoder.unpackedSize := by
  simp only [Stream.readData, mBind_eq_ok, mPure_eq_ok] at h
  obtain ⟨⟨dec, out, rc, rd1⟩, s1, hpm, h, -⟩ := h
  cases h
  exact (processMode_fields hpm).1

/-! Non-vacuity: concrete streams (made by liblzma) meeting the hypotheses above.

`hdr f` = properties `5a` (lc=0, lp=0, pb=2), dictionary 8 MiB, size field `f`.
`pA`, `pE`, `pABC` are liblzma's LZMA1 payloads (with end marker) for "a", "" and "abcabcabc".
The runs are evaluated by the kernel (`decide +kernel` on decidable observations). -/

def hdr (field : Nat) : Bytes := [0x5a, 0, 0, 0x80, 0] ++ leBytes 8 field
def pA : Bytes := [0, 48, 193, 251, 255, 255, 255, 224, 0, 0, 0]
def pE : Bytes := [0, 131, 255, 251, 255, 255, 192, 0, 0, 0]
def pABC : Bytes := [0, 48, 152, 227, 169, 116, 23, 198, 243, 255, 255, 42, 160, 0, 0]

/-- decidable observation of a result: bytes in the sink, and error or unread input -/
def obs (r : Sink × Except Err Rd) : Bytes × (Err ⊕ Bytes) :=
  (r.1.out.toList, match r.2 with | .ok rd => .inr rd.rem | .error e => .inl e)

/-- the configuration in which `lzma_decompress` enters its loop for `hdr f ++ payload` -/
def cfg0 (size : Option Nat) (payload : Bytes) : Cfg Circ :=
  { s := { props := ⟨0, 0, 2⟩, unpackedSize := size, probs := Probs.init 1 }
    w := Circ.fromStream 0x800000 USIZE_MAX
    rc := { range := 0xFFFFFFFF, code := beVal ((payload.drop 1).take 4) }
    rd := Rd.ofBytes (payload.drop 5)
    snk := {} }

example : readHeader (Rd.ofBytes (hdr 4 ++ pABC)) {} =
      .ok (⟨⟨0, 0, 2⟩, 0x800000, some 4⟩, Rd.ofBytes pABC) ∧
    (LzmaDecoder.new ⟨⟨0, 0, 2⟩, 0x800000, some 4⟩ none).toOption.map (·.state.unpackedSize) = some (some 4) ∧
    RC.new (Rd.ofBytes pABC) = .ok ((cfg0 (some 4) pABC).rc, (cfg0 (some 4) pABC).rd) :=
  ⟨rfl, rfl, rfl⟩

theorem abc9_run : obs (lzmaDecompress (Rd.ofBytes (hdr 9 ++ pABC)) {} {}) =
    ([97, 98, 99, 97, 98, 99, 97, 98, 99], .inr [255, 255, 42, 160, 0, 0]) := by decide +kernel

-- `size_in_effect_exact(_bytes)`, `finish_size_exact`, `finish_size_exit`, `size_in_effect_no_marker`:
-- size 9 in effect, "abcabcabc" decoded, the 6 bytes of the end marker are left unread
example : obs (lzmaDecompress (Rd.ofBytes (hdr 9 ++ pABC)) {} {}) =
      ([97, 98, 99, 97, 98, 99, 97, 98, 99], .inr [255, 255, 42, 160, 0, 0]) ∧
    readHeader (Rd.ofBytes (hdr 9 ++ pABC)) {} = .ok (⟨⟨0, 0, 2⟩, 0x800000, some 9⟩, Rd.ofBytes pABC) :=
  ⟨abc9_run, rfl⟩

-- the same stream with a provided size overriding the header field (which says 1000): the header
-- result is the same, hence so is the run
example : obs (lzmaDecompress (Rd.ofBytes (hdr 1000 ++ pABC))
      { unpackedSize := .readHeaderButUseProvided (some 9) } {}) =
    ([97, 98, 99, 97, 98, 99, 97, 98, 99], .inr [255, 255, 42, 160, 0, 0]) := by
  rw [lzmaDecompress_congr (rd := Rd.ofBytes (hdr 1000 ++ pABC))
    (opts := { unpackedSize := .readHeaderButUseProvided (some 9) })
    (rd' := Rd.ofBytes (hdr 9 ++ pABC)) (opts' := {}) rfl rfl]
  exact abc9_run

-- `input_exhausted_is_error`: size 1 in effect, but the input ends inside the first symbol
example : (match runDec true (symTree ((cfg0 (some 1) [0, 0, 0, 0, 0]).s.mkCtx (cfg0 (some 1) [0, 0, 0, 0, 0]).w))
        (cfg0 (some 1) [0, 0, 0, 0, 0]).s.probs (cfg0 (some 1) [0, 0, 0, 0, 0]).rc
        (cfg0 (some 1) [0, 0, 0, 0, 0]).rd with
      | .error e => some e
      | .ok _ => none) = some .eof ∧
    obs (lzmaDecompress (Rd.ofBytes (hdr 1 ++ [0, 0, 0, 0, 0])) {} {}) = ([], .inl .eof) :=
  ⟨by decide +kernel, by decide +kernel⟩

-- `marker_before_size_is_error`: size 1 in effect, the first symbol is the end marker
example : ((cfg0 (some 1) pE).s.processNext (cfg0 (some 1) pE).w (cfg0 (some 1) pE).rc
      (cfg0 (some 1) pE).rd {}).2.toOption.map (·.1) = some .finished ∧
    obs (lzmaDecompress (Rd.ofBytes (hdr 1 ++ pE)) {} {}) = ([], .inl .lzma) :=
  ⟨by decide +kernel, by decide +kernel⟩

-- `overshoot_is_error`: size 4 in effect; after 3 literals (`len = 3 < 4`) a match of length 6
-- makes `len = 9 > 4`
example : (∃ c2, FinishSteps (cfg0 (some 4) pABC) 4 c2 ∧ 4 < c2.w.len) ∧
    obs (lzmaDecompress (Rd.ofBytes (hdr 4 ++ pABC)) {} {}) = ([], .inl .lzma) := by
  have h : (stepsTrace 4 (cfg0 (some 4) pABC)).map (fun c => (c.w.len, c.snk.out.toList)) =
      some (9, []) := by decide +kernel
  rcases hr : stepsTrace 4 (cfg0 (some 4) pABC) with _ | c2
  · rw [hr] at h; cases h
  · rw [hr] at h
    simp only [Option.map_some, Option.some.injEq, Prod.mk.injEq] at h
    have hs := stepsTrace_sound 4 hr
    refine ⟨⟨c2, hs, by omega⟩, ?_⟩
    -- the call enters its loop in `cfg0 (some 4) pABC`; the loop leaves at `c2` with `9 ≠ 4`
    -- bytes, which `process_mode` turns into `LzmaError`
    have hrun := hs.append_run (.sizeReached (hs.fields.1.trans rfl) (show 4 ≤ c2.w.len by omega))
    have hl := hrun.loop_ok rfl (loopFuel (cfg0 (some 4) pABC).s (cfg0 (some 4) pABC).rd)
      (Nat.lt_trans (by decide : 4 + 0 < U32) (lt_loopFuel _ _))
    have hpm : (cfg0 (some 4) pABC).s.processMode .finish (cfg0 (some 4) pABC).w
        (cfg0 (some 4) pABC).rc (cfg0 (some 4) pABC).rd {} = (c2.snk, .error .lzma) :=
      processMode_size_mismatch hl rfl (show c2.w.len ≠ 4 by omega)
    have hd : lzmaDecompress (Rd.ofBytes (hdr 4 ++ pABC)) {} {} = (c2.snk, .error .lzma) :=
      lzmaDecompress_processMode_error (params := ⟨⟨0, 0, 2⟩, 0x800000, some 4⟩)
        (rd1 := Rd.ofBytes pABC) (dec := ⟨⟨⟨0, 0, 2⟩, 0x800000, some 4⟩, USIZE_MAX, (cfg0 (some 4) pABC).s⟩)
        (rc := (cfg0 (some 4) pABC).rc) (rd2 := (cfg0 (some 4) pABC).rd) rfl rfl rfl hpm
    simp only [hd, obs, h.2]

-- `no_size_needs_marker_partial`: both disjuncts occur.  "a" + end marker: the marker IS seen
-- (2 symbols: literal, marker); the K1 witness: clean-EOF exit (`k1Witness_cleanEof`)
example : MarkerSeen (Rd.ofBytes (hdr 0xFFFFFFFFFFFFFFFF ++ pA)) {} {} ∧
    obs (lzmaDecompress (Rd.ofBytes (hdr 0xFFFFFFFFFFFFFFFF ++ pA)) {} {}) = ([97], .inr []) := by
  refine ⟨?_, by decide +kernel⟩
  obtain ⟨c', h⟩ := lzmaTrace_exit (rd := Rd.ofBytes (hdr 0xFFFFFFFFFFFFFFFF ++ pA)) (opts := {})
    (snk := {}) (fuel := 5) (k := 2) (e := .marker) (by decide +kernel)
  exact ⟨2, c', h⟩

-- `marker_then_bytes_errs`: one byte after the end marker
example : obs (lzmaDecompress (Rd.ofBytes (hdr 0xFFFFFFFFFFFFFFFF ++ pA ++ [0])) {} {}) =
    ([], .inl .lzma) := by decide +kernel

-- `stream_finish_size`: `hdr 1 ++ pA` fed to a fresh stream (the caller's re-submitting loop
-- `Stream.feed`) puts it in the data state with size 1 in effect; `finish` then succeeds with
-- exactly 1 byte delivered
example : ∃ (st : Stream) (rs : RunState) (snk snk' : Sink),
    st.state = some (.data rs) ∧ st.options.allowIncomplete = false ∧
    rs.decoder.unpackedSize = some 1 ∧ st.finish snk = (snk', .ok ()) ∧ snk'.out = #[97] := by
  have h : (match Stream.feed 10 (Stream.newWithOptions {}) (hdr 1 ++ pA) 0 {} with
    | (snk, st, _) =>
      (match st.state with
        | some (.data rs) => rs.decoder.unpackedSize == some 1
        | _ => false) && !st.options.allowIncomplete &&
      (match st.finish snk with
        | (snk', .ok ()) => snk'.out.toList == [97]
        | _ => false)) = true := by decide +kernel
  rcases hw : Stream.feed 10 (Stream.newWithOptions {}) (hdr 1 ++ pA) 0 {} with ⟨snk, st, r⟩
  rw [hw] at h
  simp only [Bool.and_eq_true, Bool.not_eq_true'] at h
  obtain ⟨⟨h1, h2⟩, h3⟩ := h
  rcases hst : st.state with _ | (_ | rs)
  · rw [hst] at h1; cases h1
  · rw [hst] at h1; cases h1
  · rw [hst] at h1
    rcases hf : st.finish snk with ⟨snk', e | u⟩
    · rw [hf] at h3; cases h3
    · rw [hf] at h3
      refine ⟨st, rs, snk, snk', hst, h2, by simpa using h1, hf, ?_⟩
      have : snk'.out.toList = [97] := by simpa using h3
      rw [← Array.toList_inj]; exact this

end Lzma.C08
