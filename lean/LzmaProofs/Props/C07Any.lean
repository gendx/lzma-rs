/-
  C07 (extension) — raw decoder objects in any state that keeps the table sizes,
  probability bounds and `lc/lp/pb` bounds intact.

  The model's `decompress` returns no decoder object on its error path (the Rust
  `&mut self` is left half-updated there), so `C07.LzmaReach`/`Lzma2Reach` only follow
  successful calls.  What a failed call can leave behind in the Rust object is:
  probabilities adapted by the bits decoded so far (each update keeps a value inside
  `[31, 2017]`), `state`/`rep` of the last complete or half-applied symbol, the expected
  size and up to 20 carried-over input bytes — never a table of a different length and
  never different `lc/lp/pb` except through `reset_state`, which rebuilds the tables
  to match.  All of that is inside `LzmaDecoderInv` / `Lzma2DecoderInv`.  The theorems
  below say that *every* object inside the invariant is safe to use again, whatever
  history (successful, failed, interleaved with resets) produced it; the harness runs
  such histories on the real objects (`unspec` results, panic/hang/allocation oracles).
-/
import LzmaProofs.Props.C07
namespace Lzma
namespace C07Any
open Safety C07

/-- any `LzmaDecoder` object inside the invariant: `decompress` does not panic -/
theorem no_panic_decompress_any_lzma_object {d : LzmaDecoder} (hd : LzmaDecoderInv d) (rd : Rd)
    (snk : Sink) (w : String) : (d.decompress rd snk).2 ≠ .error (.panic w) :=
  ESafe_no_panic (LzmaDecoder_decompress_safe hd rd snk) w

/-- … and terminates -/
theorem terminates_decompress_any_lzma_object {d : LzmaDecoder} (hd : LzmaDecoderInv d) (rd : Rd)
    (snk : Sink) : (d.decompress rd snk).2 ≠ .error .fuel :=
  ESafe_no_fuel (LzmaDecoder_decompress_safe hd rd snk)

/-- … and `reset` does not panic -/
theorem no_panic_reset_any_lzma_object {d : LzmaDecoder} (hd : LzmaDecoderInv d)
    (u : Option (Option Nat)) (w : String) : d.reset u ≠ .error (.panic w) :=
  ESafe_no_panic (LzmaDecoder_reset_safe hd u) w

/-- the invariant is closed under successful `decompress` and under `reset`: every later object
is again covered, for histories of any length -/
theorem inv_closed_lzma {d d' : LzmaDecoder} (hd : LzmaDecoderInv d) :
    (∀ rd snk snk' rd', d.decompress rd snk = (snk', .ok (d', rd')) → LzmaDecoderInv d') ∧
    (∀ u, d.reset u = .ok d' → LzmaDecoderInv d') :=
  ⟨fun rd _ _ _ h => ((LzmaDecoder_decompress_safe hd rd).of_ok h).1,
   fun u h => (LzmaDecoder_reset_safe hd u).of_ok h⟩

theorem no_panic_decompress_any_lzma2_object {d : Lzma2Decoder} (hd : Lzma2DecoderInv d) (rd : Rd)
    (snk : Sink) (w : String) : (d.decompress rd snk).2 ≠ .error (.panic w) :=
  ESafe_no_panic (Lzma2Decoder_decompress_safe hd rd snk) w

theorem terminates_decompress_any_lzma2_object {d : Lzma2Decoder} (hd : Lzma2DecoderInv d) (rd : Rd)
    (snk : Sink) : (d.decompress rd snk).2 ≠ .error .fuel :=
  ESafe_no_fuel (Lzma2Decoder_decompress_safe hd rd snk)

theorem no_panic_reset_any_lzma2_object {d : Lzma2Decoder} (hd : Lzma2DecoderInv d) (w : String) :
    d.reset ≠ .error (.panic w) :=
  ESafe_no_panic (Lzma2Decoder_reset_safe hd) w

theorem inv_closed_lzma2 {d d' : Lzma2Decoder} (hd : Lzma2DecoderInv d) :
    (∀ rd snk snk' rd', d.decompress rd snk = (snk', .ok (d', rd')) → Lzma2DecoderInv d') ∧
    (d.reset = .ok d' → Lzma2DecoderInv d') :=
  ⟨fun rd _ _ _ h => ((Lzma2Decoder_decompress_safe hd rd).of_ok h).1,
   fun h => (Lzma2Decoder_reset_safe hd).of_ok h⟩

/-- what one adaptive-probability update does to the invariant: any single cell may hold any
value in `[31, 2017]` (the range every `decode_bit` update stays in) -/
theorem inv_after_prob_update {s : DState} (hs : DStateInv s) (i : PIdx) {v : Nat}
    (hv : 31 ≤ v ∧ v ≤ 2017) : DStateInv { s with probs := s.probs.set i v } := by
  obtain ⟨hp, hr⟩ := Probs.set_inv hs.probs hv i
  exact ⟨hp, hs.state, hs.lc, hs.lp, hs.pb, by rw [hr]; exact hs.rows, hs.pbuf⟩

/-- non-vacuity: an object no successful history of a fresh decoder produces at once — half-way
state, repeat distances, a carried-over byte and an adapted probability — is inside the
invariant, so the theorems above apply to it -/
def dirtyDecoder : LzmaDecoder :=
  { sampleDecoder with
    state := { sampleDecoder.state with
      state := 11, rep0 := 0xFFFFFFFF, rep1 := 7, partialBuf := [1, 2, 3]
      probs := sampleDecoder.state.probs.set (.isMatch 0) 31 } }

example : LzmaDecoderInv dirtyDecoder := by
  have h0 : LzmaDecoderInv sampleDecoder := (LzmaReach.new sampleParams none _ (by decide) (by rfl)).inv
  refine ⟨?_, h0.2.1, h0.2.2⟩
  have h1 := inv_after_prob_update h0.1 (.isMatch 0) (v := 31) (by omega)
  exact ⟨h1.probs, by show (11 : Nat) < 12; omega, h1.lc, h1.lp, h1.pb, h1.rows,
    by show ([1, 2, 3] : Bytes).length ≤ 20; decide⟩

end C07Any
end Lzma
