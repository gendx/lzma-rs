/-
  C03 — forward exactness of the XZ container decoder.

  Every file laid out according to the specification `buildXz` (any of the checks
  none / CRC32 / CRC64, any number of blocks, optional declared sizes, non-minimal multibyte
  integers, extra header padding) is accepted by `xzDecompress`, which writes exactly the
  concatenated block outputs and leaves the reader at end of file.  Relative to the LZMA2
  decoder by design: each payload is assumed to be decoded in place (`XzBlockSpec.Decodes`).
  `crc32` / `crc64` are used as opaque functions (only their ranges `< 2^32`, `< 2^64`).
-/
import LzmaProofs.Lemmas.XzFwd
namespace Lzma.C03

/-! ## multibyte integers -/

/-- every `n < 2^(7w)` written in exactly `w` bytes, `1 ≤ w ≤ 9` (so also every non-minimal
encoding), is read back exactly, and exactly its bytes are consumed and reported -/
theorem multibyte_roundtrip (w n : Nat) (r : Bytes) (b : Bool)
    (hw1 : 1 ≤ w) (hw9 : w ≤ 9) (hn : n < 2 ^ (7 * w)) :
    getMultibyte { rem := encodeMb w n ++ r, bad := b }
      = .ok (n, encodeMb w n, { rem := r, bad := b }) :=
  Lzma.multibyte_roundtrip w n r b hw1 hw9 hn

/-- every `n` of minimal width ≤ 9 (i.e. every `n < 2^63`, see `mbWidth_le_nine`) round-trips at each
width from its minimal one up to nine -/
theorem multibyte_widths (n w : Nat) (h1 : mbWidth n ≤ w) (h9 : w ≤ 9) :
    ∀ r b, getMultibyte { rem := encodeMb w n ++ r, bad := b }
      = .ok (n, encodeMb w n, { rem := r, bad := b }) := fun r b =>
  Lzma.multibyte_roundtrip w n r b (Nat.le_trans (mbWidth_pos n) h1) h9 (lt_of_mbWidth_le w n h1)

theorem mbWidth_le_nine (n : Nat) (hn : n < 2 ^ 63) : 1 ≤ mbWidth n ∧ mbWidth n ≤ 9 :=
  ⟨mbWidth_pos n, Lzma.mbWidth_le_nine n hn⟩

/-- the encoder's `write_multibyte` produces the minimal encoding -/
theorem multibyteBytes_minimal (n : Nat) (h : n < 2 ^ 63) :
    multibyteBytes n = encodeMb (mbWidth n) n := multibyteBytes_eq n h

/-- `get_multibyte` reads back what `write_multibyte` wrote -/
theorem getMultibyte_multibyteBytes (n : Nat) (h : n < 2 ^ 63) (r : Bytes) (b : Bool) :
    getMultibyte { rem := multibyteBytes n ++ r, bad := b }
      = .ok (n, multibyteBytes n, { rem := r, bad := b }) :=
  Lzma.getMultibyte_multibyteBytes n h r b

/-- nine bytes that all carry the continuation bit (a nine-byte group whose last byte
continues; every encoding of ten or more bytes) are rejected -/
theorem multibyte_reject_long (l r : Bytes) (b : Bool) (hl : l.length = 9)
    (h : ∀ x ∈ l, x.toNat &&& 0x80 ≠ 0) :
    getMultibyte { rem := l ++ r, bad := b } = .error .xz :=
  getMultibyte_reject_long l r b hl h

/-- the padding computation `((c ^ 3) + 1) & 3` is the distance to the next multiple of 4,
for every count -/
theorem padding_formula (c : Nat) : paddingSize c = (4 - c % 4) % 4 := Lzma.padding_formula c

example : getMultibyte { rem := encodeMb 3 300 ++ [7] } = .ok (300, [0xAC, 0x82, 0x00], { rem := [7] }) :=
  multibyte_roundtrip 3 300 [7] false (by decide) (by decide) (by decide)
example : encodeMb 3 300 = [0xAC, 0x82, 0x00] := by decide
example : getMultibyte { rem := multibyteBytes 300 ++ [7] } = .ok (300, [0xAC, 0x02], { rem := [7] }) := by
  rfl
example : getMultibyte { rem := List.replicate 9 0xFF ++ [0] } = .error .xz :=
  multibyte_reject_long (List.replicate 9 0xFF) [0] false (by decide) (by decide)

/-! ## the container -/

/-- C03.  `xzDecompress` on a well-formed file: for the checks none / CRC32 / CRC64, any
list of blocks (including none) whose header fields are legal (`XzBlockSpec.WF`: header size
byte ≤ 255, multibyte widths ≤ 9) and whose payloads are decoded in place by the LZMA2 decoder
(`XzBlockSpec.Decodes`), a record count that fits its field and a backward size that fits 32
bits: with a sink that accepts everything the decoder succeeds, leaves the reader at end of
file, and the sink has received exactly one `write_all` per block with non-empty output
(`Sink.putBlocks`: `out` extended, `writes` incremented, `lastFlush` cleared; nothing else
changes, in particular no flush). -/
theorem xz_decode_exact (check : CheckMethod) (blocks : List XzBlockSpec) (wCount : Nat) (s : Sink)
    (hck : check = .none ∨ check = .crc32 ∨ check = .crc64)
    (hs : s.script = [])
    (hb : ∀ b ∈ blocks, b.WF check ∧ b.Decodes)
    (hc : mbW wCount blocks.length ≤ 9)
    (hidx : (xzIndex check blocks wCount).length / 4 - 1 < 2 ^ 32) :
    xzDecompress (Rd.ofBytes (buildXz check blocks wCount)) s
      = (s.putBlocks blocks, .ok { rem := [] }) :=
  xzDecompress_buildXz check blocks wCount s (by rcases hck with h | h | h <;> simp [h]) hs hb hc hidx

/-- the output is exactly the concatenation of the block outputs -/
theorem xz_decode_exact_out (check : CheckMethod) (blocks : List XzBlockSpec) (wCount : Nat) (s : Sink)
    (hck : check = .none ∨ check = .crc32 ∨ check = .crc64)
    (hs : s.script = [])
    (hb : ∀ b ∈ blocks, b.WF check ∧ b.Decodes)
    (hc : mbW wCount blocks.length ≤ 9)
    (hidx : (xzIndex check blocks wCount).length / 4 - 1 < 2 ^ 32) :
    (xzDecompress (Rd.ofBytes (buildXz check blocks wCount)) s).2 = .ok { rem := [] }
    ∧ (xzDecompress (Rd.ofBytes (buildXz check blocks wCount)) s).1.out
        = s.out ++ (blocks.map (·.out)).flatten.toArray
    ∧ (xzDecompress (Rd.ofBytes (buildXz check blocks wCount)) s).1.flushes = s.flushes := by
  rw [xz_decode_exact check blocks wCount s hck hs hb hc hidx]
  exact ⟨rfl, Sink.putBlocks_out s blocks, Sink.putBlocks_flushes s blocks⟩

/-- a sufficient condition for the backward size to fit: at most `2^27` blocks -/
theorem index_fits (check : CheckMethod) (blocks : List XzBlockSpec) (wCount : Nat)
    (hb : ∀ b ∈ blocks, b.WF check) (hc : mbW wCount blocks.length ≤ 9)
    (hn : blocks.length ≤ 2 ^ 27) :
    (xzIndex check blocks wCount).length / 4 - 1 < 2 ^ 32 := by
  have hrec : ∀ (bs : List XzBlockSpec), (∀ b ∈ bs, b.WF check) →
      ((bs.map (·.record check)).flatten).length ≤ 18 * bs.length := by
    intro bs
    induction bs with
    | nil => simp
    | cons b bs ih =>
      intro h
      have h1 := (h b (by simp)).idxUnpadded
      have h2 := (h b (by simp)).idxUnpacked
      have := ih (fun x hx => h x (by simp [hx]))
      have hr : (b.record check).length ≤ 18 := by
        simp only [XzBlockSpec.record, mbField, List.length_append, encodeMb_length]; omega
      simp only [List.map_cons, List.flatten_cons, List.length_append, List.length_cons]
      omega
  have := hrec blocks hb
  have := pad4_lt (xzIndexBody check blocks wCount).length
  have hbody : (xzIndexBody check blocks wCount).length ≤ 10 + 18 * blocks.length := by
    simp only [xzIndexBody, List.length_append, mbField, encodeMb_length, List.length_cons, List.length_nil]
    omega
  have : (xzIndex check blocks wCount).length ≤ 17 + 18 * blocks.length := by
    simp only [xzIndex, List.length_append, List.length_replicate, leBytes_length]
    omega
  omega

/-! ## non-vacuity -/

/-- payloads that are sequences of uncompressed LZMA2 chunks satisfy the decoding hypothesis -/
theorem decodes_of_frame (b : XzBlockSpec) (cs : List Bytes) (hp : b.payload = lzma2Frame cs)
    (ho : b.out = cs.flatten) (hok : ∀ c ∈ cs, 1 ≤ c.length ∧ c.length ≤ 65536) : b.Decodes :=
  Lzma.decodes_of_frame b cs hp ho hok

/-- the empty file (no blocks), for each check -/
example (check : CheckMethod) (hck : check = .none ∨ check = .crc32 ∨ check = .crc64) :
    xzDecompress (Rd.ofBytes (buildXz check [])) {} = ({}, .ok { rem := [] }) :=
  xz_decode_exact check [] 0 {} hck rfl (by simp) (by simp [mbW, mbWidth_of_lt])
    (index_fits check [] 0 (by simp) (by simp [mbW, mbWidth_of_lt]) (by simp))

/-- two blocks: the first declares both sizes with a three-byte packed size, a two-byte filter
id and one extra padding word; the second is empty with another dictionary byte -/
def exB1 : XzBlockSpec :=
  { payload := lzma2Frame [[0x61, 0x62], [0x63]], out := [0x61, 0x62, 0x63],
    declPacked := true, declUnpacked := true, wPacked := 3, wFilterId := 2, extraPadWords := 1,
    wIdxUnpacked := 2 }
def exB2 : XzBlockSpec := { payload := lzma2Frame [], out := [], dictByte := 0 }
def exBlocks : List XzBlockSpec := [exB1, exB2]

theorem exBlocks_ok (check : CheckMethod) :
    ∀ b ∈ exBlocks, b.WF check ∧ b.Decodes := by
  intro b hb
  simp only [exBlocks, List.mem_cons, List.mem_nil_iff, or_false] at hb
  rcases hb with rfl | rfl
  · exact ⟨.of_lt check _ (by decide) (by decide) (by decide) (by decide),
      decodes_of_frame _ [[0x61, 0x62], [0x63]] rfl rfl (by simp)⟩
  · exact ⟨.of_lt check _ (by decide) (by decide) (by decide) (by decide),
      decodes_of_frame _ [] rfl rfl (by simp)⟩

example (check : CheckMethod) (hck : check = .none ∨ check = .crc32 ∨ check = .crc64) (s : Sink)
    (hs : s.script = []) :
    xzDecompress (Rd.ofBytes (buildXz check exBlocks 4)) s
      = ({ s with out := s.out ++ #[0x61, 0x62, 0x63], writes := s.writes + 1, lastFlush := false },
          .ok { rem := [] }) := by
  have hc : mbW 4 exBlocks.length ≤ 9 := by simp [mbW, exBlocks, mbWidth_of_lt]
  rw [xz_decode_exact check exBlocks 4 s hck hs (exBlocks_ok check) hc
    (index_fits check exBlocks 4 (fun b h => (exBlocks_ok check b h).1) hc (by simp [exBlocks]))]
  simp [Sink.putBlocks, exBlocks, exB1, exB2, Sink.put]

end Lzma.C03
