/-
  C04 — framing round trips of the LZMA2 and XZ encoders (`encode/lzma2.rs`, `encode/xz.rs`).

  For every input and every fragmentation of the input reader (`ERd.frags` arbitrary: each
  `read` returns between 1 and `min(65536, remaining)` bytes, `0` only at end of input), with
  sinks that accept everything:
  * `lzma2_compress` emits only "uncompressed, dictionary reset" chunks of 1..65536 bytes and
    the end marker, and `lzma2_decompress` maps that back to the input, stopping right after it;
  * `xz_compress` emits exactly the file `buildXz .none [one block]` of the C03 specification,
    and `xz_decompress` maps it back to the input with the reader at end of file.
  The LZMA (range coder) round trip is not part of this property.
-/
import LzmaProofs.Lemmas.XzFwd
import LzmaProofs.Props.C03
namespace Lzma.C04

/-! ## LZMA2 -/

/-- one `read` of the encoder input: at most 65536 bytes, a prefix of the remaining input,
non-empty unless the input is exhausted -/
theorem read_spec (rd : ERd) (hb : rd.bad = false) :
    ∃ buf rd', rd.read 0x10000 = .ok (buf, rd') ∧ rd'.bad = false ∧ buf ++ rd'.rem = rd.rem
      ∧ buf.length ≤ 65536 ∧ (rd.rem ≠ [] → buf ≠ []) := ERd.read_spec rd hb

/-- format conformance of `lzma2_compress`: for every input and fragmentation the encoder
succeeds, consumes all input, and its output is `lzma2Frame cs`, i.e. for each chunk `c` of
some partition `cs` of the input into pieces of 1..65536 bytes the bytes
`1 :: beBytes 2 (c.length - 1) ++ c`, terminated by `0`. -/
theorem lzma2_enc_format (data : Bytes) (fr : List Nat) (s : Sink) (hs : s.script = []) :
    ∃ cs s' rd', lzma2Compress { rem := data, frags := fr } s = (s', .ok rd')
      ∧ rd'.rem = []
      ∧ (∀ c ∈ cs, 1 ≤ c.length ∧ c.length ≤ 65536) ∧ cs.flatten = data
      ∧ s'.script = [] ∧ s'.flushes = s.flushes
      ∧ s'.out = s.out ++ (lzma2Frame cs).toArray := by
  obtain ⟨cs, rd', hw, h1, -, h6, h7⟩ :=
    lzma2EncodeLoop_writes (data.length + 1) { rem := data, frags := fr } rfl (Nat.le_refl _)
  obtain ⟨s', h, w⟩ := hw s hs
  exact ⟨cs, s', rd', h, h1, h6, h7, w.1, w.2.1, w.2.2⟩

/-- the frame format: the end byte -/
theorem lzma2Frame_nil : lzma2Frame [] = [0] := rfl
/-- the frame format: per piece one uncompressed chunk with control byte 1 (dictionary reset),
big-endian `length - 1`, the data -/
theorem lzma2Frame_cons (c : Bytes) (cs : List Bytes) :
    lzma2Frame (c :: cs) = 1 :: (beBytes 2 (c.length - 1) ++ (c ++ lzma2Frame cs)) := rfl

/-- the size field never truncates: `c.length - 1 < 65536` is read back as `c.length` -/
theorem chunk_size_roundtrip (n : Nat) (h1 : 1 ≤ n) (h2 : n ≤ 65536) :
    (n - 1) % U16 = n - 1 ∧ beVal (beBytes 2 (n - 1)) + 1 = n := by
  have : n - 1 < 65536 := by omega
  exact ⟨Nat.mod_eq_of_lt (by simpa [U16] using this), by rw [Fwd.beVal_beBytes2 _ this]; omega⟩

/-- a full 65536-byte chunk is fine: its size field is `0xFFFF` -/
example : (65536 - 1) % U16 = 65535 ∧ beVal (beBytes 2 (65536 - 1)) + 1 = 65536 :=
  chunk_size_roundtrip 65536 (by decide) (by decide)

/-- the decoder on any frame of uncompressed chunks, followed by arbitrary bytes `t` -/
theorem lzma2_frame_decode (cs : List Bytes) (t : Bytes) (s : Sink) (hs : s.script = [])
    (hc : ∀ c ∈ cs, 1 ≤ c.length ∧ c.length ≤ 65536) :
    ∃ s', lzma2Decompress (Rd.ofBytes (lzma2Frame cs ++ t)) s = (s', .ok { rem := t })
      ∧ s'.script = [] ∧ s'.out = s.out ++ cs.flatten.toArray
      ∧ s'.flushes = s.flushes + 1 ∧ s'.lastFlush = true :=
  lzma2Decompress_frame cs t false s hs hc

/-- C04, LZMA2 round trip.  For every `data`, every fragmentation `fr` of the input reader
and sinks `s`, `s0` that accept everything: `lzma2Compress` succeeds with all input consumed,
having appended some bytes `enc`; and `lzma2Decompress` on `enc` followed by arbitrary bytes `t`
succeeds, appends exactly `data`, and leaves the reader at `t`. -/
theorem lzma2_enc_roundtrip (data : Bytes) (fr : List Nat) (t : Bytes) (s s0 : Sink)
    (hs : s.script = []) (hs0 : s0.script = []) :
    ∃ enc s1 rd', lzma2Compress { rem := data, frags := fr } s = (s1, .ok rd')
      ∧ rd'.rem = [] ∧ s1.out = s.out ++ enc.toArray
      ∧ ∃ s2, lzma2Decompress (Rd.ofBytes (enc ++ t)) s0 = (s2, .ok { rem := t })
          ∧ s2.out = s0.out ++ data.toArray := by
  obtain ⟨cs, s1, rd', h, h1, hok, hfl, _, _, hout⟩ := lzma2_enc_format data fr s hs
  obtain ⟨s2, hd, _, hout2, _⟩ := lzma2_frame_decode cs t s0 hs0 hok
  exact ⟨lzma2Frame cs, s1, rd', h, h1, hout, s2, hd, by rw [hout2, hfl]⟩

/-- the round trip with fresh sinks on both sides -/
theorem lzma2_enc_roundtrip_fresh (data : Bytes) (fr : List Nat) (t : Bytes) :
    ∃ s1 rd', lzma2Compress { rem := data, frags := fr } {} = (s1, .ok rd') ∧ rd'.rem = []
      ∧ ∃ s2, lzma2Decompress (Rd.ofBytes (s1.out.toList ++ t)) {} = (s2, .ok { rem := t })
          ∧ s2.out.toList = data := by
  obtain ⟨enc, s1, rd', h, h1, hout, s2, hd, hout2⟩ := lzma2_enc_roundtrip data fr t {} {} rfl rfl
  refine ⟨s1, rd', h, h1, s2, ?_, by simp [hout2]⟩
  have : s1.out.toList = enc := by rw [hout]; simp
  rw [this]; exact hd

/-- empty input gives the single byte `0` -/
example (fr : List Nat) : lzma2Compress { rem := [], frags := fr } {}
    = ({ out := #[0], writes := 1 }, .ok { rem := [], frags := fr }) := by
  simp [lzma2Compress, lzma2EncodeLoop, ERd.read, bind, Fwd.M_bind_apply, liftE, M.pure, Fwd.writeBytes_perfect,
    Sink.put]

/-- one byte; two bytes delivered one at a time (two chunks) -/
example : (lzma2Compress { rem := [0x61] } {}).1.out = #[1, 0, 0, 0x61, 0] := by rfl
example : (lzma2Compress { rem := [0x61, 0x62], frags := [1, 1] } {}).1.out
    = #[1, 0, 0, 0x61, 1, 0, 0, 0x62, 0] := by rfl
example : (lzma2Decompress (Rd.ofBytes [1, 0, 0, 0x61, 1, 0, 0, 0x62, 0, 0xFF]) {}).2 = .ok { rem := [0xFF] }
    ∧ (lzma2Decompress (Rd.ofBytes [1, 0, 0, 0x61, 1, 0, 0, 0x62, 0, 0xFF]) {}).1.out = #[0x61, 0x62] := by
  obtain ⟨s', h, _, h2, _⟩ := lzma2_frame_decode [[0x61], [0x62]] [0xFF] {} rfl (by simp)
  have e : Rd.ofBytes (lzma2Frame [[0x61], [0x62]] ++ [0xFF])
      = Rd.ofBytes [1, 0, 0, 0x61, 1, 0, 0, 0x62, 0, 0xFF] := by rfl
  rw [e] at h
  rw [h]
  exact ⟨rfl, by simpa using h2⟩

/-! ## XZ -/

/-- the block `xz_compress` writes for the chunk partition `cs`: payload = the LZMA2 frame, no
declared sizes, dictionary byte 22, minimal widths, no extra padding; its header is the 12
bytes `02 00 21 01 16 00 00 00 crc32` -/
theorem encBlock_def (cs : List Bytes) :
    encBlock cs = { payload := lzma2Frame cs, out := cs.flatten } := rfl

theorem encBlock_header (cs : List Bytes) :
    (encBlock cs).sizeByte = 2 ∧ (encBlock cs).hdrBody = [0x00, 0x21, 1, 22, 0, 0, 0] :=
  ⟨encBlock_sizeByte cs, encBlock_hdrBody cs⟩

/-- conformance of `xz_compress` to the C03 layout: for every input shorter than `2^60`
bytes and every fragmentation, the writer succeeds and has appended exactly
`buildXz .none [encBlock cs]` for a partition `cs` of the input into chunks of 1..65536 bytes.
(The length bound keeps the index fields below `2^63`: beyond it `write_multibyte` would emit a
ten-byte integer, which no XZ decoder accepts; see the `example` below.) -/
theorem xz_enc_is_buildXz (data : Bytes) (fr : List Nat) (s : Sink) (hs : s.script = [])
    (hlen : data.length < 2 ^ 60) :
    ∃ cs s', xzCompress { rem := data, frags := fr } s = (s', .ok ())
      ∧ (∀ c ∈ cs, 1 ≤ c.length ∧ c.length ≤ 65536) ∧ cs.flatten = data
      ∧ s'.script = [] ∧ s'.out.toList = s.out.toList ++ buildXz .none [encBlock cs] := by
  obtain ⟨cs, hw, hok, hfl⟩ := xzCompress_writes { rem := data, frags := fr } rfl hlen
  obtain ⟨s', h, w⟩ := hw s hs
  exact ⟨cs, s', h, hok, hfl, w.1, by rw [w.2.2]; simp⟩

/-- why a bound is needed: from `2^63` on the writer's integer has ten bytes and is rejected -/
example : (multibyteBytes (2 ^ 63)).length = 10
    ∧ getMultibyte { rem := multibyteBytes (2 ^ 63) } = .error .xz := by
  constructor <;> rfl

/-- C04, XZ round trip.  For every `data` shorter than `2^60` bytes, every fragmentation and
sinks that accept everything: `xzCompress` succeeds, appending some bytes `enc`, and
`xzDecompress` on exactly `enc` succeeds, appends exactly `data` and ends at end of file. -/
theorem xz_enc_roundtrip (data : Bytes) (fr : List Nat) (s s0 : Sink)
    (hs : s.script = []) (hs0 : s0.script = []) (hlen : data.length < 2 ^ 60) :
    ∃ enc s1, xzCompress { rem := data, frags := fr } s = (s1, .ok ())
      ∧ s1.out.toList = s.out.toList ++ enc
      ∧ ∃ s2, xzDecompress (Rd.ofBytes enc) s0 = (s2, .ok { rem := [] })
          ∧ s2.out = s0.out ++ data.toArray := by
  obtain ⟨cs, s1, h, hok, hfl, _, hout⟩ := xz_enc_is_buildXz data fr s hs hlen
  obtain ⟨_, _, hidx, hwf, hdec⟩ := encBlock_facts cs hok (by rw [hfl]; exact hlen)
  have hc : mbW 0 [encBlock cs].length ≤ 9 := by simp [mbW, mbWidth_of_lt]
  have hd := C03.xz_decode_exact .none [encBlock cs] 0 s0 (Or.inl rfl) hs0
    (by intro b hb; rw [List.mem_singleton.mp hb]; exact ⟨hwf, hdec⟩) hc hidx
  refine ⟨_, s1, h, hout, _, hd, ?_⟩
  rw [Sink.putBlocks_out]
  simp [encBlock, hfl]

/-- tiny instances -/
example : ∃ s1, xzCompress { rem := [] } {} = (s1, .ok ())
    ∧ ∃ s2, xzDecompress (Rd.ofBytes s1.out.toList) {} = (s2, .ok { rem := [] }) ∧ s2.out = #[] := by
  obtain ⟨enc, s1, h, hout, s2, hd, ho⟩ := xz_enc_roundtrip [] [] {} {} rfl rfl (by decide)
  refine ⟨s1, h, s2, ?_, by simpa using ho⟩
  have : s1.out.toList = enc := by simpa using hout
  rw [this]; exact hd

example : ∃ s1, xzCompress { rem := [0x61, 0x62], frags := [1, 1] } {} = (s1, .ok ())
    ∧ ∃ s2, xzDecompress (Rd.ofBytes s1.out.toList) {} = (s2, .ok { rem := [] })
      ∧ s2.out = #[0x61, 0x62] := by
  obtain ⟨enc, s1, h, hout, s2, hd, ho⟩ :=
    xz_enc_roundtrip [0x61, 0x62] [1, 1] {} {} rfl rfl (by decide)
  refine ⟨s1, h, s2, ?_, by simpa using ho⟩
  have : s1.out.toList = enc := by simpa using hout
  rw [this]; exact hd

end Lzma.C04
