/-
  C04 (LZMA part) — the literal-only `.lzma` encoder of lzma-rs (`encode/dumbencoder.rs`,
  `lzma_compress_with_options`) is format-conformant and round-trips.

  * `dumb_enc_is_refenc`: for every input, every fragmentation of the input reader and every
    `UnpackedSize` option, on an all-accepting sink the encoder succeeds and writes exactly
    `lzmaHeader ⟨3,0,2⟩ 0x00800000 size ++ encodeSyms ⟨3,0,2⟩ dict prog`, where `encodeSyms` is the
    format-level reference encoder (`LzmaSpec/Sym.lean`) and `prog` is "every input byte as a
    literal, followed by the end marker iff the option is `WriteToHeader(None)`".
  * `marker_range_divisible` / `marker_direct_eq_fresh`: the delicate step.  lzma-rs codes all
    41 marker bits after `is_match` with a fresh probability `0x400`; the format codes 26 of
    them as direct bits.  The two codings coincide because `2^11 ∣ range` at every one of these
    positions, whatever the coder state before the marker was.
  * `lzma_enc_roundtrip_partial`: the round trip for the three matching option pairs, relative to
    three hypotheses that state decoder exactness for these parameters.  One of them,
    `DecodeExactSized`, puts no bound on the output size and is refutable for that reason
    (`decodeExactSized_false` in `C04RoundTrip.lean`: an 8-byte size field cannot hold `2^64`), so
    the theorem carries no content; the round trip without hypotheses about the decoder is
    `lzma_enc_roundtrip` in `C04RoundTrip.lean`.  `WriteToHeader(Some(n))` with `n ≠ len` is
    documented by the crate as unchecked and is not claimed
    (`writeToHeader_wrong_size_no_roundtrip` shows that it fails).
-/
import LzmaProofs.Lemmas.DumbEnc
namespace Lzma.C04
open Lzma
open Lzma.REnc
open Lzma.DumbEnc

/-- the size field of the header for an encoder option: all-ones, `n`, or no size field -/
theorem hdrSize_def :
    hdrSize (.writeToHeader none) = some 0xFFFFFFFFFFFFFFFF ∧
    (∀ n, hdrSize (.writeToHeader (some n)) = some n) ∧
    hdrSize .skipWritingToHeader = none := ⟨rfl, fun _ => rfl, rfl⟩

/-- the header the encoder writes: properties byte `0x5D`, dictionary size `0x00800000` LE,
then the size field -/
theorem header_bytes (opt : EncSizeOpt) :
    lzmaHeader ⟨3, 0, 2⟩ 0x00800000 (hdrSize opt) =
      [0x5D, 0x00, 0x00, 0x80, 0x00] ++ (match hdrSize opt with
        | some n => leBytes 8 n
        | none => []) := by
  cases opt with
  | skipWritingToHeader => decide
  | writeToHeader x => cases x <;> simp [lzmaHeader, hdrSize, leBytes] <;> decide

/-- C04 (LZMA), format conformance, any all-accepting sink. -/
theorem dumb_enc_is_refenc_sink (data : Bytes) (fr : List Nat) (opt : EncSizeOpt) (dict : Nat)
    (snk0 : Sink) (h0 : snk0.script = []) :
    ∃ snk, lzmaCompress { rem := data, frags := fr } opt snk0 = (snk, .ok ()) ∧
      snk.script = [] ∧
      snk.out.toList = snk0.out.toList ++ (lzmaHeader ⟨3, 0, 2⟩ 0x00800000 (hdrSize opt) ++
        encodeSyms ⟨3, 0, 2⟩ dict
          (data.map Sym.lit ++ (if opt = .writeToHeader none then [.eos] else []))) := by
  have h : Emits (lzmaCompress { rem := data, frags := fr } opt) () _ :=
    (emits_fromStream opt).bind (process_sim dict data fr opt)
  exact h snk0 h0

/-- C04 (LZMA), format conformance.  For every input `data`, every read fragmentation
`fr`, every option `opt` (and every dictionary limit `dict` given to the reference encoder —
literals never consult it), `lzma_compress_with_options` succeeds on the perfect sink and its
output is the `.lzma` header followed by the reference encoding of the literal program. -/
theorem dumb_enc_is_refenc (data : Bytes) (fr : List Nat) (opt : EncSizeOpt) (dict : Nat) :
    ∃ snk, lzmaCompress { rem := data, frags := fr } opt {} = (snk, .ok ()) ∧
      snk.out.toList = lzmaHeader ⟨3, 0, 2⟩ 0x00800000 (hdrSize opt) ++
        encodeSyms ⟨3, 0, 2⟩ dict
          (data.map Sym.lit ++ (if opt = .writeToHeader none then [.eos] else [])) := by
  obtain ⟨snk, h, _, ho⟩ := dumb_enc_is_refenc_sink data fr opt dict {} rfl
  exact ⟨snk, h, by simpa using ho⟩

theorem dumb_enc_is_refenc_nomarker (data : Bytes) (fr : List Nat) (opt : EncSizeOpt) (dict : Nat)
    (hopt : opt ≠ .writeToHeader none) :
    ∃ snk, lzmaCompress { rem := data, frags := fr } opt {} = (snk, .ok ()) ∧
      snk.out.toList = lzmaHeader ⟨3, 0, 2⟩ 0x00800000 (hdrSize opt) ++
        encodeSyms ⟨3, 0, 2⟩ dict (data.map Sym.lit) := by
  obtain ⟨snk, h, ho⟩ := dumb_enc_is_refenc data fr opt dict
  rw [if_neg hopt, List.append_nil] at ho
  exact ⟨snk, h, ho⟩

theorem dumb_enc_is_refenc_marker (data : Bytes) (fr : List Nat) (dict : Nat) :
    ∃ snk, lzmaCompress { rem := data, frags := fr } (.writeToHeader none) {} = (snk, .ok ()) ∧
      snk.out.toList = lzmaHeader ⟨3, 0, 2⟩ 0x00800000 (some 0xFFFFFFFFFFFFFFFF) ++
        encodeSyms ⟨3, 0, 2⟩ dict (data.map Sym.lit ++ [.eos]) := by
  obtain ⟨snk, h, ho⟩ := dumb_enc_is_refenc data fr (.writeToHeader none) dict
  rw [if_pos rfl] at ho
  exact ⟨snk, h, ho⟩

/-! ### non-vacuity: both sides evaluated by the kernel -/

/-- does the modelled encoder succeed with exactly the reference bytes? -/
def agrees (data : Bytes) (opt : EncSizeOpt) : Bool :=
  let r := lzmaCompress { rem := data } opt {}
  (match r.2 with
    | .ok _ => true
    | .error _ => false) &&
  r.1.out.toList == lzmaHeader ⟨3, 0, 2⟩ 0x00800000 (hdrSize opt) ++
    encodeSyms ⟨3, 0, 2⟩ 0x00800000
      (data.map Sym.lit ++ (if opt = .writeToHeader none then [.eos] else []))

/-- did the run end without error? -/
def succeeded {α : Type} (r : Sink × Except Err α) : Bool :=
  match r.2 with
  | .ok _ => true
  | .error _ => false

/-- the run ended without error and left exactly `bs` in the sink -/
def wrote {α : Type} (r : Sink × Except Err α) (bs : Bytes) : Bool :=
  succeeded r && r.1.out.toList == bs

theorem wrote_iff {α : Type} {r : Sink × Except Err α} {bs : Bytes} :
    wrote r bs = true ↔ succeeded r = true ∧ r.1.out.toList = bs := by
  simp [wrote]

/-- `agrees` from one run of each encoder: `pay` is the reference payload of the program `prog` -/
theorem agrees_of {data : Bytes} {opt : EncSizeOpt} {prog : List Sym} {pay : Bytes}
    (hp : data.map Sym.lit ++ (if opt = .writeToHeader none then [.eos] else []) = prog)
    (he : encodeSyms ⟨3, 0, 2⟩ 0x00800000 prog = pay)
    (hc : wrote (lzmaCompress { rem := data } opt {})
      (lzmaHeader ⟨3, 0, 2⟩ 0x00800000 (hdrSize opt) ++ pay) = true) : agrees data opt = true := by
  subst hp he
  unfold agrees
  unfold wrote succeeded at hc
  generalize lzmaCompress { rem := data } opt {} = r at hc ⊢
  rcases r with ⟨s, _ | _⟩ <;> exact hc

/-! The runs on `[0, 0, 0, 0, 0xFF]` without end marker; the `agrees` and `roundTrips` examples
combine them. -/

theorem refenc_0000FF : encodeSyms ⟨3, 0, 2⟩ 0x00800000 [.lit 0, .lit 0, .lit 0, .lit 0, .lit 0xFF] =
    [0, 0, 0, 0, 0, 33, 250, 106, 64, 0] := by decide +kernel

theorem compress_0000FF_sized :
    wrote (lzmaCompress { rem := [0, 0, 0, 0, 0xFF] } (.writeToHeader (some 5)) {})
      (lzmaHeader ⟨3, 0, 2⟩ 0x00800000 (hdrSize (.writeToHeader (some 5))) ++
        [0, 0, 0, 0, 0, 33, 250, 106, 64, 0]) = true := by decide +kernel

theorem compress_0000FF_skip : wrote (lzmaCompress { rem := [0, 0, 0, 0, 0xFF] } .skipWritingToHeader {})
    (lzmaHeader ⟨3, 0, 2⟩ 0x00800000 (hdrSize .skipWritingToHeader) ++
      [0, 0, 0, 0, 0, 33, 250, 106, 64, 0]) = true := by decide +kernel

example : agrees [] (.writeToHeader none) = true := by decide +kernel
example : agrees [] (.writeToHeader (some 0)) = true := by decide +kernel
example : agrees [] .skipWritingToHeader = true := by decide +kernel
example : agrees [0x61] (.writeToHeader none) = true := by decide +kernel
example : agrees [0x61] (.writeToHeader (some 1)) = true := by decide +kernel
example : agrees [0, 0, 0, 0, 0xFF] (.writeToHeader none) = true := by decide +kernel
example : agrees [0, 0, 0, 0, 0xFF] (.writeToHeader (some 5)) = true :=
  agrees_of (by decide) refenc_0000FF compress_0000FF_sized
example : agrees [0, 0, 0, 0, 0xFF] .skipWritingToHeader = true :=
  agrees_of (by decide) refenc_0000FF compress_0000FF_skip

/-- the empty input with end marker, spelled out (13 header bytes, 10 payload bytes) -/
example : (lzmaCompress { rem := [] } (.writeToHeader none) {}).1.out.toList =
    [93, 0, 0, 128, 0, 255, 255, 255, 255, 255, 255, 255, 255,
     0, 131, 255, 251, 255, 255, 192, 0, 0, 0] := by decide +kernel

/-- From any consistent range-coder state `e` (in particular
the one after the marker's `is_match` bit, whose probability is not `0x400` in general): after
the marker's `is_rep` bit (0), four length bits (0) and six position-slot bits (1), all coded
with probability `0x400`, and after any number `k` of further one-bits coded with probability
`0x400`, the range is a multiple of `2^11`. -/
theorem marker_range_divisible (e : REnc) (he : EOk e) (k : Nat) :
    2 ^ 11 ∣ (freshRun ((false :: (List.replicate 4 false ++ List.replicate 6 true)) ++
      List.replicate k true) e).1.range :=
  Lzma.marker_range_divisible e he k

/-- when `2^11 ∣ range`, coding a bit with probability `0x400` is coding a direct bit
(same `low`, same `range`, same bytes shifted out) -/
theorem direct_eq_fresh_of_divisible (e : REnc) (b : Bool) (h : 2 ^ 11 ∣ e.range) :
    stepDirect e b = stepBit e 0x400 b :=
  stepDirect_eq_stepBit e b (Nat.mod_eq_zero_of_dvd h)

/-- the divisibility is needed: on the fresh coder (`range = 0xFFFFFFFF`) the two codings of
a one-bit differ -/
theorem direct_ne_fresh_in_general : stepDirect {} true ≠ stepBit {} 0x400 true := by
  decide +kernel

/-- the marker, whole.  From any consistent state, the format's events for the end
marker after its `isMatch` bit (`markerTail ps`: probability-coded bits whose table entries
are all still `0x400`, and 26 direct bits) and lzma-rs's 41 `0x400`-coded bits (`markerBits`)
drive the range coder identically: same final state, same bytes. -/
theorem marker_direct_eq_fresh (ps : Nat) (e : REnc) (he : EOk e) :
    ev400Run (markerTail ps) e = freshRun markerBits e := marker_eq ps e he

/-- `markerTail` is what the format prescribes for the end marker in a literal-only stream -/
theorem marker_events (c : ECtx) (h0 : c.state = 0) :
    rawSymEvents c (Sym.toRaw .eos) = .pbit (.isMatch c.posState) true :: markerTail c.posState :=
  rawSymEvents_eos c h0

/-- a literal-only program has left every table the marker reads (other than `isMatch`) at
`0x400`; `d` is any state of the Rust encoder's tables -/
theorem marker_tables_fresh (d : DumbEnc) (k v ps : Nat) (hps : ps < 4) :
    Fresh400 (d.toProbs.set (.isMatch k) v) (markerTail ps) := markerTail_fresh d k v ps hps

/-- statement of `lzma_decode_exact_sized` for given properties and dictionary field: the
decoder on header (with size field) + reference encoding of a marker-free program + any
trailing bytes `T` returns the program's meaning and stops exactly before `T` -/
def DecodeExactSized (props : Props) (D : Nat) : Prop :=
  ∀ (prog : List Sym) (st : SpecSt) (T : Bytes), Sym.eos ∉ prog →
    SpecSt.run (max D 4096) {} prog = some (st, false) →
    ∃ snk, lzmaDecompress (Rd.ofBytes (lzmaHeader props D (some st.hist.size) ++
        encodeSyms props (max D 4096) prog ++ T)) {} {} = (snk, .ok { rem := T }) ∧
      snk.out.toList = st.hist.toList

/-- statement of `lzma_decode_exact_marker`: all-ones size field, program ended by the marker -/
def DecodeExactMarker (props : Props) (D : Nat) : Prop :=
  ∀ (prog : List Sym) (st : SpecSt), Sym.eos ∉ prog →
    SpecSt.run (max D 4096) {} prog = some (st, false) →
    ∃ snk, lzmaDecompress (Rd.ofBytes (lzmaHeader props D (some 0xFFFFFFFFFFFFFFFF) ++
        encodeSyms props (max D 4096) (prog ++ [.eos]))) {} {} = (snk, .ok { rem := [] }) ∧
      snk.out.toList = st.hist.toList

/-- the 5-byte-header variant of `lzma_decode_exact_sized`: no size field, the size is
provided by the caller (`UnpackedSize::UseProvided(Some(n))`) -/
def DecodeExactProvided (props : Props) (D : Nat) : Prop :=
  ∀ (prog : List Sym) (st : SpecSt) (T : Bytes), Sym.eos ∉ prog →
    SpecSt.run (max D 4096) {} prog = some (st, false) →
    ∃ snk, lzmaDecompress (Rd.ofBytes (lzmaHeader props D none ++
        encodeSyms props (max D 4096) prog ++ T))
        { unpackedSize := .useProvided (some st.hist.size) } {} = (snk, .ok { rem := T }) ∧
      snk.out.toList = st.hist.toList

/-- the meaning of the literal program is the input -/
theorem run_lits (dict : Nat) : ∀ (data : Bytes) (st : SpecSt),
    ∃ st', SpecSt.run dict st (data.map Sym.lit) = some (st', false) ∧
      st'.hist = st.hist ++ data.toArray
  | [], st => ⟨st, rfl, by simp⟩
  | b :: data, st => by
    obtain ⟨st', h1, h2⟩ := run_lits dict data
      { st with hist := st.hist.push b, state := SpecSt.litState st.state }
    refine ⟨st', ?_, by rw [h2]; simp⟩
    simp only [List.map_cons, SpecSt.run, SpecSt.step]
    exact h1

theorem lits_no_eos (data : Bytes) : Sym.eos ∉ data.map Sym.lit := by simp

/-- the decoder option that matches an encoder option -/
def decOptions (opt : EncSizeOpt) (len : Nat) : Options :=
  match opt with
  | .writeToHeader _ => {}
  | .skipWritingToHeader => { unpackedSize := .useProvided (some len) }

/-- C04 (LZMA), round trip — relative to the decoder exactness theorems for
`lc = 3, lp = 0, pb = 2`, dictionary field `0x00800000` (hypotheses `hS`, `hM`, `hP`).
For every input, fragmentation, and each of the matching option pairs
(`WriteToHeader(None)` / `ReadFromHeader`, `WriteToHeader(Some(len))` / `ReadFromHeader`,
`SkipWritingToHeader` / `UseProvided(Some(len))`), decoding the encoder's output yields the
input and consumes all of it.  `_partial`: `WriteToHeader(Some(n))` with `n ≠ len` is excluded
(see `writeToHeader_wrong_size_no_roundtrip`). -/
theorem lzma_enc_roundtrip_partial
    (hS : DecodeExactSized ⟨3, 0, 2⟩ 0x00800000) (hM : DecodeExactMarker ⟨3, 0, 2⟩ 0x00800000)
    (hP : DecodeExactProvided ⟨3, 0, 2⟩ 0x00800000)
    (data : Bytes) (fr : List Nat) (opt : EncSizeOpt)
    (hopt : ∀ n, opt = .writeToHeader (some n) → n = data.length) :
    ∃ snk snk', lzmaCompress { rem := data, frags := fr } opt {} = (snk, .ok ()) ∧
      lzmaDecompress (Rd.ofBytes snk.out.toList) (decOptions opt data.length) {} =
        (snk', .ok { rem := [] }) ∧
      snk'.out.toList = data := by
  obtain ⟨snk, hc, ho⟩ := dumb_enc_is_refenc data fr opt (max 0x00800000 4096)
  obtain ⟨st, hrun, hhist⟩ := run_lits (max 0x00800000 4096) data {}
  have hlist : st.hist.toList = data := by rw [hhist]; simp
  have hsize : st.hist.size = data.length := by rw [hhist]; simp
  refine ⟨snk, ?_⟩
  rw [ho]
  cases opt with
  | skipWritingToHeader =>
    obtain ⟨snk', hd, hout⟩ := hP _ st [] (lits_no_eos data) hrun
    refine ⟨snk', hc, ?_, by rw [hout, hlist]⟩
    rw [hsize, List.append_nil] at hd
    simpa [decOptions, hdrSize] using hd
  | writeToHeader x =>
    cases x with
    | none =>
      obtain ⟨snk', hd, hout⟩ := hM _ st (lits_no_eos data) hrun
      refine ⟨snk', hc, ?_, by rw [hout, hlist]⟩
      simpa [decOptions, hdrSize] using hd
    | some n =>
      obtain rfl := hopt n rfl
      obtain ⟨snk', hd, hout⟩ := hS _ st [] (lits_no_eos data) hrun
      refine ⟨snk', hc, ?_, by rw [hout, hlist]⟩
      rw [hsize, List.append_nil] at hd
      simpa [decOptions, hdrSize] using hd

/-- why the excluded case is excluded: with `WriteToHeader(Some(0))` on a one-byte input the
encoder succeeds and the decoder (which trusts the header) succeeds too, but returns the
empty output -/
theorem writeToHeader_wrong_size_no_roundtrip :
    succeeded (lzmaCompress { rem := [0x61] } (.writeToHeader (some 0)) {}) = true ∧
    succeeded (lzmaDecompress (Rd.ofBytes
      (lzmaCompress { rem := [0x61] } (.writeToHeader (some 0)) {}).1.out.toList) {} {}) = true ∧
    (lzmaDecompress (Rd.ofBytes
      (lzmaCompress { rem := [0x61] } (.writeToHeader (some 0)) {}).1.out.toList) {} {}).1.out.toList
        = [] := by
  have hc : wrote (lzmaCompress { rem := [0x61] } (.writeToHeader (some 0)) {})
      [93, 0, 0, 128, 0, 0, 0, 0, 0, 0, 0, 0, 0, 0, 48, 127, 252, 0, 0] = true := by decide +kernel
  obtain ⟨h1, h2⟩ := wrote_iff.1 hc
  rw [h2]
  exact ⟨h1, wrote_iff.1 (by decide +kernel)⟩

/-! ### non-vacuity of the round trip: the three pairs, evaluated -/

/-- encode, decode, compare -/
def roundTrips (data : Bytes) (opt : EncSizeOpt) : Bool :=
  let r := lzmaCompress { rem := data } opt {}
  let d := lzmaDecompress (Rd.ofBytes r.1.out.toList) (decOptions opt data.length) {}
  (match d.2 with
    | .ok rd => rd.rem.isEmpty
    | .error _ => false) && d.1.out.toList == data

example : roundTrips [0, 0, 0, 0, 0xFF] (.writeToHeader none) = true := by decide +kernel
example : roundTrips [0, 0, 0, 0, 0xFF] (.writeToHeader (some 5)) = true := by
  simp only [roundTrips, (wrote_iff.1 compress_0000FF_sized).2]
  decide +kernel
example : roundTrips [0, 0, 0, 0, 0xFF] .skipWritingToHeader = true := by
  simp only [roundTrips, (wrote_iff.1 compress_0000FF_skip).2]
  decide +kernel
example : roundTrips [] (.writeToHeader none) = true := by decide +kernel

/-- does the decoder return `expected` and consume the whole input? -/
def decodesTo (input : Bytes) (opts : Options) (expected : Bytes) : Bool :=
  let d := lzmaDecompress (Rd.ofBytes input) opts {}
  (match d.2 with
    | .ok rd => rd.rem.isEmpty && !rd.bad
    | .error _ => false) && d.1.out.toList == expected

/-- the decoder sees header and options only through `read_header` and the memory limit -/
theorem decodesTo_congr {inp inp' : Bytes} {opts opts' : Options}
    (hh : readHeader (Rd.ofBytes inp) opts = readHeader (Rd.ofBytes inp') opts')
    (hm : opts.memlimit = opts'.memlimit) (expected : Bytes) :
    decodesTo inp opts expected = decodesTo inp' opts' expected := by
  unfold decodesTo lzmaDecompress
  rw [hh, hm]

theorem refenc_ab : encodeSyms ⟨3, 0, 2⟩ (max 0x00800000 4096) [Sym.lit 0x61, Sym.lit 0x62] =
    [0, 48, 152, 124, 0, 0, 0] := by decide +kernel

theorem decodes_ab_sized : decodesTo (lzmaHeader ⟨3, 0, 2⟩ 0x00800000 (some 2) ++
    [0, 48, 152, 124, 0, 0, 0]) {} [0x61, 0x62] = true := by decide +kernel

/-- the hypotheses of `lzma_enc_roundtrip_partial` are universally quantified statements about
concrete streams; instances of `DecodeExactMarker`, `DecodeExactSized`, `DecodeExactProvided`
(program `[lit 0x61, lit 0x62]`) hold by evaluation -/
example : decodesTo (lzmaHeader ⟨3, 0, 2⟩ 0x00800000 (some 0xFFFFFFFFFFFFFFFF) ++
    encodeSyms ⟨3, 0, 2⟩ (max 0x00800000 4096) ([Sym.lit 0x61, Sym.lit 0x62] ++ [.eos])) {}
    [0x61, 0x62] = true := by decide +kernel
example : decodesTo (lzmaHeader ⟨3, 0, 2⟩ 0x00800000 (some 2) ++
    encodeSyms ⟨3, 0, 2⟩ (max 0x00800000 4096) [Sym.lit 0x61, Sym.lit 0x62]) {}
    [0x61, 0x62] = true := by
  rw [refenc_ab]
  exact decodes_ab_sized
/-- behind the header the run is that of the previous example: same parameters, same size in
effect, same payload -/
example : decodesTo (lzmaHeader ⟨3, 0, 2⟩ 0x00800000 none ++
    encodeSyms ⟨3, 0, 2⟩ (max 0x00800000 4096) [Sym.lit 0x61, Sym.lit 0x62])
    { unpackedSize := .useProvided (some 2) } [0x61, 0x62] = true := by
  rw [refenc_ab]
  exact (decodesTo_congr (opts := { unpackedSize := .useProvided (some 2) }) (opts' := {})
    (by rfl) rfl _).trans decodes_ab_sized

end Lzma.C04
