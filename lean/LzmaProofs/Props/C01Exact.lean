/-
  C01 — LZMA decoding is exact for every well-formed stream: end to end.

  `lzmaDecompress` (header, `LzmaDecoder::new`, `RangeDecoder::new`, the symbol loop of
  `process_mode(Finish)`, the circular window, `finish`) applied to
  `lzmaHeader … ++ encodeSyms props dict prog ++ T` — the bytes the reference encoder produces
  for any symbol program `prog` that is well-formed in the format-level semantics `SpecSt.run` —
  returns exactly the bytes the program denotes (`expand`), flushes, and leaves the reader
  exactly behind the payload.  Composed from the range-coder simulation (`RangeCoder.lean`), the
  symbol layer (`SymLayerDist.lean`), the window theorems (`Window.lean`), the loop analysis
  (`ProcessMode.lean`) and the termination theorem (`SafetyLoop.lean`).
-/
import LzmaProofs.Lemmas.DecodeExactTop
import LzmaProofs.Props.C08
namespace Lzma.C01
open Lzma DState REnc

/-- the bytes a well-formed program denotes, in terms of `expand` -/
theorem expand_eq {dict : Nat} {prog : List Sym} {st : SpecSt} {b : Bool}
    (h : SpecSt.run dict {} prog = some (st, b)) : expand dict prog = some st.hist.toList := by
  simp [expand, h]

/-- End-to-end exactness, size in the header.  For all properties `lc ≤ 8, lp ≤ 4, pb ≤ 4`,
every dictionary field `D < 2^32`, every program `prog` (no end marker) that is well-formed for
the dictionary size in effect `max D 4096`, every trailing input `T`, every perfect sink, with
`unpacked_size` read from the header and any memory limit that admits the window
(`min (output size) (dictionary size)`; `None` always does):
`lzma_decompress` succeeds, the sink receives exactly the bytes the program denotes, the last
sink call is a flush, and the reader is left exactly behind the payload (`rem = T`).
(`hsize`: the 8-byte size field `2^64 − 1` means "unknown", so that size is excluded.) -/
theorem lzma_decode_exact_sized (props : Props) (hp : props.lc ≤ 8 ∧ props.lp ≤ 4 ∧ props.pb ≤ 4)
    (D : Nat) (hD : D < 2 ^ 32) (prog : List Sym) (st : SpecSt)
    (hrun : SpecSt.run (max D 4096) {} prog = some (st, false))
    (hsize : st.hist.size < 0xFFFFFFFFFFFFFFFF) (T : Bytes) (opts : Options)
    (hopt : opts.unpackedSize = .readFromHeader)
    (hmem : min st.hist.size (max D 4096) ≤ opts.memlimit.getD USIZE_MAX)
    (snk0 : Sink) (hs0 : snk0.script = []) :
    ∃ snk, lzmaDecompress (Rd.ofBytes (lzmaHeader props D (some st.hist.size) ++
          encodeSyms props (max D 4096) prog ++ T)) opts snk0 = (snk, .ok { rem := T }) ∧
      snk.out = snk0.out ++ st.hist ∧ snk.lastFlush = true := by
  have hhdr := hdrReads_lzmaHeader hp hD (field := st.hist.size) (by omega) hopt
  rw [sizeOfField, if_neg (by omega)] at hhdr
  rw [List.append_assoc]
  exact decode_exact_sized hp (by omega) hrun T hhdr hmem snk0 hs0

/-- End-to-end exactness, end marker.  Same, with the size field all-ones ("unknown"), the
program followed by the end-of-stream marker, and nothing after the payload: `lzma_decompress`
succeeds, delivers exactly the bytes of `prog`, and consumes the whole input.  (The clean-EOF
exit of the loop — `code = 0` and reader empty — cannot fire before the marker: coding the
marker shifts at least one more byte out of the range coder, `forcesRead_marker`.) -/
theorem lzma_decode_exact_marker (props : Props) (hp : props.lc ≤ 8 ∧ props.lp ≤ 4 ∧ props.pb ≤ 4)
    (D : Nat) (hD : D < 2 ^ 32) (prog : List Sym) (st : SpecSt)
    (hrun : SpecSt.run (max D 4096) {} prog = some (st, false)) (opts : Options)
    (hopt : opts.unpackedSize = .readFromHeader)
    (hmem : min st.hist.size (max D 4096) ≤ opts.memlimit.getD USIZE_MAX)
    (snk0 : Sink) (hs0 : snk0.script = []) :
    ∃ snk, lzmaDecompress (Rd.ofBytes (lzmaHeader props D (some 0xFFFFFFFFFFFFFFFF) ++
          encodeSyms props (max D 4096) (prog ++ [.eos]))) opts snk0 = (snk, .ok { rem := [] }) ∧
      snk.out = snk0.out ++ st.hist ∧ snk.lastFlush = true :=
  decode_exact_marker hp (by omega) hrun (hdrReads_lzmaHeader hp hD (by omega) hopt) hmem snk0 hs0

/-- both theorems in terms of `expand`: the sink receives `expand dict prog` -/
theorem lzma_decode_exact_expand (props : Props) (hp : props.lc ≤ 8 ∧ props.lp ≤ 4 ∧ props.pb ≤ 4)
    (D : Nat) (hD : D < 2 ^ 32) (prog : List Sym) (out : Bytes)
    (hexp : expand (max D 4096) prog = some out) (hne : Sym.eos ∉ prog)
    (hsize : out.length < 0xFFFFFFFFFFFFFFFF) (T : Bytes) :
    ∃ snk, lzmaDecompress (Rd.ofBytes (lzmaHeader props D (some out.length) ++
          encodeSyms props (max D 4096) prog ++ T)) {} {} = (snk, .ok { rem := T }) ∧
      snk.out.toList = out ∧ snk.lastFlush = true := by
  unfold expand at hexp
  obtain ⟨⟨st, b⟩, hrun, hout⟩ := Option.map_eq_some_iff.1 hexp
  simp only at hout
  have hb := SpecSt.run_flag prog {} st b hne hrun
  subst hb
  have hl : out.length = st.hist.size := by rw [← hout]; simp
  obtain ⟨snk, h1, h2, h3⟩ := lzma_decode_exact_sized props hp D hD prog st hrun (by omega) T {} rfl
    (min_le_getD_none _ (by omega)) {} rfl
  rw [hl]
  exact ⟨snk, h1, by rw [h2, ← hout]; simp, h3⟩

/-! ## corollaries -/

/-- The declared dictionary size does not matter as long as every match distance fits: if
`prog` is well-formed for the dictionary sizes in effect under header fields `D` and `D'`, then
the reference encoder produces the same payload for both, the program denotes the same bytes,
and the two files decode to the same output. -/
theorem dict_field_irrelevant (props : Props) (hp : props.lc ≤ 8 ∧ props.lp ≤ 4 ∧ props.pb ≤ 4)
    (D D' : Nat) (hD : D < 2 ^ 32) (hD' : D' < 2 ^ 32) (prog : List Sym) (st st' : SpecSt)
    (hrun : SpecSt.run (max D 4096) {} prog = some (st, false))
    (hrun' : SpecSt.run (max D' 4096) {} prog = some (st', false))
    (hsize : st.hist.size < 0xFFFFFFFFFFFFFFFF) (T : Bytes) (opts : Options)
    (hopt : opts.unpackedSize = .readFromHeader)
    (hmem : min st.hist.size (max D 4096) ≤ opts.memlimit.getD USIZE_MAX)
    (hmem' : min st.hist.size (max D' 4096) ≤ opts.memlimit.getD USIZE_MAX)
    (snk0 : Sink) (hs0 : snk0.script = []) :
    st' = st ∧ encodeSyms props (max D' 4096) prog = encodeSyms props (max D 4096) prog ∧
    ∃ snk snk',
      lzmaDecompress (Rd.ofBytes (lzmaHeader props D (some st.hist.size) ++
        encodeSyms props (max D 4096) prog ++ T)) opts snk0 = (snk, .ok { rem := T }) ∧
      lzmaDecompress (Rd.ofBytes (lzmaHeader props D' (some st.hist.size) ++
        encodeSyms props (max D 4096) prog ++ T)) opts snk0 = (snk', .ok { rem := T }) ∧
      snk.out = snk'.out ∧ snk.out = snk0.out ++ st.hist := by
  obtain rfl : st' = st := (Prod.mk.inj (SpecSt.run_dict_indep hrun' hrun)).1
  have henc := encodeSyms_dict_indep (props := props) hrun' hrun
  refine ⟨rfl, henc, ?_⟩
  obtain ⟨snk, h1, h2, -⟩ := lzma_decode_exact_sized props hp D hD prog st' hrun hsize T opts hopt hmem snk0 hs0
  obtain ⟨snk', h1', h2', -⟩ := lzma_decode_exact_sized props hp D' hD' prog st' hrun' hsize T opts hopt
    hmem' snk0 hs0
  rw [henc] at h1'
  exact ⟨snk, snk', h1, h1', by rw [h2, h2'], h2⟩

/-- A dictionary field below 4096 behaves as 4096: for `D < 4096` the file with header field
`D` decodes exactly like the file with header field `4096` (same verdict, same reader, same
sink) — for any payload (`C08.dict_below_4096_decompress_same`); and for a reference-encoded
program well-formed for 4096 both decode exactly. -/
theorem dict_below_4096 (props : Props) (hp : props.lc ≤ 8 ∧ props.lp ≤ 4 ∧ props.pb ≤ 4)
    (D : Nat) (hD : D < 4096) (prog : List Sym) (st : SpecSt)
    (hrun : SpecSt.run 4096 {} prog = some (st, false))
    (hsize : st.hist.size < 0xFFFFFFFFFFFFFFFF) (T : Bytes) (opts : Options)
    (hopt : opts.unpackedSize = .readFromHeader)
    (hmem : min st.hist.size 4096 ≤ opts.memlimit.getD USIZE_MAX)
    (snk0 : Sink) (hs0 : snk0.script = []) :
    ∃ snk,
      lzmaDecompress (Rd.ofBytes (lzmaHeader props D (some st.hist.size) ++
        encodeSyms props 4096 prog ++ T)) opts snk0 = (snk, .ok { rem := T }) ∧
      lzmaDecompress (Rd.ofBytes (lzmaHeader props 4096 (some st.hist.size) ++
        encodeSyms props 4096 prog ++ T)) opts snk0 = (snk, .ok { rem := T }) ∧
      snk.out = snk0.out ++ st.hist ∧ snk.lastFlush = true := by
  have e1 : max D 4096 = 4096 := by omega
  obtain ⟨snk, h1, h2, h3⟩ := lzma_decode_exact_sized props hp D (by omega) prog st (by rwa [e1])
    hsize T opts hopt (by rwa [e1]) snk0 hs0
  rw [e1] at h1
  refine ⟨snk, h1, ?_, h2, h3⟩
  -- the two runs are the same computation: the header fields denote the same dictionary size
  have hsame := C08.dict_below_4096_decompress_same
    (UInt8.ofNat (props.lc + 9 * (props.lp + 5 * props.pb))) (leBytes 4 D) (leBytes 4 4096)
    (leBytes 8 st.hist.size ++ encodeSyms props 4096 prog ++ T) false opts
    (leBytes_length _ _) (leBytes_length _ _)
    (by rw [leVal_leBytes 4 D (by omega)]; omega) (by decide) snk0
  have hl : ∀ d, Rd.ofBytes (lzmaHeader props d (some st.hist.size) ++ encodeSyms props 4096 prog ++ T) =
      ⟨UInt8.ofNat (props.lc + 9 * (props.lp + 5 * props.pb)) :: leBytes 4 d ++
        (leBytes 8 st.hist.size ++ encodeSyms props 4096 prog ++ T), false⟩ := by
    intro d; simp [Rd.ofBytes, lzmaHeader, List.append_assoc]
  rw [← hl, ← hl, h1] at hsame
  exact hsame.symm

/-! ## stream-level C09: a copy that reaches outside the window is rejected -/

/-- A copy reaching outside the window is rejected, at the stream level.  Let `good` be a
well-formed program, `bad` a syntactically valid copy symbol whose distance exceeds
`min (bytes produced so far) (dictionary size)` (`Sym.OutOfWindow`: a match with too large a
distance, or a short rep / rep match whose remembered distance is too large), and `rest` any
further symbols (raw-encodable).  The reference encoder encodes such programs too.  On that
stream — with a size field larger than the output of `good`, or with size "unknown" and a
non-empty tail — `lzma_decompress` returns `LzmaError`, and the sink holds exactly the laps of
`good`'s output flushed so far: a prefix of the meaning of `good`.  (`bad` makes the program
meaningless: `Sym.OutOfWindow.step_none`.) -/
theorem reject_out_of_window (props : Props) (hp : props.lc ≤ 8 ∧ props.lp ≤ 4 ∧ props.pb ≤ 4)
    (D : Nat) (hD : D < 2 ^ 32) (good : List Sym) (bad : Sym) (rest : List Sym) (st : SpecSt)
    (hrun : SpecSt.run (max D 4096) {} good = some (st, false))
    (hbad : bad.OutOfWindow (max D 4096) st) (hrest : ∀ s ∈ rest, Sym.RawOk s)
    (field : Nat) (T : Bytes)
    (hfield : (field < 0xFFFFFFFFFFFFFFFF ∧ st.hist.size < field) ∨
      (field = 0xFFFFFFFFFFFFFFFF ∧ T ≠ []))
    (opts : Options) (hopt : opts.unpackedSize = .readFromHeader)
    (hmem : min st.hist.size (max D 4096) ≤ opts.memlimit.getD USIZE_MAX)
    (snk0 : Sink) (hs0 : snk0.script = []) :
    SpecSt.run (max D 4096) {} (good ++ [bad] ++ rest) = none ∧
    ∃ snk, lzmaDecompress (Rd.ofBytes (lzmaHeader props D (some field) ++
          encodeSyms props (max D 4096) (good ++ [bad] ++ rest) ++ T)) opts snk0 =
        (snk, .error .lzma) ∧
      snk.out = snk0.out ++
        (st.hist.toList.take (flushedLen (max D 4096) st.hist.size)).toArray := by
  refine ⟨by rw [List.append_assoc]; exact SpecSt.run_append_none rest hbad.step_none good hrun, ?_⟩
  rw [List.append_assoc]
  refine decode_reject_outOfWindow hp (by omega) hrun hbad hrest T ?_
    (hdrReads_lzmaHeader hp hD (by omega) hopt) hmem snk0 hs0
  exact hfield.imp (fun ⟨h1, h2⟩ => ⟨field, if_neg (by omega), h2⟩) (fun ⟨h1, h2⟩ => ⟨if_pos h1, h2⟩)

/-! ## non-vacuity -/

/-- a program with a literal, a match, a short rep and a rep match -/
def demoProg : List Sym := [.lit 0x61, .lit 0x62, .mtch 2 3, .shortRep, .rep 0 2]

/-- it is well-formed (for dictionary field 0, i.e. 4096) and denotes `"abababab"`… -/
theorem demoProg_run : ∃ st, SpecSt.run (max 0 4096) {} demoProg = some (st, false) ∧
    st.hist.toList = [0x61, 0x62, 0x61, 0x62, 0x61, 0x62, 0x61, 0x62] :=
  ⟨{ hist := #[0x61, 0x62, 0x61, 0x62, 0x61, 0x62, 0x61, 0x62], state := 11, rep0 := 1 }, by rfl, rfl⟩

/-- …so `lzma_decode_exact_sized` applies to it (props `lc = lp = pb = 0`, trailing garbage
`[1, 2, 3]`, default options): all hypotheses hold -/
example : ∃ snk, lzmaDecompress (Rd.ofBytes (lzmaHeader ⟨0, 0, 0⟩ 0 (some 8) ++
      encodeSyms ⟨0, 0, 0⟩ 4096 demoProg ++ [1, 2, 3])) {} {} = (snk, .ok { rem := [1, 2, 3] }) ∧
    snk.out.toList = [0x61, 0x62, 0x61, 0x62, 0x61, 0x62, 0x61, 0x62] ∧ snk.lastFlush = true := by
  obtain ⟨st, hrun, hout⟩ := demoProg_run
  have hsz : st.hist.size = 8 := by rw [← Array.length_toList, hout]; rfl
  obtain ⟨snk, h1, h2, h3⟩ := lzma_decode_exact_sized ⟨0, 0, 0⟩ (by decide) 0 (by decide) demoProg st hrun
    (by omega) [1, 2, 3] {} rfl (min_le_getD_none _ (by omega)) {} rfl
  rw [hsz] at h1
  exact ⟨snk, h1, by rw [h2, ← hout]; simp, h3⟩

/-- …and `lzma_decode_exact_marker` -/
example : ∃ snk, lzmaDecompress (Rd.ofBytes (lzmaHeader ⟨0, 0, 0⟩ 0 (some 0xFFFFFFFFFFFFFFFF) ++
      encodeSyms ⟨0, 0, 0⟩ 4096 (demoProg ++ [.eos]))) {} {} = (snk, .ok { rem := [] }) ∧
    snk.out.toList = [0x61, 0x62, 0x61, 0x62, 0x61, 0x62, 0x61, 0x62] ∧ snk.lastFlush = true := by
  obtain ⟨st, hrun, hout⟩ := demoProg_run
  have hsz : st.hist.size = 8 := by rw [← Array.length_toList, hout]; rfl
  obtain ⟨snk, h1, h2, h3⟩ := lzma_decode_exact_marker ⟨0, 0, 0⟩ (by decide) 0 (by decide) demoProg st hrun
    {} rfl (min_le_getD_none _ (by omega)) {} rfl
  exact ⟨snk, h1, by rw [h2, ← hout]; simp, h3⟩

/-- non-vacuity of `reject_out_of_window`: after `"ab"`, a match at distance 3 (only 2 bytes
produced) -/
example : ∃ st, SpecSt.run (max 0 4096) {} [.lit 0x61, .lit 0x62] = some (st, false) ∧
    (Sym.mtch 3 2).OutOfWindow (max 0 4096) st ∧ (∀ s ∈ [Sym.lit 0x63, .eos], Sym.RawOk s) ∧
    st.hist.size < 100 :=
  ⟨{ hist := #[0x61, 0x62] }, by rfl, by decide, by decide, by decide⟩

end Lzma.C01
