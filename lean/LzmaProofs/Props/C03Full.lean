/-
  C03 + C02 — exactness of the XZ decoder on files with ARBITRARY well-formed LZMA2 payloads.

  `Props/C03.lean` proves the container layer relative to the payload decoder
  (`XzBlockSpec.Decodes`), `Props/C02Exact.lean` proves the LZMA2 decoder exact on
  `encode2 cs ++ [0]` for every well-formed chunk list `cs` (`WF2`).  Here the two are composed:
  the hypotheses of `xz_decode_exact_full` mention only format-level predicates
  (`XzBlockSpec.WF`, `WF2`, `encode2`, `expand2`, field widths) — no decoder function.
-/
import LzmaProofs.Props.C03
import LzmaProofs.Props.C02Exact
namespace Lzma.C03
open Lzma L2 L2E

/-- `decode_filter` is `lzma2_decompress` into a fresh `Vec` -/
theorem decodeFilter_of_lzma2 (x : UInt8) (rd rd' : Rd) (s' : Sink)
    (h : lzma2Decompress rd {} = (s', .ok rd')) :
    decodeFilter rd { props := [x] } = .ok (s'.out.toList, rd') := by
  unfold lzma2Decompress at h
  unfold decodeFilter
  rcases hn : Lzma2Decoder.new with e | d
  · simp [hn, bind, M.bind, liftE, throwM] at h
  · simp only [hn, bind, M.bind, liftE, M.pure] at h
    rcases hd : d.decompress rd {} with ⟨snk, e | ⟨d', r⟩⟩
    · simp [hd] at h
    · simp only [hd, pure, M.pure] at h
      cases h
      simp [bind, Except.bind, pure, Except.pure, hd]

/-- a block whose payload is the LZMA2 encoding of a well-formed chunk list followed by the end
byte, and whose declared meaning is the meaning of the chunk list (format-level predicate) -/
def _root_.Lzma.XzBlockSpec.IsLzma2 (b : XzBlockSpec) (cs : List SChunk) : Prop :=
  WF2 cs ∧ b.payload = encode2 cs ++ [0] ∧ expand2 cs = some b.out

/-- C02 discharges the payload hypothesis of C03: the payload of an `IsLzma2` block is
decoded in place by `decode_filter`, whatever follows it. -/
theorem decodes_of_wf2 (b : XzBlockSpec) (cs : List SChunk) (hp : b.payload = encode2 cs ++ [0])
    (hwf : WF2 cs) (ho : expand2 cs = some b.out) : b.Decodes := by
  intro t
  obtain ⟨out, s', h1, h2, h3, -, -⟩ := C02.lzma2_decode_exact cs hwf t {} rfl
  rw [ho] at h1
  cases h1
  rw [hp, decodeFilter_of_lzma2 b.dictByte _ _ _ h2, h3]
  simp [Rd.ofBytes]

/-- C03 + C02, end to end.  For the checks none / CRC32 / CRC64 and any list of blocks
(including none), each of which
* carries as payload `encode2 cs ++ [0]` for some well-formed LZMA2 chunk list `cs`
  (`WF2 cs`: uncompressed and LZMA chunks of all classes in any order, see C02) and has
  `out` = the meaning `expand2 cs` of that chunk list,
* has legal header / index field widths (`XzBlockSpec.WF`: header-size byte ≤ 255, every
  multibyte field — declared sizes if present, filter id, props size, index record — at most
  nine bytes; non-minimal encodings and extra padding words allowed),
a record count that fits its field, and an index whose size fits the 32-bit backward size:
`xz_decompress` on the file `buildXz check blocks wCount`, with a sink that accepts everything,
returns `Ok`, leaves the reader at end of file, and the sink has received exactly the
concatenation of the meanings of the chunk lists, one `write_all` per non-empty block, no flush. -/
theorem xz_decode_exact_full (check : CheckMethod) (blocks : List XzBlockSpec) (wCount : Nat) (s : Sink)
    (hck : check = .none ∨ check = .crc32 ∨ check = .crc64)
    (hs : s.script = [])
    (hb : ∀ b ∈ blocks, b.WF check ∧ ∃ cs, b.IsLzma2 cs)
    (hc : mbW wCount blocks.length ≤ 9)
    (hidx : (xzIndex check blocks wCount).length / 4 - 1 < 2 ^ 32) :
    xzDecompress (Rd.ofBytes (buildXz check blocks wCount)) s
        = (s.putBlocks blocks, .ok { rem := [] })
    ∧ (s.putBlocks blocks).out = s.out ++ (blocks.map (·.out)).flatten.toArray
    ∧ (s.putBlocks blocks).flushes = s.flushes := by
  have hb' : ∀ b ∈ blocks, b.WF check ∧ b.Decodes := fun b h =>
    let ⟨hw, cs, h1, h2, h3⟩ := hb b h
    ⟨hw, decodes_of_wf2 b cs h2 h1 h3⟩
  have h := xz_decode_exact check blocks wCount s hck hs hb' hc hidx
  have h2 := xz_decode_exact_out check blocks wCount s hck hs hb' hc hidx
  rw [h] at h2
  exact ⟨h, h2.2.1, h2.2.2⟩

/-- the block with chunk list `cs` and the header/index layout (declared sizes, widths, padding,
dictionary byte) of `layout` -/
def _root_.Lzma.XzBlockSpec.ofChunks (cs : List SChunk) (layout : XzBlockSpec := { payload := [], out := [] }) :
    XzBlockSpec :=
  { layout with payload := encode2 cs ++ [0], out := (expand2 cs).getD [] }

theorem _root_.Lzma.XzBlockSpec.ofChunks_isLzma2 (cs : List SChunk) (layout : XzBlockSpec) (h : WF2 cs) :
    (XzBlockSpec.ofChunks cs layout).IsLzma2 cs := by
  obtain ⟨out, ho⟩ := C02.expand2_isSome cs h
  exact ⟨h, rfl, by simp [XzBlockSpec.ofChunks, ho]⟩

/-- The same with the blocks given explicitly by their chunk lists and layouts, at most `2^27`
of them: the output is the concatenation of the `expand2 csᵢ`. -/
theorem xz_decode_exact_chunks (check : CheckMethod) (items : List (List SChunk × XzBlockSpec))
    (wCount : Nat) (s : Sink)
    (hck : check = .none ∨ check = .crc32 ∨ check = .crc64)
    (hs : s.script = [])
    (hb : ∀ p ∈ items, WF2 p.1 ∧ (XzBlockSpec.ofChunks p.1 p.2).WF check)
    (hc : mbW wCount items.length ≤ 9)
    (hn : items.length ≤ 2 ^ 27) :
    ∃ s', xzDecompress (Rd.ofBytes
        (buildXz check (items.map fun p => XzBlockSpec.ofChunks p.1 p.2) wCount)) s
        = (s', .ok { rem := [] })
    ∧ s'.out = s.out ++ (items.map fun p => (expand2 p.1).getD []).flatten.toArray
    ∧ s'.flushes = s.flushes ∧ s'.script = [] := by
  have hb' : ∀ b ∈ items.map (fun p => XzBlockSpec.ofChunks p.1 p.2),
      b.WF check ∧ ∃ cs, b.IsLzma2 cs := by
    intro b hbm
    obtain ⟨p, hp, rfl⟩ := List.mem_map.1 hbm
    exact ⟨(hb p hp).2, p.1, XzBlockSpec.ofChunks_isLzma2 _ _ (hb p hp).1⟩
  have hc' : mbW wCount (items.map fun p => XzBlockSpec.ofChunks p.1 p.2).length ≤ 9 := by
    simpa using hc
  obtain ⟨h1, h2, h3⟩ := xz_decode_exact_full check _ wCount s hck hs hb' hc'
    (index_fits check _ wCount (fun b h => (hb' b h).1) hc' (by simpa using hn))
  refine ⟨_, h1, ?_, h3, ?_⟩
  · rw [h2, List.map_map]; rfl
  · rw [Sink.putBlocks_script, hs]

/-! ## legal layouts

A well-formed chunk takes at most 65536 + 6 bytes, so the sizes of `ofChunks cs layout` are far
below the limits of `XzBlockSpec.WF`, whatever the check. -/

theorem encChunk_length_le {es : EncSt} {c : SChunk} (h : c.WF es) :
    (encChunk es c).1.length ≤ 65542 := by
  cases c with
  | raw rd data =>
    have := h.2
    simp only [encChunk, List.length_cons, List.length_append, Fwd.beBytes_length]; omega
  | lzma cls props prog =>
    have hsz := h.2.2.2.2.2.2
    simp only [encChunk]
    split
    · rename_i snk es' heq
      rw [heq] at hsz
      change snk.out.size ≤ 65536 at hsz
      simp only [List.length_cons, List.length_append, Fwd.beBytes_length, Array.length_toList]
      split <;> simp only [List.length_cons, List.length_nil] <;> omega
    · simp

theorem encode2Aux_length_le : ∀ (cs : List SChunk) (es : EncSt), WF2Aux es cs →
    (encode2Aux es cs).length ≤ 65542 * cs.length
  | [], _, _ => by simp [encode2Aux]
  | c :: cs, es, h => by
    have := encChunk_length_le h.1
    have := encode2Aux_length_le cs _ h.2
    simp only [encode2Aux, List.length_append, List.length_cons]; omega

/-- the block of a well-formed chunk list is legal under every layout that asks for widths of at
most nine bytes and at most 240 extra padding words -/
theorem ofChunks_wf (check : CheckMethod) (cs : List SChunk) (layout : XzBlockSpec) (hwf : WF2 cs)
    (hn : cs.length ≤ 2 ^ 40) (ho : ((expand2 cs).getD []).length < 2 ^ 62)
    (hw : layout.wPacked ≤ 9 ∧ layout.wUnpacked ≤ 9 ∧ layout.wFilterId ≤ 9 ∧
      layout.wPropsSize ≤ 9 ∧ layout.wIdxUnpadded ≤ 9 ∧ layout.wIdxUnpacked ≤ 9)
    (hx : layout.extraPadWords ≤ 240) : (XzBlockSpec.ofChunks cs layout).WF check := by
  refine .of_lt check _ ?_ ho hw hx
  have := encode2Aux_length_le cs _ hwf
  show (encode2 cs ++ [0]).length < 2 ^ 62
  simp only [encode2, List.length_append, List.length_cons, List.length_nil]; omega

/-! ## non-vacuity -/

/-- two blocks: `demoChunks` of C02 (all chunk kinds; compressed chunks with matches reaching
into earlier chunks) with both sizes declared, a three-byte packed size and an extra padding
word; and a block with one uncompressed and one compressed chunk, default layout -/
def demoItems : List (List SChunk × XzBlockSpec) :=
  [ (C02.demoChunks, { payload := [], out := [], declPacked := true, declUnpacked := true,
                       wPacked := 3, extraPadWords := 1, wIdxUnpacked := 2 }),
    ([.raw true [0x78, 0x79], .lzma 3 ⟨0, 0, 0⟩ [.lit 0x7a, .mtch 1 4]],
      { payload := [], out := [] }) ]

theorem demoItems_ok (check : CheckMethod) :
    ∀ p ∈ demoItems, WF2 p.1 ∧ (XzBlockSpec.ofChunks p.1 p.2).WF check := by
  intro p hp
  simp only [demoItems, List.mem_cons, List.mem_nil_iff, or_false] at hp
  rcases hp with rfl | rfl
  · exact ⟨C02.demoChunks_wf.1, ofChunks_wf check _ _ C02.demoChunks_wf.1 (by decide)
      (by rw [C02.demoChunks_expand]; decide) (by decide) (by decide)⟩
  · have h : WF2 [.raw true [0x78, 0x79], .lzma 3 ⟨0, 0, 0⟩ [.lit 0x7a, .mtch 1 4]] := by
      decide +kernel
    exact ⟨h, ofChunks_wf check _ _ h (by decide) (by decide +kernel) (by decide) (by decide)⟩

example (check : CheckMethod) (hck : check = .none ∨ check = .crc32 ∨ check = .crc64) :
    ∃ s', xzDecompress (Rd.ofBytes
        (buildXz check (demoItems.map fun p => XzBlockSpec.ofChunks p.1 p.2) 2)) {}
        = (s', .ok { rem := [] })
    ∧ s'.out.toList =
      [0x61, 0x62, 0x61, 0x62, 0x61, 0x63, 0x64, 0x61, 0x62, 0x61, 0x65, 0x66, 0x66, 0x66, 0x61, 0x62,
       0x61, 0x63, 0x67, 0x67, 0x67, 0x67, 0x67, 0x67, 0x68, 0x69, 0x68, 0x69, 0x6a,
       0x78, 0x79, 0x7a, 0x7a, 0x7a, 0x7a, 0x7a] := by
  obtain ⟨s', h1, h2, -, -⟩ := xz_decode_exact_chunks check demoItems 2 {} hck rfl
    (demoItems_ok check) (by decide +kernel) (by decide +kernel)
  refine ⟨s', h1, ?_⟩
  have : (demoItems.map fun p => (expand2 p.1).getD []).flatten =
      [0x61, 0x62, 0x61, 0x62, 0x61, 0x63, 0x64, 0x61, 0x62, 0x61, 0x65, 0x66, 0x66, 0x66, 0x61, 0x62,
       0x61, 0x63, 0x67, 0x67, 0x67, 0x67, 0x67, 0x67, 0x68, 0x69, 0x68, 0x69, 0x6a,
       0x78, 0x79, 0x7a, 0x7a, 0x7a, 0x7a, 0x7a] := by decide +kernel
  rw [h2, this, Array.toList_append, List.toList_toArray]; rfl

end Lzma.C03
