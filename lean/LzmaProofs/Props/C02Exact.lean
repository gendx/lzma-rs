/-
  C02 — LZMA2 decoding is exact for every well-formed stream: END-TO-END.

  `lzma2Decompress` (`Lzma2Decoder::new`, the chunk loop of `decompress`, `parse_uncompressed`,
  `parse_lzma` with its dictionary reset / state reset / new-properties stages, a fresh
  `RangeDecoder` per chunk, the symbol loop of `process_mode(Finish)`, the end-of-chunk check,
  the accumulating window, `finish`) applied to `encode2 cs ++ [0] ++ t` — the bytes the reference
  LZMA2 encoder produces for ANY well-formed chunk list `cs` (format-level spec in
  `Lemmas/Lzma2Exact.lean`: `SChunk`, `encode2`, `expand2`, `WF2`), the end byte, any tail `t` —
  returns `Ok`, delivers exactly the bytes the chunk list denotes (`expand2 cs`), flushes, and
  leaves the reader exactly behind the end byte.
-/
import LzmaProofs.Lemmas.Lzma2ExactRun
namespace Lzma.C02
open Lzma L2 L2E

/-- End-to-end exactness of LZMA2.  For every chunk list `cs` — uncompressed chunks (with or
without dictionary reset) and LZMA chunks of every class (`0` continue the coder state, `1` state
reset, `2` state reset + new properties, `3` also dictionary reset), in ANY order, programs whose
matches reach back into data of earlier chunks since the last dictionary reset — that is
well-formed (`WF2`: data length 1..65536; per LZMA chunk 1..2^21 bytes produced, payload as
produced ≤ 65536 bytes, `lc + lp ≤ 4`, `pb ≤ 4`, no end marker, every symbol well-formed w.r.t.
the history since the last dictionary reset), every tail `t` and every perfect sink:
`lzma2_decompress` succeeds, the sink receives exactly `expand2 cs`, the last sink call is a
flush, and the reader is left just behind the end byte (`rem = t`).

NOT assumed (lzma-rs is more lenient than liblzma): that the first chunk resets the dictionary;
that the first LZMA chunk, or an LZMA chunk after a dictionary reset, sets new properties (the
decoder starts with `lc = lp = pb = 0`).  The one coupling between chunks that IS needed
(`MbOk` in `SChunk.WF`, only for class-0 chunks) holds automatically unless an uncompressed
chunk reset the dictionary in between (`wf2_of_syntactic`); `carry_after_raw_reset_fails`
shows it cannot be dropped. -/
theorem lzma2_decode_exact (cs : List SChunk) (hwf : WF2 cs) (t : Bytes) (s0 : Sink)
    (hs : s0.script = []) :
    ∃ out s', expand2 cs = some out ∧
      lzma2Decompress (Rd.ofBytes (encode2 cs ++ [0] ++ t)) s0 = (s', .ok (Rd.ofBytes t)) ∧
      s'.out = s0.out ++ out.toArray ∧ s'.lastFlush = true ∧ s'.script = [] := by
  obtain ⟨chs, out, d', a', k', es', F', g1, g2, g3, g4, g5, g6⟩ :=
    run_chunks cs _ [] Lzma2Decoder.init (Accum.fromStream USIZE_MAX) s0 (inv_init hs) hwf
  obtain ⟨s', hdec, h⟩ := decompress_of_run t g2 g3 g5 (by simpa [EncSt.new] using g6)
  exact ⟨out, s', g1, by rw [lzma2Decompress_eq, bind_run_ok (hdec g4)]; rfl, h⟩

/-- a well-formed chunk list has a meaning -/
theorem expand2_isSome (cs : List SChunk) (hwf : WF2 cs) : ∃ out, expand2 cs = some out := by
  obtain ⟨out, _, h, _⟩ := lzma2_decode_exact cs hwf [] {} rfl
  exact ⟨out, h⟩

/-- The coupling clause is automatic for chunk lists in which a chunk that continues the
coder state (class 0) never follows an uncompressed chunk with dictionary reset without a
compressed chunk in between: the purely syntactic `WF2s` implies `WF2`.  (liblzma demands more:
new properties after every dictionary reset.) -/
theorem wf2_of_syntactic (cs : List SChunk) (h : WF2s cs) : WF2 cs :=
  wf2s_imp (s0 := {}) cs true _ [] Lzma2Decoder.init (Accum.fromStream USIZE_MAX) {}
    (inv_init rfl) (fun _ hst => absurd hst (by show ¬ (0 : Nat) ≥ 7; omega)) h

/-- the exactness theorem under the syntactic well-formedness -/
theorem lzma2_decode_exact_syntactic (cs : List SChunk) (hwf : WF2s cs) (t : Bytes) (s0 : Sink)
    (hs : s0.script = []) :
    ∃ out s', expand2 cs = some out ∧
      lzma2Decompress (Rd.ofBytes (encode2 cs ++ [0] ++ t)) s0 = (s', .ok (Rd.ofBytes t)) ∧
      s'.out = s0.out ++ out.toArray ∧ s'.lastFlush = true ∧ s'.script = [] :=
  lzma2_decode_exact cs (wf2_of_syntactic cs hwf) t s0 hs

/-- the special case the format's own rules allow for an independent decoder: a single LZMA chunk
with full reset (`cls = 3`), whose payload is `encodeSyms` of `LzmaSpec` -/
theorem lzma2_single_chunk (props : Props) (prog : List Sym)
    (hwf : WF2 [.lzma 3 props prog]) (t : Bytes) (s0 : Sink) (hs : s0.script = []) :
    ∃ out s', expand2 [.lzma 3 props prog] = some out ∧
      lzma2Decompress (Rd.ofBytes (encode2 [.lzma 3 props prog] ++ [0] ++ t)) s0 =
        (s', .ok (Rd.ofBytes t)) ∧
      s'.out = s0.out ++ out.toArray ∧ s'.lastFlush = true :=
  let ⟨out, s', h1, h2, h3, h4, _⟩ := lzma2_decode_exact _ hwf t s0 hs
  ⟨out, s', h1, h2, h3, h4⟩

/-! ## non-vacuity -/

/-- a chunk list with every chunk kind: full reset; uncompressed without reset; a chunk that
continues the coder state and whose match reaches back through the uncompressed chunk into the
first chunk; a state reset; new properties (`lc = 1, pb = 1`); an uncompressed chunk WITH
dictionary reset; a state reset WITHOUT new properties after it (accepted by lzma-rs only) -/
def demoChunks : List SChunk :=
  [ .lzma 3 ⟨0, 0, 0⟩ [.lit 0x61, .lit 0x62, .mtch 2 3],
    .raw false [0x63, 0x64],
    .lzma 0 ⟨0, 0, 0⟩ [.mtch 7 2, .shortRep, .lit 0x65],
    .lzma 1 ⟨0, 0, 0⟩ [.lit 0x66, .rep 0 2, .mtch 12 4],
    .lzma 2 ⟨1, 0, 1⟩ [.lit 0x67, .mtch 1 5],
    .raw true [0x68, 0x69],
    .lzma 1 ⟨0, 0, 0⟩ [.mtch 2 2, .lit 0x6a] ]

/-- it satisfies the hypotheses of `lzma2_decode_exact` (and the syntactic ones) -/
theorem demoChunks_wf : WF2 demoChunks ∧ WF2s demoChunks :=
  have h : WF2s demoChunks := by decide +kernel
  ⟨wf2_of_syntactic _ h, h⟩

/-- its meaning: `"ababa" "cd" "aba" "e" "fff" "abac" "gggggg" "hi" "hi" "j"` -/
theorem demoChunks_expand : expand2 demoChunks = some
    [0x61, 0x62, 0x61, 0x62, 0x61, 0x63, 0x64, 0x61, 0x62, 0x61, 0x65, 0x66, 0x66, 0x66, 0x61, 0x62,
     0x61, 0x63, 0x67, 0x67, 0x67, 0x67, 0x67, 0x67, 0x68, 0x69, 0x68, 0x69, 0x6a] := by
  decide +kernel

/-- so the theorem applies to it (tail `[9, 9]`, empty perfect sink) -/
example : ∃ s', lzma2Decompress (Rd.ofBytes (encode2 demoChunks ++ [0] ++ [9, 9])) {} =
      (s', .ok (Rd.ofBytes [9, 9])) ∧
    s'.out.toList =
      [0x61, 0x62, 0x61, 0x62, 0x61, 0x63, 0x64, 0x61, 0x62, 0x61, 0x65, 0x66, 0x66, 0x66, 0x61, 0x62,
       0x61, 0x63, 0x67, 0x67, 0x67, 0x67, 0x67, 0x67, 0x68, 0x69, 0x68, 0x69, 0x6a] ∧
    s'.lastFlush = true := by
  obtain ⟨out, s', h1, h2, h3, h4, -⟩ := lzma2_decode_exact demoChunks demoChunks_wf.1 [9, 9] {} rfl
  rw [demoChunks_expand] at h1
  cases h1
  exact ⟨s', h2, by rw [h3]; simp, h4⟩

/-! ## the coupling clause cannot be dropped -/

/-- a match (state 7, last distance 2), then an uncompressed chunk with dictionary reset holding
ONE byte, then a class-0 chunk starting with a literal -/
def carryChunks : List SChunk :=
  [ .lzma 3 ⟨0, 0, 0⟩ [.lit 0x61, .lit 0x62, .mtch 2 2],
    .raw true [0x63],
    .lzma 0 ⟨0, 0, 0⟩ [.lit 0x64] ]

/-- is the result `Err(LzmaError)`? -/
def isLzmaErr {α : Type} : Except Err α → Bool
  | .error .lzma => true
  | _ => false

theorem isLzmaErr_iff {α : Type} {x : Except Err α} : isLzmaErr x = true ↔ x = .error .lzma := by
  unfold isLzmaErr
  split <;> simp_all

/-- Why `MbOk` is in `WF2`.  `carryChunks` has a meaning (`"abab" "c" "d"`), its first two
chunks are well-formed and the third violates only the coupling clause — and lzma-rs fails on
the encoded stream with `LzmaError` after delivering `"abab"`: decoding a literal in a state
after a match reads the byte at the last match distance (`last_n(rep0 + 1)`), which lies before
the dictionary reset.  (liblzma rejects the stream earlier: it demands new properties after a
dictionary reset.  So this is a stream outside the format on which both decoders report an
error.) -/
theorem carry_after_raw_reset_fails :
    expand2 carryChunks = some [0x61, 0x62, 0x61, 0x62, 0x63, 0x64] ∧
    WF2 (carryChunks.take 2) ∧ ¬ WF2 carryChunks ∧
    ∃ s, lzma2Decompress (Rd.ofBytes (encode2 carryChunks ++ [0])) {} = (s, .error .lzma) ∧
      s.out = #[0x61, 0x62, 0x61, 0x62] := by
  refine ⟨by decide +kernel, by decide +kernel, by decide +kernel, ?_⟩
  -- the encoder and the decoder are each run once
  rw [show encode2 carryChunks = [224, 0, 3, 0, 7, 0, 0, 48, 153, 196, 75, 250, 172, 0, 1, 0, 0, 99,
    128, 0, 0, 0, 5, 0, 49, 255, 252, 0, 0] by decide +kernel]
  have key : ∀ r : Sink × Except Err Rd,
      (isLzmaErr r.2 && r.1.out == #[0x61, 0x62, 0x61, 0x62]) = true →
      ∃ s, r = (s, .error .lzma) ∧ s.out = #[0x61, 0x62, 0x61, 0x62] := by
    rintro ⟨s, r⟩ h
    obtain ⟨h1, h2⟩ := Bool.and_eq_true_iff.1 h
    exact ⟨s, congrArg (Prod.mk s) (isLzmaErr_iff.1 h1), by simpa using h2⟩
  exact key _ (by decide +kernel)

end Lzma.C02
