/-
  C13 for WHOLE DECODERS — the verdict, the output and the number of bytes consumed of
  each one-shot decoder do not depend on how the input reader fragments its data.

  `LzmaModel/FDecoders.lean` writes the one-shot decoders (`lzma_decompress_with_options`,
  `lzma2_decompress`, `xz_decompress`) once over an abstract reader interface
  (`ByteSrc` + `DecSrc`).  Two facts are proved about these generic decoders:

  * bridge: instantiated at the flat model reader `Rd` they ARE the model decoders
    (`generic_decoders_at_Rd`);
  * parametricity: run on related readers they produce the same sink, the same
    verdict/error and related remaining readers (`LzmaProofs/Lemmas/FDecoders.lean`,
    `…G_rel`; the reader relation for `FRd`/`Rd` is `Sim fr rd := fr.WF ∧ fr.toRd = rd`, whose
    primitives are related by the `*_sim` lemmas of `Lemmas/FReader.lean`, restated in
    `Props/C13.lean`).

  Hence a decoder run on ANY fragmentation `fr` of the input gives the flat model's result
  on `fr.toRd`, and two fragmentations of the same bytes give the same result.

  Scope / trust.  (1) `process_mode` is covered in Finish mode with nothing staged in
  `partial_input_buf` — the only way the one-shot decoders ever run it (the generic
  functions' own top-level entry points establish that invariant; `Partial` mode, which
  inspects `fill_buf` contents, is only run by `Stream` on in-memory cursors).
  (2) The XZ block header is read in Rust through
  `BufReader(CrcDigestRead(Take(header_size)))`; the generic decoder, like the flat model,
  parses the `Take`n sub-reader directly.  The `BufReader` only decides how many header
  bytes have been pulled from the caller's reader when the header parse FAILS (finding K2,
  `k2_witness` in `Props/C13.lean`); error results carry no reader in this model, so nothing is claimed
  about the reader position after an error.  (3) That the Rust decoders use their reader
  only through these primitives is the call-site audit's claim, not a theorem.
-/
import LzmaProofs.Lemmas.FDecoders
namespace Lzma.C13
open Lzma FRd FD

/-- Outcome of a decoder run on a fragmented reader (`x`) against the flat model's (`y`):
same sink (same bytes written, same raw calls); success is matched by success with the same
logical remainder (`fr'.toRd = rd'`, again without empty piece) — hence the same number of
bytes consumed; failure by failure with the SAME error. -/
def RunCorr (x : Sink × Except Err FRd) (y : Sink × Except Err Rd) : Prop :=
  x.1 = y.1 ∧
  (∀ fr', x.2 = .ok fr' → fr'.WF ∧ y.2 = .ok fr'.toRd) ∧
  (∀ rd', y.2 = .ok rd' → ∃ fr', x.2 = .ok fr' ∧ fr'.WF ∧ fr'.toRd = rd') ∧
  (∀ e, x.2 = .error e ↔ y.2 = .error e)

/-- Outcomes of the same decoder on two fragmented readers: same sink, same verdict, the same
error on failure, the same logical remainder on success. -/
def RunSame (x y : Sink × Except Err FRd) : Prop :=
  x.1 = y.1 ∧
  (∀ r, x.2 = .ok r → ∃ r', y.2 = .ok r' ∧ r'.WF ∧ r.toRd = r'.toRd) ∧
  (∀ r', y.2 = .ok r' → ∃ r, x.2 = .ok r ∧ r.WF ∧ r.toRd = r'.toRd) ∧
  (∀ e, x.2 = .error e ↔ y.2 = .error e)

/-- equal logical remainders of fragmentations of the same input = equally many bytes consumed -/
theorem consumed_eq {fr₁ fr₂ r₁ r₂ : FRd} (h : fr₁.toRd = fr₂.toRd) (hr : r₁.toRd = r₂.toRd) :
    fr₁.join.length - r₁.join.length = fr₂.join.length - r₂.join.length := by
  have h1 : fr₁.join = fr₂.join := congrArg Rd.rem h
  have h2 : r₁.join = r₂.join := congrArg Rd.rem hr
  rw [h1, h2]

theorem runCorr_of_relM {x : M FRd} {y : M Rd} (h : RelM Sim x y) (snk : Sink) :
    RunCorr (x snk) (y snk) := by
  obtain ⟨h1, h2⟩ := h snk
  refine ⟨h1, h2.elim (fun _ => ⟨nofun, nofun, fun _ => by simp⟩) ?_⟩
  rintro fr' _ ⟨hw, ⟨⟩⟩
  exact ⟨fun _ hx => by cases hx; exact ⟨hw, rfl⟩, fun _ hy => by cases hy; exact ⟨fr', rfl, hw, rfl⟩,
    fun _ => ⟨nofun, nofun⟩⟩

theorem runSame_of_runCorr {x x' : Sink × Except Err FRd} {y : Sink × Except Err Rd}
    (h : RunCorr x y) (h' : RunCorr x' y) : RunSame x x' := by
  obtain ⟨a1, a2, a3, a4⟩ := h
  obtain ⟨b1, b2, b3, b4⟩ := h'
  refine ⟨a1.trans b1.symm, ?_, ?_, fun e => (a4 e).trans (b4 e).symm⟩
  · intro r hx
    obtain ⟨_, hy⟩ := a2 r hx
    obtain ⟨r', hx', hw', ht'⟩ := b3 _ hy
    exact ⟨r', hx', hw', ht'.symm⟩
  · intro r' hx'
    obtain ⟨_, hy⟩ := b2 r' hx'
    obtain ⟨r, hx, hw, ht⟩ := a3 _ hy
    exact ⟨r, hx, hw, ht⟩

/-! ## bridge: the generic decoders at the flat reader are the model decoders -/

/-- Instantiated at the model's flat reader `Rd` (whose `DecSrc` instance
consists of the model's own reader functions), the generic decoders are the model decoders. -/
theorem generic_decoders_at_Rd :
    (∀ rd opts, lzmaDecompressG (ρ := Rd) rd opts = lzmaDecompress rd opts) ∧
    (∀ rd, lzma2DecompressG (ρ := Rd) rd = lzma2Decompress rd) ∧
    (∀ rd, xzDecompressG (ρ := Rd) rd = xzDecompress rd) :=
  by simp only [lzmaDecompressG_Rd, lzma2DecompressG_Rd, xzDecompressG_Rd, implies_true, and_self]

/-- the same for the building blocks (no side condition) -/
theorem generic_parts_at_Rd :
    (∀ fuel (s : DState) (w : Circ) rc (rd : Rd),
      DState.processLoopG fuel s w rc rd = DState.processLoop .finish fuel s w rc rd) ∧
    (∀ (s : DState) (w : Accum) rc (rd : Rd),
      DState.processModeG s w rc rd = DState.processMode .finish s w rc rd) ∧
    (∀ (d : LzmaDecoder) (rd : Rd), d.decompressG rd = d.decompress rd) ∧
    (∀ (d : Lzma2Decoder) accum (rd : Rd) status,
      d.parseLzmaG accum rd status = d.parseLzma accum rd status) ∧
    (∀ accum (rd : Rd) r,
      Lzma2Decoder.parseUncompressedG accum rd r = Lzma2Decoder.parseUncompressed accum rd r) ∧
    (∀ (d : Lzma2Decoder) (rd : Rd), d.decompressG rd = d.decompress rd) ∧
    (∀ (rd : Rd), parseStreamHeaderG rd = parseStreamHeader rd) ∧
    (∀ (rd : Rd) hs, readBlockHeaderG rd hs = readBlockHeader rd hs) ∧
    (∀ start rs (rd : Rd), checkIndexG start rs rd = checkIndex start rs rd) ∧
    (∀ start (rd : Rd) check hs, readBlockG start rd check hs = readBlock start rd check hs) :=
  by simp only [processLoopG_Rd, processModeG_Rd, LzmaDecoder.decompressG_Rd, parseLzmaG_Rd,
    parseUncompressedG_Rd, Lzma2Decoder.decompressG_Rd, parseStreamHeaderG_Rd, readBlockHeaderG_Rd,
    checkIndexG_Rd, readBlockG_Rd, implies_true, and_self]

/-! ## a fragmented run is the flat model's run -/

/-- `.lzma` on a fragmented reader = the model on the flat reader. -/
theorem lzma_fragmented_eq_flat (fr : FRd) (hwf : fr.WF) (opts : Options) (snk : Sink) :
    RunCorr (lzmaDecompressG fr opts snk) (lzmaDecompress fr.toRd opts snk) := by
  rw [← lzmaDecompressG_Rd]
  exact runCorr_of_relM (lzmaDecompressG_rel FRd.decSrcRel opts (Sim.self hwf)) snk

/-- LZMA2 on a fragmented reader = the model on the flat reader. -/
theorem lzma2_fragmented_eq_flat (fr : FRd) (hwf : fr.WF) (snk : Sink) :
    RunCorr (lzma2DecompressG fr snk) (lzma2Decompress fr.toRd snk) := by
  rw [← lzma2DecompressG_Rd]
  exact runCorr_of_relM (lzma2DecompressG_rel FRd.decSrcRel (Sim.self hwf)) snk

/-- XZ on a fragmented reader = the model on the flat reader. -/
theorem xz_fragmented_eq_flat (fr : FRd) (hwf : fr.WF) (snk : Sink) :
    RunCorr (xzDecompressG fr snk) (xzDecompress fr.toRd snk) := by
  rw [← xzDecompressG_Rd]
  exact runCorr_of_relM (xzDecompressG_rel FRd.decSrcRel (Sim.self hwf)) snk

/-! ## fragmentation independence -/

/-- C13 for `lzma_decompress_with_options`.  For any two fragmentations of the same bytes
(any pieces, same end kind), any options and any sink (any script of short writes/failures):
same resulting sink, same verdict, same error class on failure, and on success the same
logical remainder — the same number of bytes consumed (`consumed_eq`). -/
theorem lzma_fragmentation_independent (fr₁ fr₂ : FRd) (h₁ : fr₁.WF) (h₂ : fr₂.WF)
    (hsame : fr₁.toRd = fr₂.toRd) (opts : Options) (snk : Sink) :
    RunSame (lzmaDecompressG fr₁ opts snk) (lzmaDecompressG fr₂ opts snk) := by
  have a := lzma_fragmented_eq_flat fr₁ h₁ opts snk
  rw [hsame] at a
  exact runSame_of_runCorr a (lzma_fragmented_eq_flat fr₂ h₂ opts snk)

/-- C13 for `lzma2_decompress`. -/
theorem lzma2_fragmentation_independent (fr₁ fr₂ : FRd) (h₁ : fr₁.WF) (h₂ : fr₂.WF)
    (hsame : fr₁.toRd = fr₂.toRd) (snk : Sink) :
    RunSame (lzma2DecompressG fr₁ snk) (lzma2DecompressG fr₂ snk) := by
  have a := lzma2_fragmented_eq_flat fr₁ h₁ snk
  rw [hsame] at a
  exact runSame_of_runCorr a (lzma2_fragmented_eq_flat fr₂ h₂ snk)

/-- C13 for `xz_decompress`.  Same sink, same verdict, and on success the same number of
bytes consumed.  (The error agrees as well in this model, where the block header is parsed
from the `Take`n sub-reader as in the flat model; the position of the caller's reader after an
ERROR is not part of any result here and does depend on the fragmentation in Rust — K2.) -/
theorem xz_fragmentation_independent (fr₁ fr₂ : FRd) (h₁ : fr₁.WF) (h₂ : fr₂.WF)
    (hsame : fr₁.toRd = fr₂.toRd) (snk : Sink) :
    RunSame (xzDecompressG fr₁ snk) (xzDecompressG fr₂ snk) := by
  have a := xz_fragmented_eq_flat fr₁ h₁ snk
  rw [hsame] at a
  exact runSame_of_runCorr a (xz_fragmented_eq_flat fr₂ h₂ snk)

/-! ## Non-vacuity -/

/-- `out` was written, the run succeeded and left exactly `rest` unread -/
def okWith (x : Sink × Except Err FRd) (out : Array UInt8) (rest : Bytes) : Bool :=
  x.1.out == out && match x.2 with
    | .ok r => r.join == rest
    | .error _ => false

/-- the run failed with `e` after writing `out` -/
def failsWith (x : Sink × Except Err FRd) (out : Array UInt8) (e : Err) : Bool :=
  x.1.out == out && match x.2 with
    | .ok _ => false
    | .error e' => e' == e

/-- LZMA2: one uncompressed chunk `abc` and the end marker, then two trailing bytes;
pieces cut inside the chunk header, inside the payload and inside the trailer -/
def l2a : FRd := { frags := [[1], [0, 2, 0x61], [0x62, 0x63, 0, 9], [9]] }
/-- the same bytes in one piece -/
def l2b : FRd := { frags := [[1, 0, 2, 0x61, 0x62, 0x63, 0, 9, 9]] }
/-- the same bytes one at a time -/
def l2c : FRd := { frags := [[1], [0], [2], [0x61], [0x62], [0x63], [0], [9], [9]] }

example : l2a.WF ∧ l2b.WF ∧ l2c.WF := by decide
example : l2a.toRd = l2b.toRd ∧ l2c.toRd = l2b.toRd := ⟨rfl, rfl⟩

/-- all three decode `abc` and stop after the end marker, 7 of the 9 bytes consumed -/
example : okWith (lzma2DecompressG l2a {}) #[0x61, 0x62, 0x63] [9, 9] = true ∧
    okWith (lzma2DecompressG l2b {}) #[0x61, 0x62, 0x63] [9, 9] = true ∧
    okWith (lzma2DecompressG l2c {}) #[0x61, 0x62, 0x63] [9, 9] = true := by decide +kernel

/-- the theorem applied (hypotheses met by evaluation) -/
example : RunSame (lzma2DecompressG l2a {}) (lzma2DecompressG l2c {}) :=
  lzma2_fragmentation_independent l2a l2c (by decide) (by decide) rfl {}

/-- `"abc"` as one uncompressed chunk, `[1,0,2,0x61,0x62,0x63,0]`, split as `[[1],[0,2,0x61],[0x62,0x63,0]]` -/
example : okWith (lzma2DecompressG (FRd.mk [[1], [0, 2, 0x61], [0x62, 0x63, 0]] false) {})
    #[0x61, 0x62, 0x63] [] = true := by decide +kernel

/-- an error case: the input ends inside the chunk; a plain reader and a faulty one
(`bad`), fragmented or not, give `LzmaError` (lzma-rs maps the I/O error) -/
example :
    failsWith (lzma2DecompressG (FRd.mk [[1], [0, 2, 0x61], [0x62]] false) {}) #[] .lzma = true ∧
    failsWith (lzma2DecompressG (FRd.mk [[1, 0, 2, 0x61, 0x62]] false) {}) #[] .lzma = true ∧
    failsWith (lzma2DecompressG (FRd.mk [[1], [0, 2, 0x61], [0x62]] true) {}) #[] .lzma = true := by
  decide +kernel

/-- `.lzma` (liblzma's encoding of `abababab`, lc=0 lp=0 pb=0, unknown size, end marker:
two literals, a match, the marker), cut once inside the 13-byte header (after byte 3) and twice
inside the 5 bytes of the range-coder initialisation (after bytes 16 and 17) -/
def lza : FRd := { frags := [[0, 0, 16], [0, 0, 255, 255, 255, 255, 255, 255, 255, 255, 0, 48, 153],
  [200], [209, 34, 18, 123, 255, 254, 223, 152, 0]] }
def lzb : FRd := { frags := [[0, 0, 16, 0, 0, 255, 255, 255, 255, 255, 255, 255, 255, 0, 48, 153,
  200, 209, 34, 18, 123, 255, 254, 223, 152, 0]] }

example : lza.WF ∧ lzb.WF ∧ lza.toRd = lzb.toRd := ⟨by decide, by decide, rfl⟩

example : okWith (lzmaDecompressG lza {} {}) #[0x61, 0x62, 0x61, 0x62, 0x61, 0x62, 0x61, 0x62] [] = true ∧
    okWith (lzmaDecompressG lzb {} {}) #[0x61, 0x62, 0x61, 0x62, 0x61, 0x62, 0x61, 0x62] [] = true := by
  decide +kernel

example : RunSame (lzmaDecompressG lza {} {}) (lzmaDecompressG lzb {} {}) :=
  lzma_fragmentation_independent lza lzb (by decide) (by decide) rfl {} {}

/-- `.xz` (liblzma's container for `abc`, CRC32 check), cut inside the magic of the stream header,
inside the block header (12 bytes, of which the `Take` covers the 7 between size byte and CRC),
inside the LZMA2 chunk and inside the footer's magic -/
def xza : FRd := { frags := [[253, 55, 122, 88], [90, 0, 0, 1, 105, 34, 222, 54, 2, 0, 33],
  [1, 0, 0, 0, 0, 55, 39, 151, 214, 1, 0, 2, 97, 98],
  [99, 0, 0, 194, 65, 36, 53, 0, 1, 23, 3, 7, 96, 12, 188, 144, 66, 153, 13, 1, 0, 0, 0, 0, 1, 89],
  [90]] }
def xzb : FRd := { frags := [[253, 55, 122, 88, 90, 0, 0, 1, 105, 34, 222, 54, 2, 0, 33,
  1, 0, 0, 0, 0, 55, 39, 151, 214, 1, 0, 2, 97, 98,
  99, 0, 0, 194, 65, 36, 53, 0, 1, 23, 3, 7, 96, 12, 188, 144, 66, 153, 13, 1, 0, 0, 0, 0, 1, 89,
  90]] }

example : xza.WF ∧ xzb.WF ∧ xza.toRd = xzb.toRd := ⟨by decide, by decide, rfl⟩

example : okWith (xzDecompressG xza {}) #[0x61, 0x62, 0x63] [] = true ∧
    okWith (xzDecompressG xzb {}) #[0x61, 0x62, 0x63] [] = true := by decide +kernel

example : RunSame (xzDecompressG xza {}) (xzDecompressG xzb {}) :=
  xz_fragmentation_independent xza xzb (by decide) (by decide) rfl {}

/-- an XZ error case (a flipped bit in the block-header CRC): `XzError` on both, nothing written -/
example :
    failsWith (xzDecompressG { xza with frags := xza.frags.map (·.map fun b => if b = 214 then 215 else b) } {})
      #[] .xz = true ∧
    failsWith (xzDecompressG { xzb with frags := xzb.frags.map (·.map fun b => if b = 214 then 215 else b) } {})
      #[] .xz = true := by decide +kernel

/-- Why the correspondence lemmas (`processLoopG_rel`, …) assume that nothing is staged in
`partial_input_buf`: `read_partial_input_buf` is ONE raw `read`, and a raw `read` returns
what the current piece holds.  (Never reached by the one-shot decoders.) -/
example :
    let s : DState := { partialBuf := [0], props := ⟨0, 0, 0⟩, unpackedSize := none,
                        probs := Probs.init 1 }
    (DState.readPartialInputBufG s (FRd.mk [[1], [2]] false)).map (·.1.partialBuf) = .ok [0, 1] ∧
    (DState.readPartialInputBufG s (FRd.mk [[1, 2]] false)).map (·.1.partialBuf) = .ok [0, 1, 2] :=
  ⟨rfl, rfl⟩

end Lzma.C13
