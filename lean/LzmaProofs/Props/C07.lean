/-
  C07 — decoders are total: no panic, no hang.

  For every input byte string (and reader fault flag), every `Options`
  (unpacked-size mode, memlimit, allow_incomplete), and every scripted sink:

  * `no_panic_*`   : the result is never `.error (.panic _)` — the model returns that
                     exactly where a checked Rust build would panic (index out of bounds,
                     `+ - *` overflow, remainder by zero, `assert!`).
  * `terminates_*` : the result is never `.error .fuel` — the model's loops take fuel and
                     return `.fuel` when the bound is hit; so the bound (`loopFuel`,
                     `rem.length + 1`) is never hit and the Rust loops terminate.

  The proofs are in `LzmaProofs/Lemmas/Safety*.lean`: each model function `f` has a lemma
  `f_safe : MSafe P (f args)` (the result is `.ok a` with `P a`, or an ordinary error), and the
  theorems here are its two halves.

  What cannot be proved in this model (outside its vocabulary):
  * allocator behaviour (`Vec` growth failing, OOM aborts) and memory use beyond the sizes
    of the model's data structures (see `memory_bounds_*` below for those sizes);
  * stack depth (the Rust code is iterative; the model does not represent the stack);
  * wall-clock time: termination is proved with the explicit bound
    `(input bytes + staged bytes + 1) * 2^32 + 1` loop iterations per `process_mode` call, which is a
    bound on iterations, not on time;
  * `usize` overflow of the produced-bytes counters `len`/`cursor` (needs 2^64 bytes of output;
    the model uses unbounded `Nat` for them, as stated in `LzmaModel/Window.lean`);
  * re-using a raw `LzmaDecoder`/`Lzma2Decoder` after a `decompress` call that returned `Err`:
    the model's `decompress` returns no decoder object on the error path (the Rust
    `&mut self` is left half-updated), so the reachable-object theorems below only follow
    successful calls.  (`Stream` is covered also after a failed `write`: state `none`.)
-/
import LzmaProofs.Lemmas.SafetyXz
import LzmaProofs.Lemmas.SafetyStream
namespace Lzma
namespace C07
open Safety

theorem ESafe_no_panic {P : α → Prop} {r : Except Err α} (h : ESafe P r) (w : String) :
    r ≠ .error (.panic w) := h.ne_panic w

theorem ESafe_no_fuel {P : α → Prop} {r : Except Err α} (h : ESafe P r) : r ≠ .error .fuel :=
  h.ne_fuel

/-! ## one-shot entry points -/

/-- `lzma_decompress_with_options` never panics. -/
theorem no_panic_lzma (rd : Rd) (opts : Options) (snk : Sink) (w : String) :
    (lzmaDecompress rd opts snk).2 ≠ .error (.panic w) :=
  ESafe_no_panic (lzmaDecompress_safe rd opts snk) w

/-- `lzma_decompress_with_options` terminates (the symbol loop's fuel is never exhausted). -/
theorem terminates_lzma (rd : Rd) (opts : Options) (snk : Sink) :
    (lzmaDecompress rd opts snk).2 ≠ .error .fuel :=
  ESafe_no_fuel (lzmaDecompress_safe rd opts snk)

/-- `lzma2_decompress` never panics. -/
theorem no_panic_lzma2 (rd : Rd) (snk : Sink) (w : String) :
    (lzma2Decompress rd snk).2 ≠ .error (.panic w) :=
  ESafe_no_panic (lzma2Decompress_safe rd snk) w

/-- `lzma2_decompress` terminates (chunk loop and symbol loop). -/
theorem terminates_lzma2 (rd : Rd) (snk : Sink) :
    (lzma2Decompress rd snk).2 ≠ .error .fuel :=
  ESafe_no_fuel (lzma2Decompress_safe rd snk)

/-- `xz_decompress` never panics. -/
theorem no_panic_xz (rd : Rd) (snk : Sink) (w : String) :
    (xzDecompress rd snk).2 ≠ .error (.panic w) :=
  ESafe_no_panic (xzDecompress_safe rd snk) w

/-- `xz_decompress` terminates (block loop, chunk loop, symbol loop, multibyte integers). -/
theorem terminates_xz (rd : Rd) (snk : Sink) :
    (xzDecompress rd snk).2 ≠ .error .fuel :=
  ESafe_no_fuel (xzDecompress_safe rd snk)

/-- the decoders never read backwards: the reader returned on success is a shorter one -/
theorem lzma_consumes (rd : Rd) (opts : Options) (snk : Sink) (rd' : Rd)
    (h : (lzmaDecompress rd opts snk).2 = .ok rd') : rd'.rem.length ≤ rd.rem.length :=
  (lzmaDecompress_safe rd opts snk).of_ok h

/-! ## raw decoders (`raw_decoder` feature) -/

/-- `LzmaDecoder` objects obtainable through the public API: `new` with valid properties,
then any sequence of `reset` and successful `decompress` calls (any input, any sink). -/
inductive LzmaReach : LzmaDecoder → Prop
  | new (params : LzmaParams) (memlimit : Option Nat) (d : LzmaDecoder)
      (hp : params.props.lc ≤ 8 ∧ params.props.lp ≤ 4 ∧ params.props.pb ≤ 4)
      (h : LzmaDecoder.new params memlimit = .ok d) : LzmaReach d
  | reset (d : LzmaDecoder) (u : Option (Option Nat)) (d' : LzmaDecoder)
      (hd : LzmaReach d) (h : d.reset u = .ok d') : LzmaReach d'
  | decompress (d : LzmaDecoder) (rd : Rd) (snk snk' : Sink) (d' : LzmaDecoder) (rd' : Rd)
      (hd : LzmaReach d) (h : d.decompress rd snk = (snk', .ok (d', rd'))) : LzmaReach d'

theorem LzmaReach.inv {d : LzmaDecoder} (h : LzmaReach d) : LzmaDecoderInv d := by
  induction h with
  | new params memlimit d hp h => exact (LzmaDecoder_new_safe hp memlimit).of_ok h
  | reset d u d' _ h ih => exact (LzmaDecoder_reset_safe ih u).of_ok h
  | decompress d rd snk snk' d' rd' _ h ih => exact ((LzmaDecoder_decompress_safe ih rd).of_ok h).1

/-- `LzmaDecoder::new` with valid `lc/lp/pb` never panics (any dictionary size: `0` is
rejected with an ordinary error since the `fix:` commit for `LzmaDecoder::new`). -/
theorem no_panic_LzmaDecoder_new (params : LzmaParams) (memlimit : Option Nat)
    (hp : params.props.lc ≤ 8 ∧ params.props.lp ≤ 4 ∧ params.props.pb ≤ 4) (w : String) :
    LzmaDecoder.new params memlimit ≠ .error (.panic w) :=
  ESafe_no_panic (LzmaDecoder_new_safe hp memlimit) w

/-- The hypothesis on the properties is needed: `LzmaProperties::validate` is an `assert!`. -/
example : LzmaDecoder.new { props := { lc := 9, lp := 0, pb := 0 }, dictSize := 4096, unpackedSize := none } none
    = .error (.panic "validate") := rfl

theorem no_panic_LzmaDecoder_reset {d : LzmaDecoder} (hd : LzmaReach d) (u : Option (Option Nat))
    (w : String) : d.reset u ≠ .error (.panic w) :=
  ESafe_no_panic (LzmaDecoder_reset_safe hd.inv u) w

theorem no_panic_LzmaDecoder_decompress {d : LzmaDecoder} (hd : LzmaReach d) (rd : Rd) (snk : Sink)
    (w : String) : (d.decompress rd snk).2 ≠ .error (.panic w) :=
  ESafe_no_panic (LzmaDecoder_decompress_safe hd.inv rd snk) w

theorem terminates_LzmaDecoder_decompress {d : LzmaDecoder} (hd : LzmaReach d) (rd : Rd) (snk : Sink) :
    (d.decompress rd snk).2 ≠ .error .fuel :=
  ESafe_no_fuel (LzmaDecoder_decompress_safe hd.inv rd snk)

/-- `Lzma2Decoder` objects obtainable through the public API -/
inductive Lzma2Reach : Lzma2Decoder → Prop
  | new (d : Lzma2Decoder) (h : Lzma2Decoder.new = .ok d) : Lzma2Reach d
  | reset (d d' : Lzma2Decoder) (hd : Lzma2Reach d) (h : d.reset = .ok d') : Lzma2Reach d'
  | decompress (d : Lzma2Decoder) (rd : Rd) (snk snk' : Sink) (d' : Lzma2Decoder) (rd' : Rd)
      (hd : Lzma2Reach d) (h : d.decompress rd snk = (snk', .ok (d', rd'))) : Lzma2Reach d'

theorem Lzma2Reach.inv {d : Lzma2Decoder} (h : Lzma2Reach d) : Lzma2DecoderInv d := by
  induction h with
  | new d h => exact Lzma2Decoder_new_safe.of_ok h
  | reset d d' _ h ih => exact (Lzma2Decoder_reset_safe ih).of_ok h
  | decompress d rd snk snk' d' rd' _ h ih => exact ((Lzma2Decoder_decompress_safe ih rd).of_ok h).1

theorem no_panic_Lzma2Decoder_new (w : String) : Lzma2Decoder.new ≠ .error (.panic w) :=
  ESafe_no_panic Lzma2Decoder_new_safe w

theorem no_panic_Lzma2Decoder_reset {d : Lzma2Decoder} (hd : Lzma2Reach d) (w : String) :
    d.reset ≠ .error (.panic w) :=
  ESafe_no_panic (Lzma2Decoder_reset_safe hd.inv) w

theorem no_panic_Lzma2Decoder_decompress {d : Lzma2Decoder} (hd : Lzma2Reach d) (rd : Rd) (snk : Sink)
    (w : String) : (d.decompress rd snk).2 ≠ .error (.panic w) :=
  ESafe_no_panic (Lzma2Decoder_decompress_safe hd.inv rd snk) w

theorem terminates_Lzma2Decoder_decompress {d : Lzma2Decoder} (hd : Lzma2Reach d) (rd : Rd) (snk : Sink) :
    (d.decompress rd snk).2 ≠ .error .fuel :=
  ESafe_no_fuel (Lzma2Decoder_decompress_safe hd.inv rd snk)

/-! ## the streaming decoder, for every call sequence

`Safety.Reachable opts st`: `st` is `Stream::new_with_options(opts)` or the stream left
behind by `write` (successful or failed) on a reachable stream, for any data and sink. -/

theorem no_panic_stream_write {opts : Options} {st : Stream} (h : Reachable opts st)
    (data : Bytes) (snk : Sink) (w : String) : (st.write data snk).2 ≠ .error (.panic w) :=
  ESafe_no_panic (Stream_write_safe h.inv data snk) w

theorem terminates_stream_write {opts : Options} {st : Stream} (h : Reachable opts st)
    (data : Bytes) (snk : Sink) : (st.write data snk).2 ≠ .error .fuel :=
  ESafe_no_fuel (Stream_write_safe h.inv data snk)

theorem no_panic_stream_flush (st : Stream) (snk : Sink) (w : String) :
    (st.flush snk).2 ≠ .error (.panic w) :=
  ESafe_no_panic (Stream_flush_safe st snk) w

theorem terminates_stream_flush (st : Stream) (snk : Sink) : (st.flush snk).2 ≠ .error .fuel :=
  ESafe_no_fuel (Stream_flush_safe st snk)

theorem no_panic_stream_finish {opts : Options} {st : Stream} (h : Reachable opts st)
    (snk : Sink) (w : String) : (st.finish snk).2 ≠ .error (.panic w) :=
  ESafe_no_panic (Stream_finish_safe h.inv snk) w

theorem terminates_stream_finish {opts : Options} {st : Stream} (h : Reachable opts st)
    (snk : Sink) : (st.finish snk).2 ≠ .error .fuel :=
  ESafe_no_fuel (Stream_finish_safe h.inv snk)

/-- the re-submitting caller loop: never a panic / fuel error out of any `write`, for any
number of rounds -/
theorem no_panic_stream_feed {opts : Options} {st : Stream} (h : Reachable opts st)
    (fuel : Nat) (data : Bytes) (acc : Nat) (snk : Sink) (w : String) :
    (st.feed fuel data acc snk).2.2 ≠ .error (.panic w) :=
  ESafe_no_panic (Stream_feed_safe fuel st data acc snk h.inv).2 w

theorem terminates_stream_feed {opts : Options} {st : Stream} (h : Reachable opts st)
    (fuel : Nat) (data : Bytes) (acc : Nat) (snk : Sink) :
    (st.feed fuel data acc snk).2.2 ≠ .error .fuel :=
  ESafe_no_fuel (Stream_feed_safe fuel st data acc snk h.inv).2

/-! ## memory bounds (sizes of the model's data structures only)

The invariants that the safety proofs carry through every iteration of the symbol loop
(`DStateInv`, `CircSafe`, `AccumInv`) bound the sizes of all growing data structures. -/

/-- Probability tables: the literal table has `2^(lc+lp) * 0x300 ≤ 3145728` entries, all
other tables have their fixed size — in every decoder state the invariant holds for. -/
theorem memory_bounds_probs {s : DState} (h : DStateInv s) :
    s.probs.lit.size = 2 ^ (s.props.lc + s.props.lp) * 0x300 ∧ s.probs.lit.size ≤ 3145728 ∧
    s.probs.posSlot.size = 256 ∧ s.probs.align.size = 16 ∧ s.probs.posDec.size = 115 ∧
    s.probs.isMatch.size = 192 ∧ s.probs.isRep.size = 12 ∧ s.probs.isRepG0.size = 12 ∧
    s.probs.isRepG1.size = 12 ∧ s.probs.isRepG2.size = 12 ∧ s.probs.isRep0Long.size = 192 ∧
    s.probs.len.low.size = 128 ∧ s.probs.len.mid.size = 128 ∧ s.probs.len.high.size = 256 ∧
    s.probs.repLen.low.size = 128 ∧ s.probs.repLen.mid.size = 128 ∧ s.probs.repLen.high.size = 256 ∧
    s.partialBuf.length ≤ 20 := by
  have hsz := h.probs.lit.1
  rw [h.rows, Nat.shiftLeft_eq, Nat.one_mul] at hsz
  have hle : 2 ^ (s.props.lc + s.props.lp) ≤ 2 ^ 12 :=
    Nat.pow_le_pow_right (by omega) (by have := h.lc; have := h.lp; omega)
  refine ⟨hsz, by omega, h.probs.posSlot.1, h.probs.align.1, h.probs.posDec.1, h.probs.isMatch.1,
    h.probs.isRep.1, h.probs.isRepG0.1, h.probs.isRepG1.1, h.probs.isRepG2.1, h.probs.isRep0Long.1,
    h.probs.len.low.1, h.probs.len.mid.1, h.probs.len.high.1, h.probs.repLen.low.1,
    h.probs.repLen.mid.1, h.probs.repLen.high.1, h.pbuf⟩

/-- Circular window: the lazily grown buffer is never larger than the dictionary size, the
number of bytes produced so far, or the memory limit. -/
theorem memory_bounds_window {w : Circ} (h : CircSafe w) :
    w.buf.size ≤ w.dictSize ∧ w.buf.size ≤ w.len ∧ w.buf.size ≤ w.memlimit :=
  ⟨h.2.2.2.1, h.2.2.2.2.1, h.2.2.2.2.2⟩

/-- The symbol loop keeps these bounds (circular window), from any state where they hold. -/
theorem memory_bounds_processMode (mode : DState.Mode) {s : DState} {w : Circ} {rc : RC} (rd : Rd)
    (snk : Sink) (hs : DStateInv s) (hw : CircSafe w) (hrc : RCInv rc)
    {s' : DState} {w' : Circ} {rc' : RC} {rd' : Rd}
    (h : (s.processMode mode w rc rd snk).2 = .ok (s', w', rc', rd')) :
    DStateInv s' ∧ CircSafe w' := by
  have := processMode_safe (ω := Circ) mode rd hs hw hrc snk
  rw [h] at this
  exact ⟨this.1, this.2.1⟩

/-- Accumulating window (LZMA2): the buffer holds exactly the bytes produced since the last
reset, through the whole chunk loop. -/
theorem memory_bounds_accum (fuel : Nat) {d : Lzma2Decoder} (accum : Accum) (rd : Rd) (snk : Sink)
    (hd : Lzma2Reach d) (ha : accum.buf.size = accum.len) (hf : rd.rem.length < fuel)
    {d' : Lzma2Decoder} {accum' : Accum} {rd' : Rd}
    (h : (Lzma2Decoder.chunkLoop fuel d accum rd snk).2 = .ok (d', accum', rd')) :
    accum'.buf.size = accum'.len := by
  have := chunkLoop_safe fuel d accum rd hd.inv ha hf snk
  rw [h] at this
  exact this.2.1

/-- A stream in the `Data` state, after any call sequence: window and tables are bounded. -/
theorem memory_bounds_stream {opts : Options} {st : Stream} {rs : RunState}
    (h : Reachable opts st) (hst : st.state = some (.data rs)) :
    rs.output.buf.size ≤ rs.output.dictSize ∧ rs.output.buf.size ≤ rs.output.len ∧
      rs.output.buf.size ≤ rs.output.memlimit ∧ rs.decoder.probs.lit.size ≤ 3145728 ∧
      st.tmp.length ≤ 18 := by
  have hi := h.inv
  unfold StreamInv at hi
  rw [hst] at hi
  have := memory_bounds_window hi.2.2
  exact ⟨this.1, this.2.1, this.2.2, (memory_bounds_probs hi.1).2.1, h.tmp_le⟩

/-! ## non-vacuity: concrete runs (checked by kernel evaluation of the model)

The theorems above have no hypotheses on the input, so they cannot be vacuous; the
examples show that the statements range over runs that really decode data, runs that
end in an ordinary error, and that the reachability hypotheses are satisfiable. -/

/-- `"abcabcabc"` as `.lzma` (lc = lp = pb = 0, dict 4096, end marker), made by liblzma -/
def lzmaSample : Bytes :=
  [0, 0, 16, 0, 0, 255, 255, 255, 255, 255, 255, 255, 255, 0, 48, 153, 171, 216, 139, 1, 114, 199,
   255, 255, 50, 64, 0, 0]

/-- `"abcabcabc" * 3` as a raw LZMA2 stream, made by liblzma -/
def lzma2Sample : Bytes := [224, 0, 26, 0, 9, 0, 0, 48, 153, 171, 223, 5, 233, 117, 0, 0, 0]

/-- the same as `.xz` with CRC32, made by liblzma -/
def xzSample : Bytes :=
  [253, 55, 122, 88, 90, 0, 0, 1, 105, 34, 222, 54, 2, 0, 33, 1, 0, 0, 0, 0, 55, 39, 151, 214,
   224, 0, 26, 0, 9, 0, 0, 48, 153, 171, 223, 5, 233, 117, 0, 0, 0, 0, 0, 0, 209, 142, 246, 168,
   0, 1, 33, 27, 36, 105, 124, 38, 144, 66, 153, 13, 1, 0, 0, 0, 0, 1, 89, 90]

def abc : Bytes := [97, 98, 99]

/-- reachable raw decoders exist, and `decompress` on one decodes the sample -/
def sampleParams : LzmaParams :=
  { props := { lc := 0, lp := 0, pb := 0 }, dictSize := 4096, unpackedSize := none }

def sampleDecoder : LzmaDecoder := ((LzmaDecoder.new sampleParams none).toOption.getD default)

example : LzmaReach sampleDecoder :=
  LzmaReach.new sampleParams none _ (by decide) (by rfl)

theorem sampleDecoder_run : let r := sampleDecoder.decompress (Rd.ofBytes (lzmaSample.drop 13)) {}
    r.2.isOk = true ∧ r.1.out.toList = abc ++ abc ++ abc := by decide +kernel

example : let r := sampleDecoder.decompress (Rd.ofBytes (lzmaSample.drop 13)) {}
    r.2.isOk = true ∧ r.1.out.toList = abc ++ abc ++ abc := sampleDecoder_run

/-- the one-shot call is the same run: the 13 header bytes give `sampleParams` -/
example : let r := lzmaDecompress (Rd.ofBytes lzmaSample) {} {}
    r.2.isOk = true ∧ r.1.out.toList = abc ++ abc ++ abc := by
  obtain ⟨e1, e2⟩ := lzmaDecompress_run (rd := Rd.ofBytes lzmaSample) (opts := {}) (dec := sampleDecoder)
    (params := sampleParams) (rd1 := Rd.ofBytes (lzmaSample.drop 13)) rfl rfl {}
  show _ = true ∧ _
  rw [e1, e2]
  exact sampleDecoder_run

example : let r := lzma2Decompress (Rd.ofBytes lzma2Sample) {}
    r.2.isOk = true ∧ r.1.out.toList = abc ++ abc ++ abc ++ abc ++ abc ++ abc ++ abc ++ abc ++ abc := by
  decide +kernel

example : let r := xzDecompress (Rd.ofBytes xzSample) {}
    r.2.isOk = true ∧ r.1.out.toList = abc ++ abc ++ abc ++ abc ++ abc ++ abc ++ abc ++ abc ++ abc := by
  decide +kernel

/-- ordinary errors do occur (truncated input; a sink that fails; a memlimit of 2 bytes) -/
example : ((lzmaDecompress (Rd.ofBytes (lzmaSample.take 20)) {} {}).2.toOption.isNone) = true := by
  decide +kernel
example : ((lzmaDecompress (Rd.ofBytes lzmaSample) {} { script := [.fail] }).2.toOption.isNone) = true := by
  decide +kernel
example : ((lzmaDecompress (Rd.ofBytes lzmaSample) { memlimit := some 2 } {}).2.toOption.isNone) = true := by
  decide +kernel

example : Lzma2Reach ((Lzma2Decoder.new).toOption.getD default) := Lzma2Reach.new _ (by rfl)

/-- a reachable stream in the `Data` state after a fragmented feed, whose `finish` succeeds -/
example : let opts : Options := {}
    let s1 := (Stream.newWithOptions opts).writeS (lzmaSample.take 7) {}
    let s2 := s1.2.1.feed 10 (lzmaSample.drop 7) 0 s1.1
    Reachable opts s2.2.1 ∧ s2.2.2.isOk = true ∧ (s2.2.1.finish s2.1).2.isOk = true ∧
      (s2.2.1.finish s2.1).1.out.toList = abc ++ abc ++ abc := by
  refine ⟨Reachable.feed _ _ _ _ (Reachable.write Reachable.new _ _), ?_⟩
  decide +kernel

end C07
end Lzma
