/-
  C06 — XZ integrity: `xz_decompress` reports success only if every integrity field of the
  file agrees with the decoded data.

  The container grammar (`XzFile`, `XzFile.Valid`, `XzBlock.Valid`, `XzIndex.Valid`,
  `BlockDecodes`) is defined in `LzmaProofs/Lemmas/XzInv.lean`, multibyte integers (`MbInt`,
  `MbEnc`) in `Lemmas/Multibyte.lean`.  It describes the file layout byte by byte; the padding
  lengths and the meaning of a block's payload are stated with the model's `paddingSize` and
  `decodeFilter` / `laterFilters`.  The theorems below say that a successful run of the decoder model
  `xzDecompress` on ANY byte string `x` forces `x` to have that layout with every check satisfied.
  `crc32` / `crc64` stay opaque.
-/
import LzmaProofs.Lemmas.XzInv
namespace Lzma.C06
open Lzma

/-- C06, main theorem.  For every byte string `x` and every sink `s` (perfect or
faulty: any script of short writes / failures): if
`xz_decompress` succeeds then `x` is a valid single-stream `.xz` file — header, blocks, index,
footer, nothing after the footer — with every integrity field correct (`XzFile.Valid`), the reader
is at end of input, and the sink received exactly the concatenation of the blocks' contents. -/
theorem xz_success_implies_checks (x : Bytes) (s s' : Sink) (rd' : Rd)
    (h : xzDecompress (Rd.ofBytes x) s = (s', .ok rd')) :
    ∃ (check : CheckMethod) (blocks : List XzBlock),
      XzParses x check blocks ∧ rd'.rem = [] ∧
      s'.out = s.out ++ (blocks.flatMap (·.out)).toArray := by
  obtain ⟨f, hv, hx, hr, -, ho⟩ := xzDecompress_ok h
  exact ⟨f.check, f.blocks, ⟨f, rfl, rfl, hv, hx⟩, hr, ho⟩

/-- the same with the file structure exposed -/
theorem xz_success_file (x : Bytes) (s s' : Sink) (rd' : Rd)
    (h : xzDecompress (Rd.ofBytes x) s = (s', .ok rd')) :
    ∃ f : XzFile, f.Valid ∧ x = f.bytes ∧ rd'.rem = [] ∧ s'.out = s.out ++ f.out.toArray := by
  obtain ⟨f, hv, hx, hr, -, ho⟩ := xzDecompress_ok h
  exact ⟨f, hv, hx, hr, ho⟩

/-! ### The layers of `XzFile.Valid`, spelled out -/

/-- Layer 1 (stream header): magic, first flag byte 0, supported check id, CRC32 of the flags. -/
theorem xz_success_header (x : Bytes) (s s' : Sink) (rd' : Rd)
    (h : xzDecompress (Rd.ofBytes x) s = (s', .ok rd')) :
    ∃ (id : UInt8) (rest : Bytes), (id = 0x00 ∨ id = 0x01 ∨ id = 0x04) ∧
      x = XZ_MAGIC ++ [0, id] ++ leBytes 4 (crc32 [0, id]) ++ rest := by
  obtain ⟨f, hv, hx, -⟩ := xz_success_file x s s' rd' h
  refine ⟨UInt8.ofNat f.check.id, f.blocks.flatMap (·.bytes) ++ f.index.bytes ++ f.footer, ?_, ?_⟩
  · rcases hv.check_supported with h | h | h <;> rw [h] <;> simp [CheckMethod.id]
  · rw [hx]; simp [XzFile.bytes, XzFile.header, XzFile.flags]

/-- Layer 2 (stream footer and end of input): the file ends with
`crc32(backward_size ++ flags) ++ backward_size ++ flags ++ "YZ"`, the flags equal the header's,
`(backward_size + 1) * 4` is the real size of the index (over ℕ, no wrap-around), and the
decoder stopped at the very end of the input. -/
theorem xz_success_footer (x : Bytes) (s s' : Sink) (rd' : Rd)
    (h : xzDecompress (Rd.ofBytes x) s = (s', .ok rd')) :
    ∃ (f : XzFile) (pre : Bytes), x = f.bytes ∧
      x = pre ++ f.index.bytes ++
        (leBytes 4 (crc32 (f.backwardSize ++ [0, UInt8.ofNat f.check.id])) ++ f.backwardSize ++
          [0, UInt8.ofNat f.check.id] ++ [0x59, 0x5A]) ∧
      x.take 8 = XZ_MAGIC ++ [0, UInt8.ofNat f.check.id] ∧
      f.backwardSize.length = 4 ∧
      (leVal f.backwardSize + 1) * 4 = f.index.bytes.length ∧
      rd'.rem = [] := by
  obtain ⟨f, hv, hx, hr, -⟩ := xz_success_file x s s' rd' h
  refine ⟨f, f.header ++ f.blocks.flatMap (·.bytes), hx, ?_, ?_, hv.bs_len, hv.backward, hr⟩
  · rw [hx]; simp [XzFile.bytes, XzFile.footer, XzFile.flags, XZ_MAGIC_FOOTER]
  · rw [hx]; simp [XzFile.bytes, XzFile.header, XzFile.flags, XZ_MAGIC]

/-- Layer 3 (index): indicator 0, record count = number of blocks, one record per block with the
block's real unpadded and uncompressed sizes, zero padding to a multiple of four, CRC32. -/
theorem xz_success_index (x : Bytes) (s s' : Sink) (rd' : Rd)
    (h : xzDecompress (Rd.ofBytes x) s = (s', .ok rd')) :
    ∃ f : XzFile, x = f.bytes ∧
      f.index.bytes = 0 :: (f.index.countEnc ++ f.index.records ++ f.index.pad ++ f.index.crc) ∧
      MbInt f.index.countEnc f.blocks.length ∧
      MbPairs f.index.records
        (f.blocks.map fun b =>
          (1 + b.hdr.length + 4 + b.payload.length + b.check.length, b.out.length)) ∧
      f.index.pad = List.replicate
        (paddingSize (1 + f.index.countEnc.length + f.index.records.length)) 0 ∧
      f.index.crc =
        leBytes 4 (crc32 (0 :: (f.index.countEnc ++ f.index.records ++ f.index.pad))) := by
  obtain ⟨f, hv, hx, -⟩ := xz_success_file x s s' rd' h
  have hi := hv.index_valid
  exact ⟨f, hx, rfl, by simpa using hi.count, hi.records, hi.pad_eq, hi.crc_eq⟩

/-- Layer 4 (blocks): every block of the file satisfies every block-level check
(`XzBlock.Valid`: header size, header CRC32, reserved bits, filter list, declared sizes, zero
header padding, the payload decodes to `out` consuming exactly the payload, zero block padding,
check field = CRC32 / CRC64 of `out`). -/
theorem xz_success_blocks (x : Bytes) (s s' : Sink) (rd' : Rd)
    (h : xzDecompress (Rd.ofBytes x) s = (s', .ok rd')) :
    ∃ f : XzFile, x = f.bytes ∧ s'.out = s.out ++ (f.blocks.flatMap (·.out)).toArray ∧
      BlocksValid f.check f.blocks (f.index.bytes ++ f.footer) ∧
      ∀ b ∈ f.blocks, ∃ rest, b.Valid f.check rest := by
  obtain ⟨f, hv, hx, -, ho⟩ := xz_success_file x s s' rd' h
  exact ⟨f, hx, ho, hv.blocks_valid, BlocksValid.of_mem hv.blocks_valid⟩

/-- In particular: the decoded content of every block has the CRC stored in the file. -/
theorem xz_success_block_check (x : Bytes) (s s' : Sink) (rd' : Rd)
    (h : xzDecompress (Rd.ofBytes x) s = (s', .ok rd')) :
    ∃ f : XzFile, x = f.bytes ∧ s'.out = s.out ++ (f.blocks.flatMap (·.out)).toArray ∧
      ∀ b ∈ f.blocks,
        b.hdrCrc = leBytes 4 (crc32 (b.hsByte :: b.hdr)) ∧
        b.check = (match f.check with
          | .none => []
          | .crc32 => leBytes 4 (crc32 b.out)
          | .crc64 => leBytes 8 (crc64 b.out)
          | .sha256 => []) := by
  obtain ⟨f, hx, ho, -, hb⟩ := xz_success_blocks x s s' rd' h
  refine ⟨f, hx, ho, fun b hbm => ?_⟩
  obtain ⟨rest, hv⟩ := hb b hbm
  refine ⟨hv.hdr_crc, ?_⟩
  rw [hv.check_eq]
  cases f.check <;> rfl

/-! ### Non-vacuity -/

/-- `xz -C crc32` of `"hello"` (60 bytes, one block holding an uncompressed LZMA2 chunk) -/
def helloXz : Bytes :=
  [0xfd, 0x37, 0x7a, 0x58, 0x5a, 0x00, 0x00, 0x01, 0x69, 0x22, 0xde, 0x36,
   0x02, 0x00, 0x21, 0x01, 0x16, 0x00, 0x00, 0x00, 0x74, 0x2f, 0xe5, 0xa3,
   0x01, 0x00, 0x04, 0x68, 0x65, 0x6c, 0x6c, 0x6f, 0x00, 0x00, 0x00, 0x00,
   0x86, 0xa6, 0x10, 0x36,
   0x00, 0x01, 0x19, 0x05, 0xbc, 0xe8, 0xec, 0xcb,
   0x90, 0x42, 0x99, 0x0d, 0x01, 0x00, 0x00, 0x00, 0x00, 0x01, 0x59, 0x5a]

/-- the empty `.xz` file (32 bytes, no block) -/
def emptyXz : Bytes :=
  [0xfd, 0x37, 0x7a, 0x58, 0x5a, 0x00, 0x00, 0x01, 0x69, 0x22, 0xde, 0x36,
   0x00, 0x00, 0x00, 0x00, 0x1c, 0xdf, 0x44, 0x21,
   0x90, 0x42, 0x99, 0x0d, 0x01, 0x00, 0x00, 0x00, 0x00, 0x01, 0x59, 0x5a]

/-- Boolean test "the run succeeded with output `out`" (evaluated by the kernel, CRCs included) -/
def okWith (out : Bytes) (r : Sink × Except Err Rd) : Bool :=
  match r with
  | (s, .ok _) => s.out.toList == out
  | _ => false

theorem okWith_elim {out : Bytes} {r : Sink × Except Err Rd} (h : okWith out r = true) :
    ∃ s' rd', r = (s', .ok rd') ∧ s'.out.toList = out := by
  obtain ⟨s, e | a⟩ := r
  · simp [okWith] at h
  · exact ⟨s, a, rfl, by simpa [okWith] using h⟩

/-- the hypothesis of the theorems is satisfiable: a real file with one block decodes -/
example : ∃ s' rd', xzDecompress (Rd.ofBytes helloXz) {} = (s', .ok rd') ∧
    s'.out.toList = [0x68, 0x65, 0x6c, 0x6c, 0x6f] :=
  okWith_elim (by decide +kernel)

/-- the same file through a sink that accepts two bytes, then one byte, then everything -/
example : ∃ s' rd', xzDecompress (Rd.ofBytes helloXz)
      { script := [.upto 2, .upto 1, .all] } = (s', .ok rd') ∧
    s'.out.toList = [0x68, 0x65, 0x6c, 0x6c, 0x6f] :=
  okWith_elim (by decide +kernel)

/-- the empty file decodes -/
example : ∃ s' rd', xzDecompress (Rd.ofBytes emptyXz) {} = (s', .ok rd') ∧ s'.out.toList = [] :=
  okWith_elim (by decide +kernel)

/-- hence (by the theorem) `helloXz` has the grammar, with content `"hello"` -/
example : ∃ f : XzFile, f.Valid ∧ helloXz = f.bytes ∧ f.out = [0x68, 0x65, 0x6c, 0x6c, 0x6f] := by
  obtain ⟨s', rd', h, ho⟩ := okWith_elim (out := [0x68, 0x65, 0x6c, 0x6c, 0x6f])
    (r := xzDecompress (Rd.ofBytes helloXz) {}) (by decide +kernel)
  obtain ⟨f, hv, hx, -, hout⟩ := xz_success_file helloXz {} s' rd' h
  refine ⟨f, hv, hx, ?_⟩
  rw [hout] at ho
  simpa using ho

/-- a corrupted file (one payload byte changed) is not accepted -/
example : ∃ s' e, xzDecompress (Rd.ofBytes (helloXz.set 28 0x66)) {} = (s', .error e) := by
  have : (match xzDecompress (Rd.ofBytes (helloXz.set 28 0x66)) {} with
      | (_, .error _) => true | _ => false) = true := by decide +kernel
  revert this
  rcases xzDecompress (Rd.ofBytes (helloXz.set 28 0x66)) {} with ⟨s, e | a⟩
  · intro _; exact ⟨s, e, rfl⟩
  · simp

end Lzma.C06
