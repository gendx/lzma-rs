/-
  C09 — match references outside the produced window are always rejected.

  Subject: `LzmaModel/Window.lean` (`Circ` = Rust `LzCircularBuffer`, `Accum` = Rust
  `LzAccumBuffer`, `/repo/src/decode/lzbuffer.rs`).  Ghost state: the history `H` of all bytes
  appended so far; `CircInv w H` / `AccumInv w H` tie the concrete window to it
  (`LzmaProofs/Lemmas/Window.lean`).  All statements hold for EVERY `dictSize ≥ 1`, every
  `memlimit`, every history: no bounds anywhere.

  Conventions
  * `s.Perfect` : the sink's script is exhausted, every raw call accepts everything.
  * `lzCopy H dist len` : the format's meaning of a match (overlap allowed).
  * `s.after d H H'` : the sink after the window went from history `H` to `H'` — one raw
    `write` per completed lap of `d` bytes, carrying exactly that lap.
  * all theorems about matches assume `1 ≤ dist` (the decoder passes `rep0 + 1`);
    `lastN_dist_zero`/`dist_zero_accepted` say exactly what happens for `dist = 0`.
-/
import LzmaProofs.Lemmas.Window
namespace Lzma.C09

/-! ### 1. construction -/

theorem fromStream_inv {d : Nat} (m : Nat) (hd : 0 < d) : CircInv (Circ.fromStream d m) [] :=
  Circ.fromStream_inv m hd

example : CircInv (Circ.fromStream 3 0) [] := fromStream_inv 0 (by decide)

/-- a concrete window in its second lap (`d = 3`, five bytes produced) meets the invariant -/
example :
    CircInv { buf := #[4, 5, 3], dictSize := 3, memlimit := 3, cursor := 2, len := 5 }
      [1, 2, 3, 4, 5] where
  dict_pos := by decide
  len_eq := rfl
  cursor_eq := rfl
  size_eq := rfl
  size_le := by decide
  cells := by
    intro p hp hw
    have : p = 2 ∨ p = 3 ∨ p = 4 := by simp at hp hw; omega
    rcases this with rfl | rfl | rfl <;> rfl

/-- the invariant in the per-cell form: cell `i` holds the byte of `H` at the LAST position
`p < H.length` with `p % dictSize = i` -/
theorem inv_cell {w : Circ} {H : Bytes} (h : CircInv w H) {i : Nat} (hi : i < w.buf.size) :
    w.buf[i]? = H[lastPos H.length w.dictSize i]? ∧
      lastPos H.length w.dictSize i < H.length ∧ lastPos H.length w.dictSize i % w.dictSize = i ∧
      ∀ q, q < H.length → q % w.dictSize = i → q ≤ lastPos H.length w.dictSize i := by
  have hi' : i < min H.length w.dictSize := by rw [← h.size_eq]; exact hi
  obtain ⟨h1, h2, h3⟩ := lastPos_spec h.dict_pos hi'
  refine ⟨h.cell hi, h1, h3, fun q hq hqi => ?_⟩
  by_cases hle : q ≤ lastPos H.length w.dictSize i
  · exact hle
  · exact absurd (h3.trans hqi.symm) (mod_ne_of_lt_lt (by omega) (by omega))

/-- the content clause of `CircInv` (`Cells`, stated per position of the last `d` positions) is
equivalent to the per-cell "last position with that residue" formulation -/
theorem inv_cells_iff {buf : Array UInt8} {d : Nat} {H : Bytes} (hd : 0 < d) :
    Cells buf d H ↔ ∀ i, i < min H.length d → buf[i]? = H[lastPos H.length d i]? := by
  constructor
  · intro hc i hi
    obtain ⟨h1, h2, h3⟩ := lastPos_spec hd hi
    rw [← hc _ h1 h2, h3]
  · intro hc
    intro p hp hw
    have hi : p % d < min H.length d := by
      have := Nat.mod_lt p hd
      have := Nat.mod_le p d
      omega
    obtain ⟨h1, h2, h3⟩ := lastPos_spec hd hi
    rw [hc _ hi]
    by_cases hlt : lastPos H.length d (p % d) < p
    · exact absurd h3 (mod_ne_of_lt_lt hlt (by omega))
    · by_cases hgt : p < lastPos H.length d (p % d)
      · exact absurd h3.symm (mod_ne_of_lt_lt hgt (by omega))
      · rw [show lastPos H.length d (p % d) = p by omega]

/-- the window is a function of the history (and of `dictSize`, `memlimit`) -/
theorem inv_unique {w w' : Circ} {H : Bytes} (h : CircInv w H) (h' : CircInv w' H)
    (hd : w.dictSize = w'.dictSize) (hm : w.memlimit = w'.memlimit) : w = w' :=
  CircInv.ext h h' hd hm

/-! ### 2. `append_literal` -/

theorem appendLiteral_spec {w : Circ} {H : Bytes} {s : Sink} (b : UInt8) (h : CircInv w H)
    (hs : s.Perfect) :
    (min (H.length + 1) w.dictSize ≤ w.memlimit →
      ∃ w' s', w.appendLiteral b s = (s', .ok w') ∧ CircInv w' (H ++ [b]) ∧
        w'.dictSize = w.dictSize ∧ w'.memlimit = w.memlimit ∧ s'.Perfect ∧
        s'.out = s.out ++
          (if (H.length + 1) % w.dictSize = 0 then
            ((H ++ [b]).drop (H.length + 1 - w.dictSize)).toArray
           else #[])) ∧
    (¬ min (H.length + 1) w.dictSize ≤ w.memlimit →
      w.appendLiteral b s = (s, .error .lzma)) := by
  refine ⟨fun hm => ?_, fun hm => Circ.appendLiteral_fail s b h hm⟩
  obtain ⟨w', e1, e2, e3, e4⟩ := Circ.appendLiteral_ok (s := s) b h hs hm
  refine ⟨w', _, e1, e2, e3, e4, Sink.after_perfect hs, ?_⟩
  rw [Sink.after_snoc s h.dict_pos]
  split <;> simp

/-- the step completing a lap (`d = 3`, third byte): the lap `[1,2,3]` reaches the sink -/
example :
    ((Circ.runOps [.lit 1, .lit 2, .lit 3] (Circ.fromStream 3 3)) {}).1.out = #[1, 2, 3] := by
  decide +kernel

/-! ### 3. reads -/

theorem lastN_spec {w : Circ} {H : Bytes} {dist : Nat} (h : CircInv w H) (h1 : 1 ≤ dist) :
    w.lastN dist =
      if hg : dist ≤ w.dictSize ∧ dist ≤ H.length then .ok (H[H.length - dist]'(by omega))
      else .error .lzma :=
  Circ.lastN_spec h h1

theorem lastOr_spec {w : Circ} {H : Bytes} (b : UInt8) (h : CircInv w H) :
    w.lastOr b = .ok (H.getLast?.getD b) :=
  Circ.lastOr_spec b h

/-- `dist = 0` is NOT rejected by `last_n` (nor by `append_lz`): the cell under the cursor is
read — the byte `dictSize` back once a lap is complete (a stale cell), the `unwrap_or(&0)`
default before.  The decoder never passes `0` (it passes `rep0 + 1`). -/
theorem lastN_dist_zero {w : Circ} {H : Bytes} (h : CircInv w H) :
    w.lastN 0 = .ok (if w.dictSize ≤ H.length then H[H.length - w.dictSize]?.getD 0 else 0) := by
  rw [← Circ.get_cursor h]
  unfold Circ.lastN Circ.offsetOf subChk
  simp only [Nat.not_lt_zero, gt_iff_lt, if_false, Nat.zero_le, if_true, bind, Except.bind,
    Nat.sub_zero, if_neg (Nat.ne_of_gt h.dict_pos), Nat.add_mod_left, pure, Except.pure,
    Nat.mod_eq_of_lt h.cursor_lt]

/-- `append_lz(len, 0)` in general: the distance guard never fires; the copy behaves like
distance `dictSize` on the history extended to the left by zeros (`lzCopyZ`); only the memory
limit can reject it. -/
theorem appendLz_dist_zero {w : Circ} {H : Bytes} {s : Sink} (len : Nat) (h : CircInv w H)
    (hs : s.Perfect) :
    ((len = 0 ∨ min (H.length + len) w.dictSize ≤ w.memlimit) →
      ∃ w', w.appendLz len 0 s =
          (s.after w.dictSize H (H ++ lzCopyZ w.dictSize H len), .ok w') ∧
        CircInv w' (H ++ lzCopyZ w.dictSize H len)) ∧
    (¬ (len = 0 ∨ min (H.length + len) w.dictSize ≤ w.memlimit) →
      w.appendLz len 0 s = (s, .error .lzma)) := by
  have hsp := Circ.appendLz_zero (s := s) len h hs
  refine ⟨fun hg => ?_, fun hg => ?_⟩
  · rw [if_pos hg] at hsp
    obtain ⟨w', e1, e2, _⟩ := hsp
    exact ⟨w', e1, e2⟩
  · rw [if_neg hg] at hsp; exact hsp

/-- `append_lz(len, 0)` is accepted: on a fresh window it appends zeros; in a later lap it
re-emits the stale cells (here `2, 3` after `1 2 3 4 5` with `d = 4`) -/
theorem dist_zero_accepted :
    (((Circ.fromStream 4 4).appendLz 2 0 {}).2.toOption.map (·.buf)) = some #[0, 0] ∧
    ((Circ.runOps [.lit 1, .lit 2, .lit 3, .lit 4, .lit 5, .lz 2 0] (Circ.fromStream 4 4) {}).2.toOption.map
        (·.buf)) = some #[5, 2, 3, 4] ∧
    idealOps 4 [.lit 1, .lit 2, .lit 3, .lit 4, .lit 5, .lz 2 0] [] = none := by
  decide +kernel

/-! ### 4. `append_lz`: the guard -/

theorem appendLz_spec {w : Circ} {H : Bytes} {s : Sink} (len : Nat) {dist : Nat}
    (h : CircInv w H) (hs : s.Perfect) (h1 : 1 ≤ dist) :
    ((∃ s' w', w.appendLz len dist s = (s', .ok w')) ↔
      (dist ≤ w.dictSize ∧ dist ≤ H.length ∧
        (len = 0 ∨ min (H.length + len) w.dictSize ≤ w.memlimit))) ∧
    ((dist ≤ w.dictSize ∧ dist ≤ H.length ∧
        (len = 0 ∨ min (H.length + len) w.dictSize ≤ w.memlimit)) →
      ∃ w', w.appendLz len dist s = (s.after w.dictSize H (H ++ lzCopy H dist len), .ok w') ∧
        CircInv w' (H ++ lzCopy H dist len) ∧ w'.dictSize = w.dictSize ∧
        w'.memlimit = w.memlimit ∧ (s.after w.dictSize H (H ++ lzCopy H dist len)).Perfect) ∧
    (¬ (dist ≤ w.dictSize ∧ dist ≤ H.length ∧
        (len = 0 ∨ min (H.length + len) w.dictSize ≤ w.memlimit)) →
      w.appendLz len dist s = (s, .error .lzma)) := by
  have hsp := Circ.appendLz_spec (s := s) len h hs h1
  refine ⟨ok_iff_of_spec hsp, fun hg => ?_, fun hg => ?_⟩
  · rw [if_pos hg] at hsp
    obtain ⟨w', e1, e2, e3, e4⟩ := hsp
    exact ⟨w', e1, e2, e3, e4, Sink.after_perfect hs⟩
  · rw [if_neg hg] at hsp; exact hsp

/-- a match reaching outside the produced window or the dictionary leaves window and sink
untouched -/
theorem appendLz_guard {w : Circ} {H : Bytes} {s : Sink} (len : Nat) {dist : Nat}
    (h : CircInv w H) (hs : s.Perfect) (h1 : 1 ≤ dist)
    (hbad : w.dictSize < dist ∨ H.length < dist) :
    w.appendLz len dist s = (s, .error .lzma) :=
  (appendLz_spec len h hs h1).2.2 (by omega)

/-- the sink relation "everything except the unflushed part of the current lap" is maintained -/
theorem sink_rel {s0 s : Sink} {d : Nat} {H H' : Bytes} (hp : H <+: H')
    (hout : s.out = s0.out ++ (H.take (H.length - H.length % d)).toArray) :
    (s.after d H H').out = s0.out ++ (H'.take (H'.length - H'.length % d)).toArray :=
  Sink.after_out_rel hp hout

/-- closed form of a copy: the last `dist` bytes repeated periodically -/
theorem lzCopy_periodic {H : Bytes} {dist n i : Nat} (h1 : 1 ≤ dist) (h2 : dist ≤ H.length)
    (hi : i < n) : (lzCopy H dist n)[i]? = H[H.length - dist + i % dist]? := by
  induction n generalizing H i with
  | zero => omega
  | succ n ih =>
    rw [lzCopy_succ]
    have hx : H[H.length - dist]?.getD 0 = H[H.length - dist]'(by omega) := by
      rw [List.getElem?_eq_getElem (by omega)]; rfl
    cases i with
    | zero => simp [Nat.zero_mod]; rw [List.getElem?_eq_getElem (by omega)]; rfl
    | succ i =>
      rw [List.getElem?_cons_succ, ih (by simp; omega) (by omega)]
      have hlt := Nat.mod_lt i (show 0 < dist by omega)
      have hm := succ_mod_eq (L := i) (show 0 < dist by omega)
      simp only [List.length_append, List.length_cons, List.length_nil]
      by_cases he : i % dist + 1 = dist
      · rw [if_pos he] at hm
        rw [hm, List.getElem?_append_right (by omega)]
        have : H.length + (0 + 1) - dist + i % dist - H.length = 0 := by omega
        rw [this, Nat.add_zero, hx]; simp
      · rw [if_neg he] at hm
        rw [hm, List.getElem?_append_left (by omega)]
        congr 1; omega

/-- `d = 3`: after `1 2`, the overlapping copy `(len 5, dist 2)` straddles the wrap point of
both the read offset and the cursor (twice); the result is the ideal one -/
example :
    Circ.runOps [.lit 1, .lit 2, .lz 5 2] (Circ.fromStream 3 3) {} =
      ({ out := #[1, 2, 1, 2, 1, 2], writes := 2 },
       .ok { buf := #[1, 1, 2], dictSize := 3, memlimit := 3, cursor := 1, len := 7 }) ∧
    [1, 2] ++ lzCopy [1, 2] 2 5 = [1, 2, 1, 2, 1, 2, 1] := by
  decide +kernel

/-- `d = 3`, three bytes produced: distances 1..3 accepted, 4 rejected (beyond the dictionary and
beyond the output); on a two-byte history distance 3 is rejected (beyond the output) -/
example :
    ((Circ.runOps [.lit 1, .lit 2, .lit 3, .lz 1 3] (Circ.fromStream 3 3) {}).2.toOption.isSome = true) ∧
    (Circ.runOps [.lit 1, .lit 2, .lit 3, .lz 1 4] (Circ.fromStream 3 3) {}).2 = .error .lzma ∧
    (Circ.runOps [.lit 1, .lit 2, .lz 1 3] (Circ.fromStream 3 3) {}).2 = .error .lzma := by
  decide +kernel

/-! ### 5. the `unwrap_or(&0)` default and stale cells are never observed -/

/-- for a distance passing the guard the offset computation does not panic, the index passed to
`get` is inside the allocated buffer, and the cell holds the byte of the history -/
theorem get_default_unreachable {w : Circ} {H : Bytes} {dist : Nat} (h : CircInv w H)
    (h1 : 1 ≤ dist) (h2 : dist ≤ w.dictSize) (h3 : dist ≤ H.length) :
    ∃ off, w.offsetOf dist = .ok off ∧ off < w.buf.size ∧
      w.get off = H[H.length - dist]'(by omega) := by
  obtain ⟨e1, e2, _⟩ := Circ.offsetOf_get h h1 h2 h3
  exact ⟨_, e1, e2, Circ.get_eq h h1 h2 h3⟩

/-- with `get` replaced by a panicking index (`Circ.getStrict`), `last_n`, `last_or` and the whole
copy loop of `append_lz` behave identically: no read ever leaves the allocated buffer -/
theorem strict_get_same {w : Circ} {H : Bytes} (h : CircInv w H) :
    (∀ b, w.lastOrStrict b = w.lastOr b) ∧
    (∀ dist, 1 ≤ dist → w.lastNStrict dist = w.lastN dist) ∧
    (∀ len dist s, 1 ≤ dist → s.Perfect → w.appendLzStrict len dist s = w.appendLz len dist s) := by
  refine ⟨fun b => ?_, fun dist h1 => ?_, fun len dist s h1 hs => ?_⟩
  · unfold Circ.lastOrStrict Circ.lastOr
    rw [h.len_eq]
    by_cases h0 : H.length = 0
    · rw [if_pos h0, if_pos h0]
    · have hd := h.dict_pos
      rw [if_neg h0, if_neg h0, (Circ.offsetOf_get h (Nat.le_refl 1) hd (by omega)).1]
      simp only [bind, Except.bind]
      rw [Circ.getStrict_eq h (Nat.le_refl 1) hd (by omega)]; rfl
  · unfold Circ.lastNStrict Circ.lastN
    rw [h.len_eq]
    by_cases h2 : dist > w.dictSize
    · rw [if_pos h2, if_pos h2]
    · rw [if_neg h2, if_neg h2]
      by_cases h3 : dist > H.length
      · rw [if_pos h3, if_pos h3]
      · rw [if_neg h3, if_neg h3, (Circ.offsetOf_get h h1 (by omega) (by omega)).1]
        simp only [bind, Except.bind]
        rw [Circ.getStrict_eq h h1 (by omega) (by omega)]; rfl
  · unfold Circ.appendLzStrict Circ.appendLz
    rw [h.len_eq]
    by_cases h2 : dist > w.dictSize
    · rw [if_pos h2, if_pos h2]
    · rw [if_neg h2, if_neg h2]
      by_cases h3 : dist > H.length
      · rw [if_pos h3, if_pos h3]
      · rw [if_neg h3, if_neg h3]
        simp only [bind_run, (Circ.offsetOf_get h h1 (by omega) (by omega)).1, liftE_ok]
        exact Circ.copyLoopStrict_eq len h hs h1 (by omega) (by omega)

/-! ### 6. refinement of the ideal semantics -/

theorem circ_refines_ideal_ok {ops : List WinOp} {d m : Nat} {s0 : Sink} {H' : Bytes}
    (hd : 0 < d) (hs : s0.Perfect) (hv : ∀ op ∈ ops, op.Valid)
    (hi : idealOps d ops [] = some H') (hm : min H'.length d ≤ m) :
    ∃ s', Circ.runAll ops d m s0 = (s', .ok ()) ∧ s'.Perfect ∧ s'.out = s0.out ++ H'.toArray ∧
      s'.lastFlush = true := by
  have hr : idealRunM d m ops [] = (H', true) :=
    (idealRunM_eq_true_iff (by simp)).2 ⟨hi, hm⟩
  obtain ⟨w', e1, e2, e3, e4⟩ := Circ.runOps_fromStream_ok (s := s0) hd hs hv hr
  have hf := Circ.finish_spec (s0 := s0) e2 (Sink.after_perfect (d := d) (H := []) (H' := H') hs)
    (by rw [e3]; exact Sink.after_nil_out s0 d H')
  obtain ⟨s', f1, f2, f3, f4⟩ := hf
  refine ⟨s', ?_, f2, f3, f4⟩
  unfold Circ.runAll
  rw [bind_run, e1]
  exact f1

/-- otherwise the run is an `lzma` error (never a panic) and the sink holds a prefix of the ideal
history produced before the offending op -/
theorem circ_rejects {ops : List WinOp} {d m : Nat} {s0 : Sink} (hd : 0 < d) (hs : s0.Perfect)
    (hv : ∀ op ∈ ops, op.Valid)
    (hi : ¬ ∃ H', idealOps d ops [] = some H' ∧ min H'.length d ≤ m) :
    ∃ s' Hp, Circ.runAll ops d m s0 = (s', .error .lzma) ∧ s'.Perfect ∧
      s'.out = s0.out ++ Hp.toArray ∧ Hp <+: idealPrefix d ops [] := by
  have hf : idealRunM d m ops [] = ((idealRunM d m ops []).1, false) := by
    cases hb : (idealRunM d m ops []).2
    · rw [← hb]
    · exfalso; apply hi
      refine ⟨(idealRunM d m ops []).1, (idealRunM_eq_true_iff (m := m) (by simp)).1 ?_⟩
      rw [← hb]
  have hsp := Circ.runOps_fromStream_err (s := s0) hd hs hv hf
  refine ⟨_, ((idealRunM d m ops []).1.take (flushedLen d (idealRunM d m ops []).1.length)), ?_,
    Sink.after_perfect hs, Sink.after_nil_out s0 d _, ?_⟩
  · unfold Circ.runAll
    rw [bind_run, hsp]
  · exact (List.take_prefix _ _).trans (idealRunM_fst_prefix_idealPrefix d m ops [])

/-- Running any op list on a fresh window and finishing succeeds with output `H'` iff the ideal
list semantics yields `H'` and the final allocation fits the limit: the output is a function of
the op sequence alone, not of capacity, laps or stale cells. -/
theorem circ_refines_ideal {ops : List WinOp} {d m : Nat} {s0 : Sink} (hd : 0 < d)
    (hs : s0.Perfect) (hv : ∀ op ∈ ops, op.Valid) (H' : Bytes) :
    (∃ s', Circ.runAll ops d m s0 = (s', .ok ()) ∧ s'.out = s0.out ++ H'.toArray) ↔
      (idealOps d ops [] = some H' ∧ min H'.length d ≤ m) := by
  constructor
  · intro ⟨s', hr, ho⟩
    by_cases hi : ∃ H'', idealOps d ops [] = some H'' ∧ min H''.length d ≤ m
    · obtain ⟨H'', h1, h2⟩ := hi
      obtain ⟨s'', e1, _, e3, _⟩ := circ_refines_ideal_ok hd hs hv h1 h2
      rw [hr] at e1
      injection e1 with e1 _
      subst e1
      rw [ho] at e3
      have := congrArg Array.toList e3
      rw [show H' = H'' by simpa using this]
      exact ⟨h1, h2⟩
    · obtain ⟨s'', Hp, e1, _⟩ := circ_rejects hd hs hv hi
      rw [hr] at e1
      injection e1 with _ e2
      cases e2
  · intro ⟨h1, h2⟩
    obtain ⟨s', e1, _, e3, _⟩ := circ_refines_ideal_ok hd hs hv h1 h2
    exact ⟨s', e1, e3⟩

/-- intermediate form: after the ops (before `finish`) the window represents the ideal history and
the sink holds its completed laps -/
theorem runOps_inv {ops : List WinOp} {d m : Nat} {s0 : Sink} {H' : Bytes} (hd : 0 < d)
    (hs : s0.Perfect) (hv : ∀ op ∈ ops, op.Valid) (hi : idealOps d ops [] = some H')
    (hm : min H'.length d ≤ m) :
    ∃ w', Circ.runOps ops (Circ.fromStream d m) s0 = (s0.after d [] H', .ok w') ∧ CircInv w' H' ∧
      (s0.after d [] H').out = s0.out ++ (H'.take (H'.length - H'.length % d)).toArray := by
  obtain ⟨w', e1, e2, _, _⟩ := Circ.runOps_fromStream_ok (s := s0) hd hs hv
    ((idealRunM_eq_true_iff (m := m) (by simp)).2 ⟨hi, hm⟩)
  exact ⟨w', e1, e2, Sink.after_nil_out s0 d H'⟩

example :
    (∀ op ∈ [WinOp.lit 1, .lit 2, .lz 5 2], op.Valid) ∧
    idealOps 3 [.lit 1, .lit 2, .lz 5 2] [] = some [1, 2, 1, 2, 1, 2, 1] ∧
    Circ.runAll [.lit 1, .lit 2, .lz 5 2] 3 3 {} =
      ({ out := #[1, 2, 1, 2, 1, 2, 1], writes := 3, flushes := 1, lastFlush := true }, .ok ()) := by
  decide +kernel

/-- without `Valid` (a `dist = 0` op) the refinement fails: the concrete window accepts -/
example :
    idealOps 4 [.lz 2 0] [] = none ∧
    Circ.runAll [.lz 2 0] 4 4 {} =
      ({ out := #[0, 0], writes := 1, flushes := 1, lastFlush := true }, .ok ()) := by
  decide +kernel

/-! ### 7. the accumulating window (LZMA2) -/

theorem accum_fromStream_inv (m : Nat) : AccumInv (Accum.fromStream m) [] :=
  Accum.fromStream_inv m

theorem accum_lastN_spec {w : Accum} {H : Bytes} {dist : Nat} (h : AccumInv w H)
    (h1 : 1 ≤ dist) :
    w.lastN dist =
      if hg : dist ≤ H.length then .ok (H[H.length - dist]'(by omega)) else .error .lzma :=
  Accum.lastN_spec h h1

theorem accum_lastOr_spec {w : Accum} {H : Bytes} (b : UInt8) (h : AccumInv w H) :
    w.lastOr b = .ok (H.getLast?.getD b) :=
  Accum.lastOr_spec b h

/-- `append_literal`: the only operation of the accumulating window that looks at `memlimit`
(it compares `len + 1`, the bytes since the last reset); any sink, untouched -/
theorem accum_appendLiteral_spec {w : Accum} {H : Bytes} (b : UInt8) (s : Sink)
    (h : AccumInv w H) :
    (H.length + 1 ≤ w.memlimit →
      ∃ w', w.appendLiteral b s = (s, .ok w') ∧ AccumInv w' (H ++ [b]) ∧
        w'.memlimit = w.memlimit) ∧
    (¬ H.length + 1 ≤ w.memlimit → w.appendLiteral b s = (s, .error .lzma)) := by
  rw [Accum.appendLiteral_spec b s h]
  refine ⟨fun hm => ?_, fun hm => by rw [if_neg hm]⟩
  rw [if_pos hm]
  exact ⟨_, rfl, Accum.appendLiteral_inv b h, rfl⟩

/-- `append_lz`: guard `dist ≤ H.length`, overlapping copy, no memory-limit check, no panic,
any sink, untouched -/
theorem accum_appendLz_spec {w : Accum} {H : Bytes} (len : Nat) {dist : Nat} (s : Sink)
    (h : AccumInv w H) (h1 : 1 ≤ dist) :
    (dist ≤ H.length →
      ∃ w', w.appendLz len dist s = (s, .ok w') ∧ AccumInv w' (H ++ lzCopy H dist len) ∧
        w'.memlimit = w.memlimit) ∧
    (¬ dist ≤ H.length → w.appendLz len dist s = (s, .error .lzma)) := by
  rw [Accum.appendLz_spec len s h h1]
  refine ⟨fun hm => ?_, fun hm => by rw [if_neg hm]⟩
  rw [if_pos hm]
  exact ⟨_, rfl, Accum.appendLz_inv len dist h, rfl⟩

theorem accum_appendBytes_spec {w : Accum} {H : Bytes} (bs : Bytes) (h : AccumInv w H) :
    AccumInv (w.appendBytes bs) (H ++ bs) ∧ (w.appendBytes bs).memlimit = w.memlimit :=
  ⟨Accum.appendBytes_inv bs h, rfl⟩

theorem accum_reset_spec {w : Accum} {H : Bytes} {s : Sink} (h : AccumInv w H)
    (hs : s.Perfect) :
    ∃ s' w', w.reset s = (s', .ok w') ∧ AccumInv w' [] ∧ w'.memlimit = w.memlimit ∧
      s'.Perfect ∧ s'.out = s.out ++ H.toArray := by
  obtain ⟨s', e1, e2, e3, e4⟩ := Accum.reset_spec h hs
  exact ⟨s', _, e1, e4, rfl, e2, e3⟩

theorem accum_finish_spec {w : Accum} {H : Bytes} {s : Sink} (h : AccumInv w H)
    (hs : s.Perfect) :
    ∃ s', w.finish s = (s', .ok ()) ∧ s'.Perfect ∧ s'.out = s.out ++ H.toArray ∧
      s'.lastFlush = true :=
  Accum.finish_spec h hs

/-- on the accumulating window `dist = 0` is an index-out-of-bounds panic (as in the Rust code);
unreachable from the decoder -/
theorem accum_dist_zero_panics (w : Accum) (n : Nat) (s : Sink) :
    w.lastN 0 = .error (.panic "lzbuffer: index out of bounds") ∧
    w.appendLz (n + 1) 0 s = (s, .error (.panic "lzbuffer: index out of bounds")) :=
  ⟨by unfold Accum.lastN; simp, by unfold Accum.appendLz; simp [bind_run, Accum.copyLoop]⟩

example : AccumInv { buf := #[1, 2], memlimit := 10, len := 2 } [1, 2] := ⟨rfl, rfl⟩

example :
    (Accum.appendLz { buf := #[1, 2], memlimit := 10, len := 2 } 5 2 {}).2.toOption.map (·.buf) =
      some #[1, 2, 1, 2, 1, 2, 1] ∧
    (Accum.appendLz { buf := #[1, 2], memlimit := 10, len := 2 } 5 3 {}).2 = .error .lzma := by
  decide +kernel

/-! ### `Circ` agrees with the ideal window on all five `LzBuf` operations -/

theorem circ_sim_ideal {w : Circ} {i : IdealWin} (h : WinSim w i) :
    LzBuf.len w = LzBuf.len i ∧
    (∀ b, LzBuf.lastOr w b = LzBuf.lastOr i b) ∧
    (∀ dist, 1 ≤ dist → LzBuf.lastN w dist = LzBuf.lastN i dist) ∧
    (∀ b s, s.Perfect →
      WinSimM (LzBuf.appendLiteral w b s) (LzBuf.appendLiteral i b s) ∧
        (LzBuf.appendLiteral w b s).1.Perfect) ∧
    (∀ len dist s, 1 ≤ dist → s.Perfect →
      WinSimM (LzBuf.appendLz w len dist s) (LzBuf.appendLz i len dist s) ∧
        (LzBuf.appendLz w len dist s).1.Perfect) := by
  refine ⟨h.1.len_eq, h.lastOr, fun dist h1 => ?_, fun b _ hs => h.appendLiteral b hs,
    fun len _ _ h1 hs => h.appendLz len h1 hs⟩
  show w.lastN dist = i.lastN dist
  rw [Circ.lastN_spec h.1 h1, IdealWin.lastN, ← h.2.1]
  by_cases hg : dist ≤ w.dictSize ∧ dist ≤ i.hist.length
  · rw [dif_pos hg, if_pos hg, List.getElem?_eq_getElem (by omega)]; rfl
  · rw [dif_neg hg, if_neg hg]

theorem sim_fromStream {d : Nat} (m : Nat) (hd : 0 < d) :
    WinSim (Circ.fromStream d m) { dictSize := d, memlimit := m } :=
  ⟨Circ.fromStream_inv m hd, rfl, rfl⟩

end Lzma.C09
