/-
  C04 (LZMA part): what `lzma_compress` emits decodes back to exactly the original bytes,
  provided the matching decode option is used (size written to header; size omitted and supplied
  out of band; end marker).

  Combines `C04Lzma.dumb_enc_is_refenc` (the model encoder emits `lzmaHeader ++ encodeSyms` of the
  literal program) with decoder exactness on every reference-encoded well-formed program:
  `C01Exact.lzma_decode_exact_sized / _marker` for the 13-byte header read with `ReadFromHeader`,
  and here, from the any-header theorems of `Lemmas/DecodeExactTop.lean`, the other two option
  kinds: `lzma_decode_exact_provided` (5-byte header, `UseProvided(Some(n))`),
  `lzma_decode_exact_header_ignored` (`ReadHeaderButUseProvided(Some(n))`), and the end-marker
  forms with `…(None)`.

  No `DecodeExact*` hypothesis is left in `lzma_enc_roundtrip`.  The only side condition beyond
  "the option pair matches" is `n < 2^64 − 1` for `WriteToHeader(Some(n))` — what the 8-byte
  header field can express (`2^64 − 1` means "unknown"; the model's `Nat` sizes are unbounded,
  Rust's are `u64`).  `DecodeExactSized` of `C04Lzma.lean` quantifies over programs of any output
  size and is therefore false as stated (`decodeExactSized_false`); the bounded form
  `DecodeExactSizedB` holds, and `lzma_enc_roundtrip_needs_bound` shows that the bound is needed
  in the round trip of the model too.
-/
import LzmaProofs.Lemmas.EncRoundTrip
import LzmaProofs.Props.C01Exact
import LzmaProofs.Props.C04Lzma
namespace Lzma.C04
open Lzma
open Lzma.REnc
open Lzma.DumbEnc
open Lzma.EncRT

/-- End-to-end exactness, size supplied out of band (`UnpackedSize::UseProvided(Some(n))`,
5-byte header without size field).  Counterpart of `C01.lzma_decode_exact_sized`: for all valid
properties, every dictionary field `D < 2^32`, every well-formed marker-free program, every
trailing input `T`, every perfect sink and every memory limit admitting the window:
`lzma_decompress` succeeds, the sink receives exactly the bytes the program denotes, the last sink
call is a flush, and the reader is left exactly behind the payload.  (No bound on the size: it
does not pass through a header field.) -/
theorem lzma_decode_exact_provided (props : Props) (hp : props.lc ≤ 8 ∧ props.lp ≤ 4 ∧ props.pb ≤ 4)
    (D : Nat) (hD : D < 2 ^ 32) (prog : List Sym) (st : SpecSt)
    (hrun : SpecSt.run (max D 4096) {} prog = some (st, false)) (T : Bytes) (opts : Options)
    (hopt : opts.unpackedSize = .useProvided (some st.hist.size))
    (hmem : min st.hist.size (max D 4096) ≤ opts.memlimit.getD USIZE_MAX)
    (snk0 : Sink) (hs0 : snk0.script = []) :
    ∃ snk, lzmaDecompress (Rd.ofBytes (lzmaHeader props D none ++
          encodeSyms props (max D 4096) prog ++ T)) opts snk0 = (snk, .ok { rem := T }) ∧
      snk.out = snk0.out ++ st.hist ∧ snk.lastFlush = true := by
  rw [List.append_assoc]
  exact decode_exact_sized hp (by omega) hrun T (headerReads_provided hp hD hopt) hmem snk0 hs0

/-- End-to-end exactness, header size field overridden
(`UnpackedSize::ReadHeaderButUseProvided(Some(n))`): the 13-byte header's size field — any value
`field` — is skipped and the provided size is used. -/
theorem lzma_decode_exact_header_ignored (props : Props)
    (hp : props.lc ≤ 8 ∧ props.lp ≤ 4 ∧ props.pb ≤ 4)
    (D : Nat) (hD : D < 2 ^ 32) (field : Nat) (prog : List Sym) (st : SpecSt)
    (hrun : SpecSt.run (max D 4096) {} prog = some (st, false)) (T : Bytes) (opts : Options)
    (hopt : opts.unpackedSize = .readHeaderButUseProvided (some st.hist.size))
    (hmem : min st.hist.size (max D 4096) ≤ opts.memlimit.getD USIZE_MAX)
    (snk0 : Sink) (hs0 : snk0.script = []) :
    ∃ snk, lzmaDecompress (Rd.ofBytes (lzmaHeader props D (some field) ++
          encodeSyms props (max D 4096) prog ++ T)) opts snk0 = (snk, .ok { rem := T }) ∧
      snk.out = snk0.out ++ st.hist ∧ snk.lastFlush = true := by
  rw [List.append_assoc]
  exact decode_exact_sized hp (by omega) hrun T (headerReads_ignored hp hD field hopt) hmem snk0 hs0

/-- End-to-end exactness, end marker, no size supplied (`UseProvided(None)`, 5-byte header):
counterpart of `C01.lzma_decode_exact_marker`. -/
theorem lzma_decode_exact_provided_marker (props : Props)
    (hp : props.lc ≤ 8 ∧ props.lp ≤ 4 ∧ props.pb ≤ 4)
    (D : Nat) (hD : D < 2 ^ 32) (prog : List Sym) (st : SpecSt)
    (hrun : SpecSt.run (max D 4096) {} prog = some (st, false)) (opts : Options)
    (hopt : opts.unpackedSize = .useProvided none)
    (hmem : min st.hist.size (max D 4096) ≤ opts.memlimit.getD USIZE_MAX)
    (snk0 : Sink) (hs0 : snk0.script = []) :
    ∃ snk, lzmaDecompress (Rd.ofBytes (lzmaHeader props D none ++
          encodeSyms props (max D 4096) (prog ++ [.eos]))) opts snk0 = (snk, .ok { rem := [] }) ∧
      snk.out = snk0.out ++ st.hist ∧ snk.lastFlush = true :=
  decode_exact_marker hp (by omega) hrun (headerReads_provided hp hD hopt) hmem snk0 hs0

/-- End-to-end exactness, end marker, header size field overridden by "unknown"
(`ReadHeaderButUseProvided(None)`, 13-byte header with any size field). -/
theorem lzma_decode_exact_header_ignored_marker (props : Props)
    (hp : props.lc ≤ 8 ∧ props.lp ≤ 4 ∧ props.pb ≤ 4)
    (D : Nat) (hD : D < 2 ^ 32) (field : Nat) (prog : List Sym) (st : SpecSt)
    (hrun : SpecSt.run (max D 4096) {} prog = some (st, false)) (opts : Options)
    (hopt : opts.unpackedSize = .readHeaderButUseProvided none)
    (hmem : min st.hist.size (max D 4096) ≤ opts.memlimit.getD USIZE_MAX)
    (snk0 : Sink) (hs0 : snk0.script = []) :
    ∃ snk, lzmaDecompress (Rd.ofBytes (lzmaHeader props D (some field) ++
          encodeSyms props (max D 4096) (prog ++ [.eos]))) opts snk0 = (snk, .ok { rem := [] }) ∧
      snk.out = snk0.out ++ st.hist ∧ snk.lastFlush = true :=
  decode_exact_marker hp (by omega) hrun (headerReads_ignored hp hD field hopt) hmem snk0 hs0

/-- no memory limit admits every window of a 32-bit dictionary -/
theorem memlimit_none_admits (n D : Nat) (hD : D < 2 ^ 32) :
    min n (max D 4096) ≤ (({} : Options).memlimit).getD USIZE_MAX := by
  show _ ≤ USIZE_MAX
  unfold USIZE_MAX U64
  omega

/-- `DecodeExactSized` restricted to what the 8-byte size field can express -/
def DecodeExactSizedB (props : Props) (D : Nat) : Prop :=
  ∀ (prog : List Sym) (st : SpecSt) (T : Bytes), Sym.eos ∉ prog →
    SpecSt.run (max D 4096) {} prog = some (st, false) → st.hist.size < 0xFFFFFFFFFFFFFFFF →
    ∃ snk, lzmaDecompress (Rd.ofBytes (lzmaHeader props D (some st.hist.size) ++
        encodeSyms props (max D 4096) prog ++ T)) {} {} = (snk, .ok { rem := T }) ∧
      snk.out.toList = st.hist.toList

theorem decode_exact_sizedB (props : Props) (hp : props.lc ≤ 8 ∧ props.lp ≤ 4 ∧ props.pb ≤ 4)
    (D : Nat) (hD : D < 2 ^ 32) : DecodeExactSizedB props D := by
  intro prog st T _ hrun hsize
  obtain ⟨snk, h1, h2, -⟩ := C01.lzma_decode_exact_sized props hp D hD prog st hrun hsize T {} rfl
    (memlimit_none_admits _ D hD) {} rfl
  exact ⟨snk, h1, by rw [h2]; simp⟩

theorem decode_exact_marker (props : Props) (hp : props.lc ≤ 8 ∧ props.lp ≤ 4 ∧ props.pb ≤ 4)
    (D : Nat) (hD : D < 2 ^ 32) : DecodeExactMarker props D := by
  intro prog st _ hrun
  obtain ⟨snk, h1, h2, -⟩ := C01.lzma_decode_exact_marker props hp D hD prog st hrun {} rfl
    (memlimit_none_admits _ D hD) {} rfl
  exact ⟨snk, h1, by rw [h2]; simp⟩

theorem decode_exact_provided (props : Props) (hp : props.lc ≤ 8 ∧ props.lp ≤ 4 ∧ props.pb ≤ 4)
    (D : Nat) (hD : D < 2 ^ 32) : DecodeExactProvided props D := by
  intro prog st T _ hrun
  obtain ⟨snk, h1, h2, -⟩ := lzma_decode_exact_provided props hp D hD prog st hrun T
    { unpackedSize := .useProvided (some st.hist.size) } rfl (memlimit_none_admits _ D hD) {} rfl
  exact ⟨snk, h1, by rw [h2]; simp⟩

/-- the instances for the parameters the encoder uses -/
theorem decode_exact_sizedB_inst : DecodeExactSizedB ⟨3, 0, 2⟩ 0x00800000 :=
  decode_exact_sizedB _ (by decide) _ (by decide)
theorem decode_exact_marker_inst : DecodeExactMarker ⟨3, 0, 2⟩ 0x00800000 :=
  decode_exact_marker _ (by decide) _ (by decide)
theorem decode_exact_provided_inst : DecodeExactProvided ⟨3, 0, 2⟩ 0x00800000 :=
  decode_exact_provided _ (by decide) _ (by decide)

/-! ### why `DecodeExactSized` needs the bound -/

theorem leBytes_mod : ∀ (k n : Nat), leBytes k (n % 256 ^ k) = leBytes k n
  | 0, _ => rfl
  | k+1, n => by
    have h1 : n % 256 ^ (k + 1) % 256 = n % 256 := by
      rw [Nat.pow_succ, Nat.mul_comm]; exact Nat.mod_mul_right_mod n 256 (256 ^ k)
    have h2 : n % 256 ^ (k + 1) / 256 = n / 256 % 256 ^ k := by
      rw [Nat.pow_succ, Nat.mul_comm]; exact Nat.mod_mul_right_div_self n 256 (256 ^ k)
    simp only [leBytes, h1, h2, leBytes_mod k (n / 256)]

/-- an 8-byte size field holds the size modulo `2^64` -/
theorem lzmaHeader_size_mod (props : Props) (D n : Nat) :
    lzmaHeader props D (some (n % 2 ^ 64)) = lzmaHeader props D (some n) := by
  have := leBytes_mod 8 n
  simp only [lzmaHeader]
  rw [show (2 : Nat) ^ 64 = 256 ^ 8 by decide, this]

/-- On a stream whose header size field holds `2^64 + m` (i.e. `m`), the decoder delivers `m`
bytes if it succeeds at all. -/
theorem size_field_wraps (props : Props) (hp : props.lc ≤ 8 ∧ props.lp ≤ 4 ∧ props.pb ≤ 4)
    (D : Nat) (hD : D < 2 ^ 32) (m : Nat) (hm : m < 0xFFFFFFFFFFFFFFFF) (rest : Bytes)
    (snk : Sink) (rd' : Rd)
    (h : lzmaDecompress (Rd.ofBytes (lzmaHeader props D (some (2 ^ 64 + m)) ++ rest)) {} {} =
      (snk, .ok rd')) : snk.out.size = m := by
  have hmod : (2 ^ 64 + m) % 2 ^ 64 = m := by omega
  rw [← lzmaHeader_size_mod, hmod] at h
  have hh := readHeader_lzmaHeader (props := props) hp hD (field := m) (by omega) rest
    (opts := {}) rfl
  have := C08.size_in_effect_exact_bytes (n := m) rfl h hh
    (by show sizeOfField m = some m; unfold sizeOfField; rw [if_neg (by omega)])
  simpa using this

/-- there are inputs of `2^64` bytes (in the model) -/
theorem exists_long_input : ∃ data : Bytes, data.length = 2 ^ 64 :=
  ⟨_, List.length_replicate (n := 2 ^ 64) (a := (0 : UInt8))⟩

/-- `DecodeExactSized` (as stated in `C04Lzma.lean`, without a bound on the output size) is
false: for a program of `2^64` literals the size field reads 0. -/
theorem decodeExactSized_false (props : Props) (hp : props.lc ≤ 8 ∧ props.lp ≤ 4 ∧ props.pb ≤ 4)
    (D : Nat) (hD : D < 2 ^ 32) : ¬ DecodeExactSized props D := by
  intro hS
  obtain ⟨data, hdata⟩ := exists_long_input
  obtain ⟨st, hrun, hhist⟩ := run_lits (max D 4096) data {}
  have hsz : st.hist.size = 2 ^ 64 + 0 := by rw [hhist, ← hdata]; simp
  obtain ⟨snk, hd, hout⟩ := hS _ st [] (lits_no_eos _) hrun
  rw [hsz, List.append_nil] at hd
  have h0 := size_field_wraps props hp D hD 0 (by decide) _ snk _ hd
  have : snk.out.size = st.hist.size := by
    rw [← Array.length_toList, hout, Array.length_toList]
  omega

/-- a literal program followed by the marker is well-formed too -/
theorem run_lits_eos (dict : Nat) : ∀ (data : Bytes) (st : SpecSt),
    ∃ st', SpecSt.run dict st (data.map Sym.lit ++ [.eos]) = some (st', true) ∧
      st'.hist = st.hist ++ data.toArray
  | [], st => ⟨st, rfl, by simp⟩
  | b :: data, st => by
    obtain ⟨st', h1, h2⟩ := run_lits_eos dict data
      { st with hist := st.hist.push b, state := SpecSt.litState st.state }
    refine ⟨st', ?_, by rw [h2]; simp⟩
    simp only [List.map_cons, List.cons_append, SpecSt.run, SpecSt.step]
    exact h1

/-- the symbol program the encoder emits -/
def encProg (data : Bytes) (opt : EncSizeOpt) : List Sym :=
  data.map Sym.lit ++ (if opt = .writeToHeader none then [.eos] else [])

/-- C04 (LZMA), format conformance relative to the specification layer.  For every input,
read fragmentation and option, the encoder succeeds on the perfect sink and its output is
`lzmaHeader ⟨3,0,2⟩ 0x00800000 size ++ encodeSyms ⟨3,0,2⟩ dict prog` for a program `prog` that is
well-formed in the format-level semantics (`SpecSt.run` succeeds, for every dictionary limit
`dict`), ends with the marker iff the option is `WriteToHeader(None)`, and denotes exactly the
input (`expand`).  (`encodeSyms` is the reference encoder that the correspondence check
cross-validates against liblzma.) -/
theorem lzma_enc_output_wellformed (data : Bytes) (fr : List Nat) (opt : EncSizeOpt) (dict : Nat) :
    ∃ snk st, lzmaCompress { rem := data, frags := fr } opt {} = (snk, .ok ()) ∧
      snk.out.toList = lzmaHeader ⟨3, 0, 2⟩ 0x00800000 (hdrSize opt) ++
        encodeSyms ⟨3, 0, 2⟩ dict (encProg data opt) ∧
      SpecSt.run dict {} (encProg data opt) = some (st, decide (opt = .writeToHeader none)) ∧
      st.hist.toList = data ∧ expand dict (encProg data opt) = some data := by
  obtain ⟨snk, hc, ho⟩ := dumb_enc_is_refenc data fr opt dict
  have key : ∃ st, SpecSt.run dict {} (encProg data opt) =
      some (st, decide (opt = .writeToHeader none)) ∧ st.hist.toList = data := by
    by_cases hopt : opt = .writeToHeader none
    · obtain ⟨st, h1, h2⟩ := run_lits_eos dict data {}
      refine ⟨st, ?_, by rw [h2]; simp⟩
      rw [encProg, if_pos hopt, decide_eq_true hopt]
      exact h1
    · obtain ⟨st, h1, h2⟩ := run_lits dict data {}
      refine ⟨st, ?_, by rw [h2]; simp⟩
      rw [encProg, if_neg hopt, decide_eq_false hopt, List.append_nil]
      exact h1
  obtain ⟨st, hrun, hhist⟩ := key
  exact ⟨snk, st, hc, ho, hrun, hhist, by simp [expand, hrun, hhist]⟩

/-- the decoder options (`decompress::UnpackedSize`) that match an encoder option
(`compress::UnpackedSize`) for an input of `len` bytes:
* `WriteToHeader(None)` (end marker): `ReadFromHeader`, or `ReadHeaderButUseProvided(None)`;
* `WriteToHeader(Some(n))`: `ReadFromHeader` if `n = len` and `n` is expressible (`< 2^64 − 1`),
  or `ReadHeaderButUseProvided(Some(len))` whatever `n` is;
* `SkipWritingToHeader`: `UseProvided(Some(len))`. -/
def DecMatches (opt : EncSizeOpt) (len : Nat) (u : UnpackedSizeOpt) : Prop :=
  match opt, u with
  | .writeToHeader none, .readFromHeader => True
  | .writeToHeader none, .readHeaderButUseProvided none => True
  | .writeToHeader (some n), .readFromHeader => n = len ∧ n < 0xFFFFFFFFFFFFFFFF
  | .writeToHeader (some _), .readHeaderButUseProvided (some m) => m = len
  | .skipWritingToHeader, .useProvided (some m) => m = len
  | _, _ => False

/-- matching options make `read_header` return the encoder's parameters and the right size in
effect: none behind the marker form, the input length otherwise -/
theorem headerReads_of_matches {opt : EncSizeOpt} {len : Nat} {dopts : Options}
    (h : DecMatches opt len dopts.unpackedSize) :
    HdrReads (lzmaHeader ⟨3, 0, 2⟩ 0x00800000 (hdrSize opt)) dopts ⟨3, 0, 2⟩ (max 0x00800000 4096)
      (if opt = .writeToHeader none then none else some len) := by
  have hp : Safety.PropsOk ⟨3, 0, 2⟩ := by decide
  have hD : (0x00800000 : Nat) < 2 ^ 32 := by decide
  rcases opt with ⟨_ | n⟩ | _ <;> rcases hu : dopts.unpackedSize with _ | ⟨_ | m⟩ | ⟨_ | m⟩ <;>
    rw [hu] at h <;> try exact h.elim
  · exact hdrReads_lzmaHeader hp hD (by decide) hu
  · exact headerReads_ignored hp hD _ hu
  · obtain ⟨rfl, hn⟩ : n = len ∧ n < 0xFFFFFFFFFFFFFFFF := h
    have := hdrReads_lzmaHeader hp hD (field := n) (by omega) hu
    rwa [sizeOfField, if_neg (by omega)] at this
  · obtain rfl : m = len := h
    exact headerReads_ignored hp hD n hu
  · obtain rfl : m = len := h
    exact headerReads_provided hp hD hu

/-- C04 (LZMA), round trip, general form.  For every input `data`, every read fragmentation,
every encoder option `opt`, every decoder `Options` whose `unpacked_size` matches `opt`
(`DecMatches`) and whose memory limit admits the window (`min len dict`; `None` always does),
every perfect sink `snk0` of the decoder, and every trailing input `T` after the encoder's output
(`T = []` when the stream is ended by the marker): the encoder succeeds, and the decoder applied
to its output followed by `T` succeeds, delivers exactly `data`, flushes, and leaves the reader
exactly at `T`. -/
theorem lzma_enc_roundtrip_gen (data : Bytes) (fr : List Nat) (opt : EncSizeOpt) (dopts : Options)
    (hmatch : DecMatches opt data.length dopts.unpackedSize)
    (hmem : min data.length 0x00800000 ≤ dopts.memlimit.getD USIZE_MAX)
    (T : Bytes) (hT : opt = .writeToHeader none → T = []) (snk0 : Sink) (hs0 : snk0.script = []) :
    ∃ snk snk', lzmaCompress { rem := data, frags := fr } opt {} = (snk, .ok ()) ∧
      lzmaDecompress (Rd.ofBytes (snk.out.toList ++ T)) dopts snk0 = (snk', .ok { rem := T }) ∧
      snk'.out.toList = snk0.out.toList ++ data ∧ snk'.lastFlush = true := by
  obtain ⟨snk, hc, ho⟩ := dumb_enc_is_refenc data fr opt (max 0x00800000 4096)
  obtain ⟨st, hrun, hhist⟩ := run_lits (max 0x00800000 4096) data {}
  have hsize : st.hist.size = data.length := by rw [hhist]; simp
  have hmem' : min st.hist.size (max 0x00800000 4096) ≤ dopts.memlimit.getD USIZE_MAX := by
    rw [hsize]; exact hmem
  have fin : ∀ {snk' : Sink}, snk'.out = snk0.out ++ st.hist →
      snk'.out.toList = snk0.out.toList ++ data := by
    intro snk' h; rw [h, hhist]; simp
  have hh := headerReads_of_matches hmatch
  refine ⟨snk, ?_⟩
  rw [ho]
  by_cases hm : opt = .writeToHeader none
  · rw [if_pos hm] at hh ⊢
    rw [hT hm, List.append_nil]
    obtain ⟨snk', h1, h2, h3⟩ :=
      Lzma.decode_exact_marker (by decide) (by decide) hrun hh hmem' snk0 hs0
    exact ⟨snk', hc, h1, fin h2, h3⟩
  · rw [if_neg hm, ← hsize] at hh
    rw [if_neg hm, List.append_nil, List.append_assoc]
    obtain ⟨snk', h1, h2, h3⟩ := decode_exact_sized (by decide) (by decide) hrun T hh hmem' snk0 hs0
    exact ⟨snk', hc, h1, fin h2, h3⟩

/-- `decOptions` (the canonical matching decoder options of `C04Lzma.lean`) match -/
theorem decOptions_matches (opt : EncSizeOpt) (len : Nat)
    (hopt : ∀ n, opt = .writeToHeader (some n) → n = len ∧ n < 0xFFFFFFFFFFFFFFFF) :
    DecMatches opt len (decOptions opt len).unpackedSize := by
  rcases opt with x | _
  · rcases x with _ | n
    · trivial
    · exact hopt n rfl
  · show len = len; rfl

theorem decOptions_memlimit (opt : EncSizeOpt) (len : Nat) :
    min len 0x00800000 ≤ (decOptions opt len).memlimit.getD USIZE_MAX := by
  have : (decOptions opt len).memlimit = none := by cases opt <;> rfl
  rw [this]
  exact memlimit_none_admits len 0x00800000 (by decide)

/-- C04 (LZMA), round trip.  For every input `data`, every read fragmentation `fr` of the
input reader, and every encoder option `opt` — where `WriteToHeader(Some(n))` must carry the true
length, `n = data.length`, expressible in the 8-byte field (`n < 2^64 − 1`; the crate documents
the value as unchecked, see `writeToHeader_wrong_size_no_roundtrip`) — `lzma_compress` succeeds,
and `lzma_decompress` with the matching option (`decOptions`: `ReadFromHeader` for both
`WriteToHeader` forms, `UseProvided(Some(len))` for `SkipWritingToHeader`) succeeds on its output,
consumes all of it, and returns exactly `data`.  No hypotheses about the decoder are left. -/
theorem lzma_enc_roundtrip (data : Bytes) (fr : List Nat) (opt : EncSizeOpt)
    (hopt : ∀ n, opt = .writeToHeader (some n) → n = data.length ∧ n < 0xFFFFFFFFFFFFFFFF) :
    ∃ snk snk', lzmaCompress { rem := data, frags := fr } opt {} = (snk, .ok ()) ∧
      lzmaDecompress (Rd.ofBytes snk.out.toList) (decOptions opt data.length) {} =
        (snk', .ok { rem := [] }) ∧
      snk'.out.toList = data := by
  obtain ⟨snk, snk', h1, h2, h3, -⟩ := lzma_enc_roundtrip_gen data fr opt (decOptions opt data.length)
    (decOptions_matches opt _ hopt) (decOptions_memlimit opt _) [] (fun _ => rfl) {} rfl
  rw [List.append_nil] at h2
  exact ⟨snk, snk', h1, h2, by simpa using h3⟩

/-- with the uniform bound `data.length < 2^64 − 1` in place of the bound on `n` -/
theorem lzma_enc_roundtrip_bounded (data : Bytes) (hlen : data.length < 0xFFFFFFFFFFFFFFFF)
    (fr : List Nat) (opt : EncSizeOpt)
    (hopt : ∀ n, opt = .writeToHeader (some n) → n = data.length) :
    ∃ snk snk', lzmaCompress { rem := data, frags := fr } opt {} = (snk, .ok ()) ∧
      lzmaDecompress (Rd.ofBytes snk.out.toList) (decOptions opt data.length) {} =
        (snk', .ok { rem := [] }) ∧
      snk'.out.toList = data :=
  lzma_enc_roundtrip data fr opt (fun n h => ⟨hopt n h, by rw [hopt n h]; exact hlen⟩)

/-- C04 (LZMA), round trip, the decoder stops exactly at the end of the encoder's output.
For the two sized forms (`WriteToHeader(Some(len))` / `ReadFromHeader`, and "size omitted and
supplied out of band": `SkipWritingToHeader` / `UseProvided(Some(len))`), with any bytes `T`
following the encoder's output: the decoder returns exactly `data` and leaves the reader at `T`. -/
theorem lzma_enc_roundtrip_trailing (data : Bytes) (fr : List Nat) (opt : EncSizeOpt)
    (hne : opt ≠ .writeToHeader none)
    (hopt : ∀ n, opt = .writeToHeader (some n) → n = data.length ∧ n < 0xFFFFFFFFFFFFFFFF)
    (T : Bytes) :
    ∃ snk snk', lzmaCompress { rem := data, frags := fr } opt {} = (snk, .ok ()) ∧
      lzmaDecompress (Rd.ofBytes (snk.out.toList ++ T)) (decOptions opt data.length) {} =
        (snk', .ok { rem := T }) ∧
      snk'.out.toList = data := by
  obtain ⟨snk, snk', h1, h2, h3, -⟩ := lzma_enc_roundtrip_gen data fr opt (decOptions opt data.length)
    (decOptions_matches opt _ hopt) (decOptions_memlimit opt _) T (fun h => absurd h hne) {} rfl
  exact ⟨snk, snk', h1, h2, by simpa using h3⟩

/-- the bound on `n` is needed (in the model, whose sizes are unbounded `Nat`s): for an input
of `2^64 + m` bytes (`m < 2^64 − 1`) and `WriteToHeader(Some(len))`, the size field wraps to `m`
and the decoder, if it succeeds, returns `m` bytes — not the input. -/
theorem lzma_enc_roundtrip_needs_bound (data : Bytes) (m : Nat) (hm : m < 0xFFFFFFFFFFFFFFFF)
    (hlen : data.length = 2 ^ 64 + m) (fr : List Nat) (snk snk' : Sink) (rd' : Rd)
    (hc : lzmaCompress { rem := data, frags := fr } (.writeToHeader (some data.length)) {} =
      (snk, .ok ()))
    (hd : lzmaDecompress (Rd.ofBytes snk.out.toList) {} {} = (snk', .ok rd')) :
    snk'.out.toList ≠ data := by
  obtain ⟨snk2, hc2, ho⟩ := dumb_enc_is_refenc data fr (.writeToHeader (some data.length)) 0
  rw [hc] at hc2
  obtain rfl : snk = snk2 := (Prod.mk.inj hc2).1
  rw [ho] at hd
  simp only [hdrSize, hlen] at hd
  have := size_field_wraps ⟨3, 0, 2⟩ (by decide) _ (by decide) m hm _ snk' rd' hd
  intro h
  have h2 : snk'.out.size = data.length := by rw [← Array.length_toList, h]
  omega

/-! ## non-vacuity: `data = [0x61, 0x62]` under the three option pairs -/

example : ∃ snk snk', lzmaCompress { rem := [0x61, 0x62] } (.writeToHeader none) {} = (snk, .ok ()) ∧
    lzmaDecompress (Rd.ofBytes snk.out.toList) {} {} = (snk', .ok { rem := [] }) ∧
    snk'.out.toList = [0x61, 0x62] :=
  lzma_enc_roundtrip [0x61, 0x62] [] (.writeToHeader none) (by intro n h; cases h)

example : ∃ snk snk', lzmaCompress { rem := [0x61, 0x62] } (.writeToHeader (some 2)) {} = (snk, .ok ()) ∧
    lzmaDecompress (Rd.ofBytes snk.out.toList) {} {} = (snk', .ok { rem := [] }) ∧
    snk'.out.toList = [0x61, 0x62] :=
  lzma_enc_roundtrip [0x61, 0x62] [] (.writeToHeader (some 2))
    (by intro n h; cases h; exact ⟨rfl, by decide⟩)

example : ∃ snk snk', lzmaCompress { rem := [0x61, 0x62] } .skipWritingToHeader {} = (snk, .ok ()) ∧
    lzmaDecompress (Rd.ofBytes snk.out.toList) { unpackedSize := .useProvided (some 2) } {} =
      (snk', .ok { rem := [] }) ∧
    snk'.out.toList = [0x61, 0x62] :=
  lzma_enc_roundtrip [0x61, 0x62] [] .skipWritingToHeader (by intro n h; cases h)

/-- with trailing bytes, size supplied out of band -/
example : ∃ snk snk', lzmaCompress { rem := [0x61, 0x62] } .skipWritingToHeader {} = (snk, .ok ()) ∧
    lzmaDecompress (Rd.ofBytes (snk.out.toList ++ [1, 2, 3]))
      { unpackedSize := .useProvided (some 2) } {} = (snk', .ok { rem := [1, 2, 3] }) ∧
    snk'.out.toList = [0x61, 0x62] :=
  lzma_enc_roundtrip_trailing [0x61, 0x62] [] .skipWritingToHeader (by decide)
    (by intro n h; cases h) [1, 2, 3]

/-- the general form: a (wrong) size written to the header, overridden by the caller; memory
limit 2; trailing bytes; all hypotheses hold -/
example : ∃ snk snk', lzmaCompress { rem := [0x61, 0x62] } (.writeToHeader (some 7)) {} = (snk, .ok ()) ∧
    lzmaDecompress (Rd.ofBytes (snk.out.toList ++ [9]))
      { unpackedSize := .readHeaderButUseProvided (some 2), memlimit := some 2 } {} =
      (snk', .ok { rem := [9] }) ∧
    snk'.out.toList = [] ++ [0x61, 0x62] ∧ snk'.lastFlush = true :=
  lzma_enc_roundtrip_gen [0x61, 0x62] [] (.writeToHeader (some 7))
    { unpackedSize := .readHeaderButUseProvided (some 2), memlimit := some 2 } rfl (by decide)
    [9] (by intro h; cases h) {} rfl

/-- `lzma_enc_output_wellformed`, instance: the program for `"ab"` with marker -/
example : encProg [0x61, 0x62] (.writeToHeader none) = [.lit 0x61, .lit 0x62, .eos] ∧
    expand 0x00800000 (encProg [0x61, 0x62] (.writeToHeader none)) = some [0x61, 0x62] := by
  decide

end Lzma.C04
