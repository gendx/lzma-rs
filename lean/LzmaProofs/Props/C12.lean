/-
  C12 — I/O failures propagate as errors and never corrupt what was already written.

  Sink side: the caller's `Write` is the scripted `Sink` (each raw `write`/`flush` call consumes
  one `SinkBeh`: accept everything, accept at most `n` bytes, or fail).  `sp` below always denotes
  a fault-free sink (`sp.script = []`) that starts with the same delivered bytes as `s`.
  Source side: `Rd.bad = true` makes a read beyond the data an I/O error; here only the reader
  primitives, the whole decoders are in `Props/C12Src.lean`.
-/
import LzmaProofs.Lemmas.Sink
namespace Lzma.C12

/-! ## the raw sink primitives, for every script -/

/-- `write_all` on EVERY script: `.ok` with all bytes appended in order, or `.error .io` with a
strict prefix appended; the script entries consumed are an initial segment of the script. -/
theorem write_all_spec (bs : Array UInt8) (s : Sink) :
    (∃ used, s.script = used ++ (writeAll bs s).1.script) ∧
    (((writeAll bs s).2 = .ok () ∧ (writeAll bs s).1.out = s.out ++ bs) ∨
     ((writeAll bs s).2 = .error .io ∧
        ∃ k, k < bs.size ∧ (writeAll bs s).1.out = s.out ++ bs.extract 0 k)) :=
  writeAll_spec bs s

theorem write_all_list_spec (bs : Bytes) (s : Sink) :
    (∃ used, s.script = used ++ (writeAllList bs s).1.script) ∧
    (((writeAllList bs s).2 = .ok () ∧ (writeAllList bs s).1.out = s.out ++ bs.toArray) ∨
     ((writeAllList bs s).2 = .error .io ∧
        ∃ k, k < bs.length ∧ (writeAllList bs s).1.out = s.out ++ (bs.take k).toArray)) :=
  writeAllList_spec bs s

theorem write_bytes_spec (bs : Bytes) (s : Sink) :
    (∃ used, s.script = used ++ (writeBytes bs s).1.script) ∧
    (((writeBytes bs s).2 = .ok () ∧ (writeBytes bs s).1.out = s.out ++ bs.toArray) ∨
     ((writeBytes bs s).2 = .error .io ∧
        ∃ k, k < bs.length ∧ (writeBytes bs s).1.out = s.out ++ (bs.take k).toArray)) :=
  writeBytes_spec bs s

/-- with an exhausted script the call succeeds, appends everything, and the script stays `[]` -/
theorem write_all_clean (bs : Array UInt8) (s : Sink) (h : s.script = []) :
    (writeAll bs s).2 = .ok () ∧ (writeAll bs s).1.script = [] ∧
    (writeAll bs s).1.out = s.out ++ bs :=
  writeAll_clean bs s h

/-- short writes (`upto n`, `n ≥ 1`) never lose or reorder data -/
theorem write_all_short_writes (bs : Array UInt8) (s : Sink)
    (hb : ∀ b ∈ s.script, b ≠ .fail ∧ b ≠ .upto 0) :
    (writeAll bs s).2 = .ok () ∧ (writeAll bs s).1.out = s.out ++ bs :=
  ⟨(writeAll_benign bs s hb).1, (writeAll_benign bs s hb).2.1⟩

/-- `upto 0` (a raw `write` returning `Ok(0)`) is the `WriteZero` error -/
theorem write_zero (bs : Bytes) (s : Sink) (rest : List SinkBeh)
    (h : s.script = .upto 0 :: rest) (hne : bs ≠ []) :
    (writeAllList bs s).2 = .error .io ∧ (writeAllList bs s).1.out = s.out ∧
    (writeAllList bs s).1.script = rest :=
  writeAllList_upto_zero bs s rest h hne

/-- `flush` never changes the delivered bytes; `.ok` sets `lastFlush`; it fails exactly when the
script says `fail` -/
theorem flush_spec (s : Sink) :
    (flushSink s).1.out = s.out ∧ (flushSink s).1.script = s.script.tail ∧
    (flushSink s).1.flushes = s.flushes + 1 ∧
    (((flushSink s).2 = .ok () ∧ (flushSink s).1.lastFlush = true ∧ s.script.head? ≠ some .fail) ∨
     ((flushSink s).2 = .error .io ∧ (flushSink s).1.lastFlush = s.lastFlush ∧
        s.script.head? = some .fail)) :=
  flushSink_spec s

/-! ## the decoders under a faulty sink -/

/-- LZMA: with ANY sink script the decoder returns the fault-free result with the fault-free bytes,
or `.error .io` having delivered a prefix `pre` of the fault-free output `pre ++ post`. -/
theorem lzma_sink_prefix (rd : Rd) (opts : Options) (s sp : Sink) (hsp : sp.script = [])
    (ho : s.out = sp.out) :
    (lzmaDecompress rd opts sp).1.script = [] ∧
    (((lzmaDecompress rd opts s).2 = (lzmaDecompress rd opts sp).2 ∧
      (lzmaDecompress rd opts s).1.out = (lzmaDecompress rd opts sp).1.out) ∨
     ((lzmaDecompress rd opts s).2 = .error .io ∧ ∃ pre post : Array UInt8,
        (lzmaDecompress rd opts s).1.out = s.out ++ pre ∧
        (lzmaDecompress rd opts sp).1.out = s.out ++ pre ++ post)) :=
  (OM.lzmaDecompress rd opts).sink_prefix s sp hsp ho

theorem lzma2_sink_prefix (rd : Rd) (s sp : Sink) (hsp : sp.script = []) (ho : s.out = sp.out) :
    (lzma2Decompress rd sp).1.script = [] ∧
    (((lzma2Decompress rd s).2 = (lzma2Decompress rd sp).2 ∧
      (lzma2Decompress rd s).1.out = (lzma2Decompress rd sp).1.out) ∨
     ((lzma2Decompress rd s).2 = .error .io ∧ ∃ pre post : Array UInt8,
        (lzma2Decompress rd s).1.out = s.out ++ pre ∧
        (lzma2Decompress rd sp).1.out = s.out ++ pre ++ post)) :=
  (OM.lzma2Decompress rd).sink_prefix s sp hsp ho

theorem xz_sink_prefix (rd : Rd) (s sp : Sink) (hsp : sp.script = []) (ho : s.out = sp.out) :
    (xzDecompress rd sp).1.script = [] ∧
    (((xzDecompress rd s).2 = (xzDecompress rd sp).2 ∧
      (xzDecompress rd s).1.out = (xzDecompress rd sp).1.out) ∨
     ((xzDecompress rd s).2 = .error .io ∧ ∃ pre post : Array UInt8,
        (xzDecompress rd s).1.out = s.out ++ pre ∧
        (xzDecompress rd sp).1.out = s.out ++ pre ++ post)) :=
  (OM.xzDecompress rd).sink_prefix s sp hsp ho

/-- the hypotheses are satisfiable by a genuinely faulty sink -/
example : ∃ s sp : Sink, s.script = [.upto 1, .all, .upto 0, .fail] ∧ sp.script = [] ∧
    s.out = sp.out :=
  ⟨{ script := [.upto 1, .all, .upto 0, .fail] }, {}, rfl, rfl, rfl⟩

/-- whatever happens, only bytes are appended (LZMA, LZMA2, XZ) -/
theorem decoders_only_append (rd : Rd) (opts : Options) (s : Sink) :
    (∃ t, (lzmaDecompress rd opts s).1.out = s.out ++ t) ∧
    (∃ t, (lzma2Decompress rd s).1.out = s.out ++ t) ∧
    (∃ t, (xzDecompress rd s).1.out = s.out ++ t) :=
  ⟨(OM.lzmaDecompress rd opts).mono s, (OM.lzma2Decompress rd).mono s, (OM.xzDecompress rd).mono s⟩

/-- If a run under ANY script returns `.ok`, the fault-free run returns the same value and the
delivered bytes are equal: a sink that accepts only part of each write still receives the
complete data. -/
theorem success_delivers_everything (rd : Rd) (opts : Options) (s sp : Sink)
    (hsp : sp.script = []) (ho : s.out = sp.out) :
    (∀ r, (lzmaDecompress rd opts s).2 = .ok r →
        (lzmaDecompress rd opts sp).2 = .ok r ∧
        (lzmaDecompress rd opts s).1.out = (lzmaDecompress rd opts sp).1.out) ∧
    (∀ r, (lzma2Decompress rd s).2 = .ok r →
        (lzma2Decompress rd sp).2 = .ok r ∧
        (lzma2Decompress rd s).1.out = (lzma2Decompress rd sp).1.out) ∧
    (∀ r, (xzDecompress rd s).2 = .ok r →
        (xzDecompress rd sp).2 = .ok r ∧
        (xzDecompress rd s).1.out = (xzDecompress rd sp).1.out) :=
  ⟨fun r h => (OM.lzmaDecompress rd opts).obl.ok_eq s sp hsp ho r h,
   fun r h => (OM.lzma2Decompress rd).obl.ok_eq s sp hsp ho r h,
   fun r h => (OM.xzDecompress rd).obl.ok_eq s sp hsp ho r h⟩

/-- Any verdict other than an I/O error (a format error, a panic, …) is the fault-free verdict,
reached with the fault-free bytes: a faulty sink never turns into a different kind of error. -/
theorem non_io_verdict_is_fault_free (rd : Rd) (opts : Options) (s sp : Sink)
    (hsp : sp.script = []) (ho : s.out = sp.out) :
    ((lzmaDecompress rd opts s).2 ≠ .error .io →
        (lzmaDecompress rd opts s).2 = (lzmaDecompress rd opts sp).2 ∧
        (lzmaDecompress rd opts s).1.out = (lzmaDecompress rd opts sp).1.out) ∧
    ((lzma2Decompress rd s).2 ≠ .error .io →
        (lzma2Decompress rd s).2 = (lzma2Decompress rd sp).2 ∧
        (lzma2Decompress rd s).1.out = (lzma2Decompress rd sp).1.out) ∧
    ((xzDecompress rd s).2 ≠ .error .io →
        (xzDecompress rd s).2 = (xzDecompress rd sp).2 ∧
        (xzDecompress rd s).1.out = (xzDecompress rd sp).1.out) :=
  ⟨fun h => (OM.lzmaDecompress rd opts).obl.not_io_eq s sp hsp ho h,
   fun h => (OM.lzma2Decompress rd).obl.not_io_eq s sp hsp ho h,
   fun h => (OM.xzDecompress rd).obl.not_io_eq s sp hsp ho h⟩

/-- Short writes are harmless for the whole decoders: if the script contains only `all` and
`upto n` with `n ≥ 1` (no `fail`, no `upto 0`), result and delivered bytes are exactly the
fault-free ones. -/
theorem short_writes_harmless (rd : Rd) (opts : Options) (s sp : Sink)
    (hb : ∀ b ∈ s.script, b ≠ .fail ∧ b ≠ .upto 0) (hsp : sp.script = []) (ho : s.out = sp.out) :
    ((lzmaDecompress rd opts s).2 = (lzmaDecompress rd opts sp).2 ∧
        (lzmaDecompress rd opts s).1.out = (lzmaDecompress rd opts sp).1.out) ∧
    ((lzma2Decompress rd s).2 = (lzma2Decompress rd sp).2 ∧
        (lzma2Decompress rd s).1.out = (lzma2Decompress rd sp).1.out) ∧
    ((xzDecompress rd s).2 = (xzDecompress rd sp).2 ∧
        (xzDecompress rd s).1.out = (xzDecompress rd sp).1.out) :=
  ⟨⟨((OM.lzmaDecompress rd opts).ben s sp hb hsp ho).1, ((OM.lzmaDecompress rd opts).ben s sp hb hsp ho).2.1⟩,
   ⟨((OM.lzma2Decompress rd).ben s sp hb hsp ho).1, ((OM.lzma2Decompress rd).ben s sp hb hsp ho).2.1⟩,
   ⟨((OM.xzDecompress rd).ben s sp hb hsp ho).1, ((OM.xzDecompress rd).ben s sp hb hsp ho).2.1⟩⟩

example : ∃ s sp : Sink, s.script = [.upto 1, .all, .upto 7] ∧
    (∀ b ∈ s.script, b ≠ .fail ∧ b ≠ .upto 0) ∧ sp.script = [] ∧ s.out = sp.out :=
  ⟨{ script := [.upto 1, .all, .upto 7] }, {}, rfl, by decide, rfl, rfl⟩

/-! ## flushing -/

/-- On `.ok`, `lzma_decompress` and `lzma2_decompress` end with a successful `flush` as their
last raw sink call (for every sink script). -/
theorem decoders_flush (rd : Rd) (opts : Options) (s : Sink) :
    (∀ r, (lzmaDecompress rd opts s).2 = .ok r → (lzmaDecompress rd opts s).1.lastFlush = true) ∧
    (∀ r, (lzma2Decompress rd s).2 = .ok r → (lzma2Decompress rd s).1.lastFlush = true) :=
  ⟨fun r h => Fl.lzmaDecompress rd opts s r h, fun r h => Fl.lzma2Decompress rd s r h⟩

/-- `xz_decompress` never calls `flush` (whatever the result): the flush counter is unchanged, and
`lastFlush` is what the block writes left: untouched if nothing was delivered, otherwise `false`. -/
theorem xz_does_not_flush (rd : Rd) (s : Sink) :
    (xzDecompress rd s).1.flushes = s.flushes ∧
    (((xzDecompress rd s).1.lastFlush = s.lastFlush ∧ (xzDecompress rd s).1.out = s.out) ∨
     (xzDecompress rd s).1.lastFlush = false) :=
  (NF.xzDecompress rd).step s

/-- in particular, on a sink that was not just flushed, `xz_decompress` never ends flushed -/
theorem xz_ends_unflushed (rd : Rd) (s : Sink) (h : s.lastFlush = false) :
    (xzDecompress rd s).1.lastFlush = false := by
  rcases (xz_does_not_flush rd s).2 with ⟨h1, _⟩ | h1
  · rw [h1, h]
  · exact h1

/-! ## the encoders under a faulty sink -/

theorem lzma_compress_sink_prefix (rd : ERd) (opt : EncSizeOpt) (s sp : Sink)
    (hsp : sp.script = []) (ho : s.out = sp.out) :
    (lzmaCompress rd opt sp).1.script = [] ∧
    (((lzmaCompress rd opt s).2 = (lzmaCompress rd opt sp).2 ∧
      (lzmaCompress rd opt s).1.out = (lzmaCompress rd opt sp).1.out) ∨
     ((lzmaCompress rd opt s).2 = .error .io ∧ ∃ pre post : Array UInt8,
        (lzmaCompress rd opt s).1.out = s.out ++ pre ∧
        (lzmaCompress rd opt sp).1.out = s.out ++ pre ++ post)) :=
  (OM.lzmaCompress rd opt).sink_prefix s sp hsp ho

theorem lzma2_compress_sink_prefix (rd : ERd) (s sp : Sink) (hsp : sp.script = [])
    (ho : s.out = sp.out) :
    (lzma2Compress rd sp).1.script = [] ∧
    (((lzma2Compress rd s).2 = (lzma2Compress rd sp).2 ∧
      (lzma2Compress rd s).1.out = (lzma2Compress rd sp).1.out) ∨
     ((lzma2Compress rd s).2 = .error .io ∧ ∃ pre post : Array UInt8,
        (lzma2Compress rd s).1.out = s.out ++ pre ∧
        (lzma2Compress rd sp).1.out = s.out ++ pre ++ post)) :=
  (OM.lzma2Compress rd).sink_prefix s sp hsp ho

/-- The XZ writer measures sizes by differences of `out.size`; under a faulty sink these could
differ from the fault-free ones, but then the run has already failed with `.error .io`. -/
theorem xz_compress_sink_prefix (rd : ERd) (s sp : Sink) (hsp : sp.script = [])
    (ho : s.out = sp.out) :
    (xzCompress rd sp).1.script = [] ∧
    (((xzCompress rd s).2 = (xzCompress rd sp).2 ∧
      (xzCompress rd s).1.out = (xzCompress rd sp).1.out) ∨
     ((xzCompress rd s).2 = .error .io ∧ ∃ pre post : Array UInt8,
        (xzCompress rd s).1.out = s.out ++ pre ∧
        (xzCompress rd sp).1.out = s.out ++ pre ++ post)) :=
  (OM.xzCompress rd).sink_prefix s sp hsp ho

/-- encoder version of `success_delivers_everything` -/
theorem compress_success_delivers_everything (rd : ERd) (opt : EncSizeOpt) (s sp : Sink)
    (hsp : sp.script = []) (ho : s.out = sp.out) :
    (∀ r, (lzmaCompress rd opt s).2 = .ok r →
        (lzmaCompress rd opt sp).2 = .ok r ∧
        (lzmaCompress rd opt s).1.out = (lzmaCompress rd opt sp).1.out) ∧
    (∀ r, (lzma2Compress rd s).2 = .ok r →
        (lzma2Compress rd sp).2 = .ok r ∧
        (lzma2Compress rd s).1.out = (lzma2Compress rd sp).1.out) ∧
    (∀ r, (xzCompress rd s).2 = .ok r →
        (xzCompress rd sp).2 = .ok r ∧
        (xzCompress rd s).1.out = (xzCompress rd sp).1.out) :=
  ⟨fun r h => (OM.lzmaCompress rd opt).obl.ok_eq s sp hsp ho r h,
   fun r h => (OM.lzma2Compress rd).obl.ok_eq s sp hsp ho r h,
   fun r h => (OM.xzCompress rd).obl.ok_eq s sp hsp ho r h⟩

/-- encoder version of `short_writes_harmless` -/
theorem compress_short_writes_harmless (rd : ERd) (opt : EncSizeOpt) (s sp : Sink)
    (hb : ∀ b ∈ s.script, b ≠ .fail ∧ b ≠ .upto 0) (hsp : sp.script = []) (ho : s.out = sp.out) :
    ((lzmaCompress rd opt s).2 = (lzmaCompress rd opt sp).2 ∧
        (lzmaCompress rd opt s).1.out = (lzmaCompress rd opt sp).1.out) ∧
    ((lzma2Compress rd s).2 = (lzma2Compress rd sp).2 ∧
        (lzma2Compress rd s).1.out = (lzma2Compress rd sp).1.out) ∧
    ((xzCompress rd s).2 = (xzCompress rd sp).2 ∧
        (xzCompress rd s).1.out = (xzCompress rd sp).1.out) :=
  ⟨⟨((OM.lzmaCompress rd opt).ben s sp hb hsp ho).1, ((OM.lzmaCompress rd opt).ben s sp hb hsp ho).2.1⟩,
   ⟨((OM.lzma2Compress rd).ben s sp hb hsp ho).1, ((OM.lzma2Compress rd).ben s sp hb hsp ho).2.1⟩,
   ⟨((OM.xzCompress rd).ben s sp hb hsp ho).1, ((OM.xzCompress rd).ben s sp hb hsp ho).2.1⟩⟩

/-! ## the reader side -/

/-- With `Rd.bad = true`, demanding data beyond the end is `.error .io` in every reader
primitive (never `.ok`, never a panic). -/
theorem source_fault_propagates (r : Rd) (hbad : r.bad = true) :
    (r.rem = [] → r.readU8 = .error .io) ∧
    (∀ n, r.rem.length < n → r.readExact n = .error .io) ∧
    (r.rem = [] → r.isEof = .error .io) ∧
    (r.rem = [] → r.fillBuf = .error .io) ∧
    (r.rem.length < 2 → r.readU16BE = .error .io) ∧
    (r.rem.length < 4 → r.readU32BE = .error .io) ∧
    (r.rem.length < 4 → r.readU32LE = .error .io) ∧
    (r.rem.length < 8 → r.readU64LE = .error .io) ∧
    (∀ tag, r.rem.length < tag.length → r.readTag tag = .error .io) ∧
    (r.rem.all (· == 0) = true → r.flushZeroPadding = .error .io) := by
  have hexact : ∀ n, r.rem.length < n → r.readExact n = .error .io := by
    intro n h
    have : ¬ n ≤ r.rem.length := by omega
    simp [Rd.readExact, this, Rd.endErr, hbad]
  refine ⟨?_, hexact, ?_, ?_, ?_, ?_, ?_, ?_, ?_, ?_⟩
  · intro h; simp [Rd.readU8, h, Rd.endErr, hbad]
  · intro h; simp [Rd.isEof, h, hbad]
  · intro h; simp [Rd.fillBuf, h, hbad]
  · intro h; simp [Rd.readU16BE, hexact 2 h]; rfl
  · intro h; simp [Rd.readU32BE, hexact 4 h]; rfl
  · intro h; simp [Rd.readU32LE, hexact 4 h]; rfl
  · intro h; simp [Rd.readU64LE, hexact 8 h]; rfl
  · intro tag h; simp [Rd.readTag, hexact _ h]; rfl
  · intro h; simp [Rd.flushZeroPadding, h, hbad]

/-- conversely a reader that is not `bad` never produces an I/O error -/
theorem good_source_never_io (r : Rd) (hgood : r.bad = false) :
    r.readU8 ≠ .error .io ∧
    (∀ n, r.readExact n ≠ .error .io) ∧ r.isEof ≠ .error .io ∧ r.fillBuf ≠ .error .io := by
  refine ⟨?_, ?_, ?_, ?_⟩
  · unfold Rd.readU8; split <;> simp [Rd.endErr, hgood]
  · intro n; unfold Rd.readExact; split <;> simp [Rd.endErr, hgood]
  · unfold Rd.isEof; split <;> simp [hgood]
  · simp [Rd.fillBuf, hgood]

/-- the encoder's input reader -/
theorem encoder_source_fault_propagates (r : ERd) (cap : Nat) (hbad : r.bad = true)
    (hend : r.rem = []) : r.read cap = .error .io := by
  simp [ERd.read, hend, hbad]

example : (Rd.mk [] true).readU8 = .error .io ∧ (Rd.mk [1, 2] true).readExact 3 = .error .io ∧
    (Rd.mk [0, 0] true).flushZeroPadding = .error .io := ⟨rfl, rfl, rfl⟩

/-! ## non-vacuity: concrete runs -/

/-- two short writes deliver `1, 2` in order, then the third raw call fails: the prefix
`#[1,2]` is delivered and the call reports an I/O error -/
example : writeAll #[1, 2, 3] { script := [.upto 1, .upto 1, .fail] } =
    ({ out := #[1, 2], script := [], writes := 3, lastFlush := false }, .error .io) := by
  simp [writeAll, writeAllList.eq_1, Sink.write1]

/-- only short writes: everything arrives, in order -/
example : writeAll #[1, 2, 3] { script := [.upto 1, .upto 1, .upto 1] } =
    ({ out := #[1, 2, 3], script := [], writes := 3, lastFlush := false }, .ok ()) := by
  simp [writeAll, writeAllList.eq_1, Sink.write1]

/-- `Ok(0)` from the raw `write` is the `WriteZero` error -/
example : writeAll #[1, 2, 3] { script := [.upto 2, .upto 0, .all] } =
    ({ out := #[1, 2], script := [.all], writes := 2, lastFlush := false }, .error .io) := by
  simp [writeAll, writeAllList.eq_1, Sink.write1]

/-- a failing `flush` reports the error and leaves the bytes alone -/
example : flushSink { out := #[9], script := [.fail] } =
    ({ out := #[9], script := [], flushes := 1 }, .error .io) := rfl

/-- a 2-byte `.lzma` stream (`lc = lp = pb = 0`, liblzma output for `"ab"`, size field all-ones,
end marker) -/
def lzmaAb : Bytes :=
  [0, 0, 16, 0, 0, 255, 255, 255, 255, 255, 255, 255, 255, 0, 48, 153, 197, 104, 43, 235, 255,
   237, 244, 128, 0]

/-- an LZMA2 stream holding one uncompressed chunk `7, 8, 9` -/
def lzma2Raw : Bytes := [1, 0, 2, 7, 8, 9, 0]

/-- an `.xz` file (CRC32 check, liblzma output for `"abc"`) -/
def xzAbc : Bytes :=
  [253, 55, 122, 88, 90, 0, 0, 1, 105, 34, 222, 54, 2, 0, 33, 1, 22, 0, 0, 0, 116, 47, 229, 163,
   1, 0, 2, 97, 98, 99, 0, 0, 194, 65, 36, 53, 0, 1, 23, 3, 7, 96, 12, 188, 144, 66, 153, 13,
   1, 0, 0, 0, 0, 1, 89, 90]

/-- LZMA: the sink takes one byte and then fails: the run is an I/O error (derived from
`lzma_sink_prefix`, since the delivered bytes differ from the fault-free ones) and exactly the
prefix `"a"` of the fault-free output `"ab"` was delivered -/
example :
    (lzmaDecompress (Rd.ofBytes lzmaAb) {} { script := [.upto 1, .fail] }).2 = .error .io ∧
    (lzmaDecompress (Rd.ofBytes lzmaAb) {} { script := [.upto 1, .fail] }).1.out = #[97] ∧
    (lzmaDecompress (Rd.ofBytes lzmaAb) {} {}).1.out = #[97, 98] := by
  have h1 : (lzmaDecompress (Rd.ofBytes lzmaAb) {} { script := [.upto 1, .fail] }).1.out = #[97] := by
    decide +kernel
  have h2 : (lzmaDecompress (Rd.ofBytes lzmaAb) {} {}).1.out = #[97, 98] := by decide +kernel
  rcases (lzma_sink_prefix (Rd.ofBytes lzmaAb) {} { script := [.upto 1, .fail] } {} rfl rfl).2 with
    ⟨_, h⟩ | ⟨h, _⟩
  · rw [h1, h2] at h; exact absurd h (by decide)
  · exact ⟨h, h1, h2⟩

/-- LZMA2, same experiment -/
example :
    (lzma2Decompress (Rd.ofBytes lzma2Raw) { script := [.upto 2, .fail] }).2 = .error .io ∧
    (lzma2Decompress (Rd.ofBytes lzma2Raw) { script := [.upto 2, .fail] }).1.out = #[7, 8] ∧
    (lzma2Decompress (Rd.ofBytes lzma2Raw) {}).1.out = #[7, 8, 9] := by
  have h1 : (lzma2Decompress (Rd.ofBytes lzma2Raw) { script := [.upto 2, .fail] }).1.out = #[7, 8] := by
    decide +kernel
  have h2 : (lzma2Decompress (Rd.ofBytes lzma2Raw) {}).1.out = #[7, 8, 9] := by decide +kernel
  rcases (lzma2_sink_prefix (Rd.ofBytes lzma2Raw) { script := [.upto 2, .fail] } {} rfl rfl).2 with
    ⟨_, h⟩ | ⟨h, _⟩
  · rw [h1, h2] at h; exact absurd h (by decide)
  · exact ⟨h, h1, h2⟩

/-- XZ, same experiment -/
example :
    (xzDecompress (Rd.ofBytes xzAbc) { script := [.upto 2, .fail] }).2 = .error .io ∧
    (xzDecompress (Rd.ofBytes xzAbc) { script := [.upto 2, .fail] }).1.out = #[97, 98] ∧
    (xzDecompress (Rd.ofBytes xzAbc) {}).1.out = #[97, 98, 99] := by
  have h1 : (xzDecompress (Rd.ofBytes xzAbc) { script := [.upto 2, .fail] }).1.out = #[97, 98] := by
    decide +kernel
  have h2 : (xzDecompress (Rd.ofBytes xzAbc) {}).1.out = #[97, 98, 99] := by decide +kernel
  rcases (xz_sink_prefix (Rd.ofBytes xzAbc) { script := [.upto 2, .fail] } {} rfl rfl).2 with
    ⟨_, h⟩ | ⟨h, _⟩
  · rw [h1, h2] at h; exact absurd h (by decide)
  · exact ⟨h, h1, h2⟩

/-- `success_delivers_everything` / `short_writes_harmless` are not vacuous: a sink that takes one
byte per call lets the decoders succeed, with the complete output -/
example :
    (lzmaDecompress (Rd.ofBytes lzmaAb) {} { script := [.upto 1, .upto 1] }).2.toBool = true ∧
    (lzmaDecompress (Rd.ofBytes lzmaAb) {} { script := [.upto 1, .upto 1] }).1.out = #[97, 98] ∧
    (xzDecompress (Rd.ofBytes xzAbc) { script := [.upto 1, .upto 1, .upto 1] }).2.toBool = true ∧
    (xzDecompress (Rd.ofBytes xzAbc) { script := [.upto 1, .upto 1, .upto 1] }).1.out
      = #[97, 98, 99] := by
  decide +kernel

/-- `decoders_flush` is not vacuous (successful runs exist and end flushed); a successful
`xz_decompress` ends with `lastFlush = false` and `flushes = 0` -/
example :
    (lzmaDecompress (Rd.ofBytes lzmaAb) {} {}).2.toBool = true ∧
    (lzmaDecompress (Rd.ofBytes lzmaAb) {} {}).1.lastFlush = true ∧
    (lzma2Decompress (Rd.ofBytes lzma2Raw) {}).2.toBool = true ∧
    (lzma2Decompress (Rd.ofBytes lzma2Raw) {}).1.lastFlush = true ∧
    (xzDecompress (Rd.ofBytes xzAbc) {}).2.toBool = true ∧
    (xzDecompress (Rd.ofBytes xzAbc) {}).1.lastFlush = false ∧
    (xzDecompress (Rd.ofBytes xzAbc) {}).1.flushes = 0 := by
  decide +kernel

/-- the failing call may be the final `flush`: all bytes are there but the run is an error -/
example :
    (lzma2Decompress (Rd.ofBytes lzma2Raw) { script := [.all, .fail] }).2.toBool = false ∧
    (lzma2Decompress (Rd.ofBytes lzma2Raw) { script := [.all, .fail] }).1.out = #[7, 8, 9] ∧
    (lzma2Decompress (Rd.ofBytes lzma2Raw) { script := [.all, .fail] }).1.lastFlush = false := by
  decide +kernel

/-- LZMA2 encoder: the header byte goes out, the size field is cut after one byte, then the sink
fails: `#[1, 0]` is a prefix of the fault-free output -/
example : lzma2Compress { rem := [7, 8, 9] } { script := [.all, .upto 1, .fail] } =
    ({ out := #[1, 0], script := [], writes := 3 }, .error .io) := by
  simp [lzma2Compress, lzma2EncodeLoop, ERd.read, bind_run, writeBytes, writeAll,
    writeAllList.eq_1, Sink.write1, subChk, beBytes, leBytes, U16]

example : lzma2Compress { rem := [7, 8, 9] } {} =
    ({ out := #[1, 0, 2, 7, 8, 9, 0], writes := 4 }, .ok { rem := [] }) := by
  simp [lzma2Compress, lzma2EncodeLoop, ERd.read, bind_run, writeBytes, writeAll, subChk,
    beBytes, leBytes, U16]

/-- XZ and LZMA encoders under a sink that fails at its third raw call -/
example :
    (xzCompress { rem := [7, 8, 9] } { script := [.all, .upto 1, .fail] }).2.toBool = false ∧
    (xzCompress { rem := [7, 8, 9] } { script := [.all, .upto 1, .fail] }).1.out
      = #[0xFD, 0x37, 0x7A, 0x58, 0x5A, 0x00, 0x00] ∧
    (lzmaCompress { rem := [7] } (.writeToHeader none) { script := [.all, .upto 1, .fail] }).2.toBool
      = false ∧
    (lzmaCompress { rem := [7] } (.writeToHeader none) { script := [.all, .upto 1, .fail] }).1.out
      = #[0x5D, 0x00] := by
  decide +kernel

end Lzma.C12
