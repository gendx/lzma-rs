/-
  C11 — decoders consume exactly the compressed payload and nothing after it
  (LZMA2 part and the whole-file decoders).
-/
import LzmaProofs.Lemmas.Lzma2
namespace Lzma.C11
open Lzma Lzma.L2 Lzma2Decoder

/-! ### LZMA2 stops right behind its end byte and never looks further -/

/-- Success of `lzma2_decompress` on any reader: what is left in the reader is a suffix of the
input, the byte just before it is the `0` control byte, and the verdict, the sink and the
position do not depend on what follows that byte: replacing the unread tail by ANY bytes `t`
(and any reader end kind) gives the same sink and verdict with the reader left exactly at `t`.
Bytes that follow the end byte are neither read nor required. -/
theorem lzma2_stops_at_end_byte {rd rd' : Rd} {s s' : Sink}
    (h : lzma2Decompress rd s = (s', .ok rd')) :
    ∃ pre, rd.rem = pre ++ 0 :: rd'.rem ∧ rd'.bad = rd.bad ∧
      ∀ (t : Bytes) (bad : Bool),
        lzma2Decompress { rem := pre ++ 0 :: t, bad := bad } s
          = (s', .ok { rem := t, bad := bad }) :=
  lzma2Decompress_tail_irrelevant h

/-- In-place decodability, in the form: if `x` is consumed entirely then `x ++ t` decodes with
the same sink and verdict and leaves the reader at `t`, for EVERY `t`. -/
theorem lzma2_in_place {x : Bytes} {rd' : Rd} {s s' : Sink}
    (h : lzma2Decompress (Rd.ofBytes x) s = (s', .ok rd')) (hr : rd'.rem = []) (t : Bytes) :
    lzma2Decompress (Rd.ofBytes (x ++ t)) s = (s', .ok { rd' with rem := t }) := by
  obtain ⟨pre, h1, h2, h3⟩ := lzma2_stops_at_end_byte h
  have hx : x = pre ++ [0] := by simpa [Rd.ofBytes, hr] using h1
  have := h3 t false
  rw [hx]
  simp only [Rd.ofBytes, List.append_assoc, List.singleton_append] at this ⊢
  rw [this]
  have : rd'.bad = false := h2
  simp [this]

/-- the number of bytes consumed is the length up to and including the end byte, whatever
follows -/
theorem lzma2_consumed {x : Bytes} {rd' : Rd} {s s' : Sink}
    (h : lzma2Decompress (Rd.ofBytes x) s = (s', .ok rd')) :
    rd'.rem.length < x.length ∧ x.drop (x.length - rd'.rem.length) = rd'.rem ∧
      x[x.length - rd'.rem.length - 1]? = some 0 := by
  obtain ⟨pre, h1, -, -⟩ := lzma2_stops_at_end_byte h
  simp only [Rd.ofBytes] at h1
  subst h1
  have e : (pre ++ 0 :: rd'.rem).length - rd'.rem.length = pre.length + 1 := by
    simp; omega
  refine ⟨by simp; omega, ?_, ?_⟩
  · rw [e, show pre ++ 0 :: rd'.rem = (pre ++ [0]) ++ rd'.rem by simp]
    exact List.drop_left' (by simp)
  · rw [e]; simp

/-- the chunk loop's fuel (`rem.length + 1` in `decompress`) is only a bound: more fuel never
changes an `Ok` result, and `rem.length + 1` always suffices for whatever any fuel accepts -/
theorem chunkLoop_fuel_irrelevant {fuel fuel' : Nat} {d d' : Lzma2Decoder} {a a' : Accum}
    {rd rd' : Rd} {s s' : Sink} (h : chunkLoop fuel d a rd s = (s', .ok (d', a', rd'))) :
    (fuel ≤ fuel' → chunkLoop fuel' d a rd s = (s', .ok (d', a', rd'))) ∧
    chunkLoop (rd.rem.length + 1) d a rd s = (s', .ok (d', a', rd')) := by
  obtain ⟨cs, hl, hwf, hr, hb, hrun⟩ := chunkLoop_ok_iff.1 h
  refine ⟨fun hle => chunkLoop_ok_iff.2 ⟨cs, by omega, hwf, hr, hb, hrun⟩,
    chunkLoop_ok_iff.2 ⟨cs, ?_, hwf, hr, hb, hrun⟩⟩
  have := flatMap_bytes_length cs
  rw [hr, List.length_append, List.length_cons]; omega

/-- non-vacuity: "abc" stored, followed by garbage -/
example : ∃ s', lzma2Decompress (Rd.ofBytes ([1, 0, 2, 0x61, 0x62, 0x63, 0] ++ [9, 9, 9])) {}
    = (s', .ok { rem := [9, 9, 9] }) := by
  obtain ⟨s', h⟩ := rawAbc_ok
  exact ⟨s', lzma2_in_place h rfl [9, 9, 9]⟩


/-! ### the whole-file decoders never succeed with input left over -/

/-- (i) `xz_decompress`: success ⇒ the reader is at EOF (`decode_stream` ends with `is_eof`) -/
theorem xz_rejects_trailing {rd rd' : Rd} {s s' : Sink}
    (h : xzDecompress rd s = (s', .ok rd')) : rd'.rem = [] :=
  (xzDecompress_post rd h).1

/-- which unpacked size is in effect after `read_header`, per option -/
theorem size_in_effect {rd rd1 : Rd} {opts : Options} {params : LzmaParams}
    (h : readHeader rd opts = .ok (params, rd1)) :
    params.unpackedSize =
      match opts.unpackedSize with
      | .readFromHeader =>
        if leVal ((rd.rem.drop 5).take 8) = 0xFFFFFFFFFFFFFFFF then none
        else some (leVal ((rd.rem.drop 5).take 8))
      | .readHeaderButUseProvided x => x
      | .useProvided x => x :=
  readHeader_unpackedSize h

/-- (ii) `lzma_decompress` with NO unpacked size in effect — the header's size field is all-ones
(`ReadFromHeader`), or `None` is provided — succeeds only at EOF: both loop exits of
`process_mode(Finish)` (end marker, or `code = 0` at end of input) go through
`is_finished_ok`, which demands `is_eof`. -/
theorem lzma_no_size_rejects_trailing {rd rd' : Rd} {opts : Options} {s s' : Sink}
    (h : lzmaDecompress rd opts s = (s', .ok rd'))
    (hopts : (opts.unpackedSize = .readFromHeader ∧
                leVal ((rd.rem.drop 5).take 8) = 0xFFFFFFFFFFFFFFFF) ∨
             opts.unpackedSize = .readHeaderButUseProvided none ∨
             opts.unpackedSize = .useProvided none) :
    rd'.rem = [] := by
  refine (lzmaDecompress_no_size_eof (fun params rd1 hh => ?_) h).1
  rw [readHeader_unpackedSize hh]
  rcases hopts with ⟨h1, h2⟩ | h1 | h1
  · rw [h1]; simp only [h2, if_true]
  · rw [h1]
  · rw [h1]

theorem whole_file_decoders_reject_trailing :
    (∀ (rd rd' : Rd) (s s' : Sink), xzDecompress rd s = (s', .ok rd') → rd'.rem = []) ∧
    (∀ (rd rd' : Rd) (opts : Options) (s s' : Sink), lzmaDecompress rd opts s = (s', .ok rd') →
      ((opts.unpackedSize = .readFromHeader ∧
          leVal ((rd.rem.drop 5).take 8) = 0xFFFFFFFFFFFFFFFF) ∨
        opts.unpackedSize = .readHeaderButUseProvided none ∨
        opts.unpackedSize = .useProvided none) → rd'.rem = []) :=
  ⟨fun _ _ _ _ h => xz_rejects_trailing h, fun _ _ _ _ _ h ho => lzma_no_size_rejects_trailing h ho⟩

/-- hence a file that decodes completely, followed by at least one more byte, is not accepted
with that byte left unread: any success on `x ++ t` has consumed `t` too -/
theorem xz_no_success_with_rest (x t : Bytes) (s s' : Sink) (rd' : Rd)
    (h : xzDecompress (Rd.ofBytes (x ++ t)) s = (s', .ok rd')) (ht : t ≠ []) :
    rd'.rem.length < t.length := by
  rw [xz_rejects_trailing h]
  cases t with
  | nil => exact absurd rfl ht
  | cons _ _ => simp

/-- the unread rest of a successful run -/
def okRem (r : Sink × Except Err Rd) : Option Bytes :=
  match r with
  | (_, .ok rd) => some rd.rem
  | _ => none

theorem okRem_some {r : Sink × Except Err Rd} {bs : Bytes} (h : okRem r = some bs) :
    ∃ s' rd', r = (s', .ok rd') ∧ rd'.rem = bs := by
  obtain ⟨s', r⟩ := r
  cases r with
  | error e => simp [okRem] at h
  | ok rd' => simp [okRem] at h; exact ⟨s', rd', rfl, h⟩

/-- non-vacuity: the empty `.xz` file (check none) produced by liblzma decodes (evaluated in the
kernel) -/
example : ∃ s' rd', xzDecompress (Rd.ofBytes [253, 55, 122, 88, 90, 0, 0, 0, 255, 18, 217, 65, 0,
    0, 0, 0, 28, 223, 68, 33, 6, 114, 158, 122, 1, 0, 0, 0, 0, 0, 89, 90]) {} = (s', .ok rd') ∧
    rd'.rem = [] :=
  okRem_some (by decide +kernel)

/-- non-vacuity: `"a"` as `.lzma` with an all-ones size field and an end marker decodes, and meets
the hypothesis of `lzma_no_size_rejects_trailing` -/
example : ∃ s' rd', lzmaDecompress (Rd.ofBytes [93, 0, 0, 128, 0, 255, 255, 255, 255, 255, 255,
    255, 255, 0, 48, 193, 251, 255, 255, 255, 224, 0, 0, 0]) {} {} = (s', .ok rd') ∧ rd'.rem = [] :=
  okRem_some (by decide +kernel)

example : ({} : Options).unpackedSize = .readFromHeader ∧
    leVal (((Rd.ofBytes [93, 0, 0, 128, 0, 255, 255, 255, 255, 255, 255, 255, 255, 0, 48, 193, 251,
      255, 255, 255, 224, 0, 0, 0]).rem.drop 5).take 8) = 0xFFFFFFFFFFFFFFFF := by
  decide

end Lzma.C11
