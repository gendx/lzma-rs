/-
  C17 — malformed LZMA2 framing is rejected.

  All theorems hold for every input, every decoder state, every accumulated window, every
  reader end kind (`bad`) and — unless stated otherwise — every (scripted) sink.
-/
import LzmaProofs.Lemmas.Lzma2
namespace Lzma.C17
open Lzma Lzma.L2 Lzma2Decoder

/-! ### control bytes 3 … 0x7F -/

/-- A control byte `3 ≤ c < 0x80` is rejected with an `LzmaError`, whatever follows, and the
sink is not touched. -/
theorem reject_bad_control (fuel : Nat) (d : Lzma2Decoder) (a : Accum) (rd : Rd) (s : Sink)
    (c : UInt8) (rest : Bytes) (hr : rd.rem = c :: rest) (h3 : 3 ≤ c.toNat) (h80 : c.toNat < 0x80) :
    chunkLoop (fuel + 1) d a rd s = (s, .error .lzma) := by
  apply chunkLoop_of_parseLzma_error hr h3
  have hand : c.toNat &&& 0x80 = 0 :=
    Decidable.byContradiction fun h => by have := (and80_iff c).1 h; omega
  rw [parseLzma_eq_M, parseLzmaM, if_pos hand]; rfl

/-- `reject_bad_control` for the whole-stream decoder, when it is the first control byte. -/
theorem reject_bad_control_stream (c : UInt8) (rest : Bytes) (bad : Bool) (s : Sink)
    (h3 : 3 ≤ c.toNat) (h80 : c.toNat < 0x80) :
    lzma2Decompress { rem := c :: rest, bad := bad } s = (s, .error .lzma) := by
  rw [lzma2Decompress_eq]
  exact bind_run_error (bind_run_error (reject_bad_control _ _ _ _ _ c rest rfl h3 h80))

example : lzma2Decompress (Rd.ofBytes [3]) {} = ({}, .error .lzma) :=
  reject_bad_control_stream 3 [] false {} (by decide) (by decide)

example : lzma2Decompress (Rd.ofBytes [0x7F, 1, 2, 3]) {} = ({}, .error .lzma) :=
  reject_bad_control_stream 0x7F _ false {} (by decide) (by decide)


/-! ### invalid property byte -/

/-- `parse_lzma` on a chunk that announces new properties (`control ≥ 0xC0`) whose property
byte is `≥ 225` or has `lc + lp > 4`: an error.  The class is `LzmaError`, unless the preceding
dictionary reset (`control ≥ 0xE0`) already failed on a faulty sink (`io`). -/
theorem parseLzma_bad_props (d : Lzma2Decoder) (a : Accum) (s : Sink) (bad : Bool)
    (c u1 u2 p1 p2 b : UInt8) (rest : Bytes) (hc : 0xC0 ≤ c.toNat)
    (hb : 225 ≤ b.toNat ∨ b.toNat % 9 + b.toNat / 9 % 5 > 4) :
    ∃ s' e, parseLzma d a { rem := u1 :: u2 :: p1 :: p2 :: b :: rest, bad := bad } c.toNat s
        = (s', .error e) ∧
      (e = .lzma ∨ (e = .io ∧ 0xE0 ≤ c.toNat ∧ s.script ≠ [])) := by
  have h80 : c.toNat &&& 0x80 ≠ 0 := (and80_iff c).2 (by omega)
  obtain ⟨k3, k1, k2⟩ := cls_cases c (by omega)
  rw [parseLzma_eq_M]
  simp only [parseLzmaM, if_neg h80, bind_run, readU16BE_cons2, liftE_ok]
  rcases optReset_result (c.toNat >>> 5 &&& 3 = 3) a s with ⟨s0, a0, h⟩ | ⟨h3, hs, s0, h⟩
  · refine ⟨s0, .lzma, ?_, Or.inl rfl⟩
    simp only [h]
    have hp : lzma2PropsStage d { rem := b :: rest, bad := bad } (c.toNat >>> 5 &&& 3) = .error .lzma := by
      have h1 : lzErr ({ rem := b :: rest, bad := bad } : Rd).readU8
          = .ok (b, { rem := rest, bad := bad }) := rfl
      simp only [lzma2PropsStage, k1.2 (by omega), k2.2 hc, if_true, h1, bind, Except.bind]
      rcases hb with hb | hb
      · rw [if_pos hb]; rfl
      · by_cases h225 : b.toNat ≥ 225
        · rw [if_pos h225]; rfl
        · rw [if_neg h225, if_pos hb]; rfl
    simp only [hp, liftE_error]
  · exact ⟨s0, .io, by simp only [h], Or.inr ⟨rfl, k3.1 h3, hs⟩⟩

/-- the same for the chunk loop (any fuel ≥ 1, any decoder state, any window, any continuation) -/
theorem reject_bad_props (fuel : Nat) (d : Lzma2Decoder) (a : Accum) (rd : Rd) (s : Sink)
    (c u1 u2 p1 p2 b : UInt8) (rest : Bytes)
    (hr : rd.rem = c :: u1 :: u2 :: p1 :: p2 :: b :: rest) (hc : 0xC0 ≤ c.toNat)
    (hb : 225 ≤ b.toNat ∨ b.toNat % 9 + b.toNat / 9 % 5 > 4) :
    ∃ s' e, chunkLoop (fuel + 1) d a rd s = (s', .error e) ∧
      (e = .lzma ∨ (e = .io ∧ 0xE0 ≤ c.toNat ∧ s.script ≠ [])) := by
  obtain ⟨s', e, h, he⟩ := parseLzma_bad_props d a s rd.bad c u1 u2 p1 p2 b rest hc hb
  exact ⟨s', e, chunkLoop_of_parseLzma_error hr (by omega) h, he⟩

/-- with a perfect sink (or without a dictionary reset) the class is `LzmaError` -/
theorem reject_bad_props_lzma (fuel : Nat) (d : Lzma2Decoder) (a : Accum) (rd : Rd) (s : Sink)
    (c u1 u2 p1 p2 b : UInt8) (rest : Bytes)
    (hr : rd.rem = c :: u1 :: u2 :: p1 :: p2 :: b :: rest) (hc : 0xC0 ≤ c.toNat)
    (hb : 225 ≤ b.toNat ∨ b.toNat % 9 + b.toNat / 9 % 5 > 4)
    (hs : s.script = [] ∨ c.toNat < 0xE0) :
    ∃ s', chunkLoop (fuel + 1) d a rd s = (s', .error .lzma) := by
  obtain ⟨s', e, h, he⟩ := reject_bad_props fuel d a rd s c u1 u2 p1 p2 b rest hr hc hb
  rcases he with rfl | ⟨-, h1, h2⟩
  · exact ⟨s', h⟩
  · rcases hs with hs | hs
    · exact absurd hs h2
    · omega

/-- non-vacuity: property byte 225, and property byte 44 (`lc = 8, lp = 4`) -/
example : ∃ s', lzma2Decompress (Rd.ofBytes [0xE0, 0, 0, 0, 9, 225, 0, 0, 0, 0, 0, 0]) {}
    = (s', .error .lzma) := by
  obtain ⟨s', h⟩ := reject_bad_props_lzma _ Lzma2Decoder.init (Accum.fromStream USIZE_MAX)
    (Rd.ofBytes [0xE0, 0, 0, 0, 9, 225, 0, 0, 0, 0, 0, 0]) {} 0xE0 0 0 0 9 225 _ rfl
    (by decide) (by decide) (Or.inl rfl)
  exact ⟨s', by rw [lzma2Decompress_eq]; exact bind_run_error (bind_run_error h)⟩

example : (225 : UInt8).toNat ≥ 225 ∧ (44 : UInt8).toNat % 9 + (44 : UInt8).toNat / 9 % 5 > 4 := by
  decide


/-! ### truncated input -/

/-- input ends before the control byte -/
theorem reject_truncated_control (fuel : Nat) (d : Lzma2Decoder) (a : Accum) (rd : Rd) (s : Sink)
    (hr : rd.rem = []) : chunkLoop (fuel + 1) d a rd s = (s, .error .lzma) := by
  rw [chunkLoop_nil _ _ _ hr]; rfl

/-- input ends inside the 2-byte size field of an uncompressed chunk -/
theorem reject_truncated_raw_size (fuel : Nat) (d : Lzma2Decoder) (a : Accum) (rd : Rd) (s : Sink)
    (c : UInt8) (rest : Bytes) (hr : rd.rem = c :: rest) (hc : c.toNat = 1 ∨ c.toNat = 2)
    (hl : rest.length < 2) : chunkLoop (fuel + 1) d a rd s = (s, .error .lzma) := by
  apply chunkLoop_of_parseUncompressed_error hr hc
  simp only [parseUncompressed]
  rw [bind_run_error (e := .lzma) (s' := s)]
  rw [readU16BE_short (by simpa using hl)]; rfl

/-- input ends inside the data of an uncompressed chunk (`read_exact` fails).  The class is
`LzmaError` unless the dictionary reset of a control-1 chunk failed on a faulty sink. -/
theorem reject_truncated_raw_data (fuel : Nat) (d : Lzma2Decoder) (a : Accum) (rd : Rd) (s : Sink)
    (c b1 b2 : UInt8) (rest : Bytes) (hr : rd.rem = c :: b1 :: b2 :: rest)
    (hc : c.toNat = 1 ∨ c.toNat = 2) (hl : rest.length < b1.toNat * 256 + b2.toNat + 1) :
    ∃ s' e, chunkLoop (fuel + 1) d a rd s = (s', .error e) ∧
      (e = .lzma ∨ (e = .io ∧ c.toNat = 1 ∧ s.script ≠ [])) := by
  obtain ⟨s', e, h, he⟩ := parseUncompressed_short a (rd := { rd with rem := b1 :: b2 :: rest })
    (decide (c.toNat = 1)) s rfl hl
  exact ⟨s', e, chunkLoop_of_parseUncompressed_error hr hc h, he.imp id fun ⟨h1, h2, h3⟩ =>
    ⟨h1, by simpa using h2, h3⟩⟩

/-- input ends inside the 4 bytes of size fields of a compressed chunk -/
theorem reject_truncated_lzma_sizes (fuel : Nat) (d : Lzma2Decoder) (a : Accum) (rd : Rd)
    (s : Sink) (c : UInt8) (rest : Bytes) (hr : rd.rem = c :: rest) (hc : 0x80 ≤ c.toNat)
    (hl : rest.length < 4) : chunkLoop (fuel + 1) d a rd s = (s, .error .lzma) := by
  apply chunkLoop_of_parseLzma_error hr (by omega)
  have h80 : c.toNat &&& 0x80 ≠ 0 := (and80_iff c).2 (by omega)
  rw [parseLzma_eq_M]
  simp only [parseLzmaM, if_neg h80, bind_run]
  match rest, hl with
  | [], _ => rw [readU16BE_short (by simp)]; rfl
  | [_], _ => rw [readU16BE_short (by simp)]; rfl
  | [u1, u2], _ => rw [readU16BE_cons2]; simp only [liftE_ok]; rw [readU16BE_short (by simp)]; rfl
  | [u1, u2, _], _ => rw [readU16BE_cons2]; simp only [liftE_ok]; rw [readU16BE_short (by simp)]; rfl


/-! ### a compressed chunk is consumed and produced exactly as declared -/

/-- header length of a compressed chunk after the control byte: two 16-bit sizes and, for
`control ≥ 0xC0`, the property byte -/
def hdrLen (c : UInt8) : Nat := if 0xC0 ≤ c.toNat then 5 else 4

/-- the declared unpacked size: 5 bits from the control byte, 16 from the first size field -/
def declUnpacked (c : UInt8) (body : Bytes) : Nat :=
  (((c.toNat &&& 0x1F) <<< 16) ||| beVal (body.take 2)) + 1

/-- the declared packed size -/
def declPacked (body : Bytes) : Nat := beVal ((body.drop 2).take 2) + 1

/-- Exactness of a compressed chunk.  If `parse_lzma` succeeds on control byte `c` then
(a) the window grew by exactly the declared unpacked size (after the dictionary reset, if any);
(b) the reader advanced by exactly header + declared packed size (`rd'.rem` is the rest), at
    least a 5-byte range-coder preamble was present, and if anything is left in the reader
    the chunk was present in full;
(c) the payload, decoded on its own as the `Take`n sub-reader, ended with the range decoder
    exhausted: `code = 0` and no byte of the declared packed size unread (the check added by the
    `fix:` commit that validates the end of a chunk in `parse_lzma`). -/
theorem chunk_size_exact {d d' : Lzma2Decoder} {a a' : Accum} {rd rd' : Rd} {c : UInt8}
    {s s' : Sink} (h : parseLzma d a rd c.toNat s = (s', .ok (d', a', rd'))) :
    0x80 ≤ c.toNat ∧
    a'.len = (if 0xE0 ≤ c.toNat then 0 else a.len) + declUnpacked c rd.rem ∧
    rd'.rem = rd.rem.drop (hdrLen c + declPacked rd.rem) ∧ rd'.bad = rd.bad ∧
    hdrLen c + 5 ≤ rd.rem.length ∧
    (rd'.rem ≠ [] → hdrLen c + declPacked rd.rem < rd.rem.length) ∧
    ∃ (s0 : Sink) (a0 : Accum) (st0 : DState) (rc : RC) (tk : Rd) (st1 : DState) (rc1 : RC)
        (tk1 : Rd),
      (if 0xE0 ≤ c.toNat then a.reset else pure a) s = (s0, .ok a0) ∧
      RC.new { rem := (rd.rem.drop (hdrLen c)).take (declPacked rd.rem),
               bad := rd.bad && decide ((rd.rem.drop (hdrLen c)).length < declPacked rd.rem) }
        = .ok (rc, tk) ∧
      (st0.setUnpackedSize (some (declUnpacked c rd.rem + a0.len))).processMode .finish a0 rc tk s0
        = (s', .ok (st1, a', rc1, tk1)) ∧
      rc1.code = 0 ∧ tk1.rem = [] ∧ d' = { lzmaState := st1 } := by
  rw [parseLzma_ok_iff] at h
  obtain ⟨h80, u1, u2, p1, p2, rest, s0, a0, st0, rd3, rc, tk, st1, rc1, tk1, hr, h3, h4, g1, g2,
    g3, g4, g5, rfl, rfl⟩ := h
  rw [and80_iff] at h80
  obtain ⟨p, hr3, hb3, hp, hst⟩ := (lzma2PropsStage_ok_iff_chunk h80).1 h4
  dsimp only at hr3 hb3
  simp only [(cls_cases c h80).1] at h3
  have hU : declUnpacked c rd.rem = lzUnpacked c.toNat (u1.toNat * 256 + u2.toNat) := by
    simp [declUnpacked, lzUnpacked, hr, beVal]
  have hP : declPacked rd.rem = p1.toNat * 256 + p2.toNat + 1 := by
    simp [declPacked, hr, beVal]
  have hH : rd.rem.drop (hdrLen c) = rd3.rem := by
    cases p with
    | none =>
      simp only at hp
      simp [hdrLen, show ¬ 0xC0 ≤ c.toNat by omega, hr, hr3]
    | some b =>
      simp only at hp
      simp [hdrLen, hp.1, hr, hr3]
  have hHl : rd.rem.length = hdrLen c + rd3.rem.length := by
    rw [← hH, List.length_drop]
    have : hdrLen c ≤ rd.rem.length := by
      rw [hr, hr3]; unfold hdrLen; cases p <;> simp at hp ⊢ <;> split <;> omega
    omega
  have hlen := DState.processMode_finish_size g2 rfl
  have ha0 := optReset_len h3
  have h5 := RC.new_ok_length g1
  simp [Rd.split] at h5
  refine ⟨h80, ?_, ?_, hb3, by omega, ?_, s0, a0, st0, rc, tk, st1, rc1, tk1, h3, ?_, ?_, g3, g4, rfl⟩
  · change a'.len = _ at hlen
    rw [hU, ← ha0]; omega
  · dsimp only
    rw [hP, ← hH, List.drop_drop]
  · dsimp only
    intro hne
    have : p1.toNat * 256 + p2.toNat + 1 < rd3.rem.length :=
      Nat.lt_of_not_le fun hcon => hne (List.drop_eq_nil_of_le hcon)
    omega
  · rw [← g1, hH, hP]; simp only [Rd.split, hb3]
  · rw [hU]; exact g2


/-- the unread rest of a successful `parse_lzma` -/
def okRest (r : Sink × Except Err (Lzma2Decoder × Accum × Rd)) : Option Bytes :=
  match r with
  | (_, .ok (_, _, rd)) => some rd.rem
  | _ => none

theorem okRest_some {r : Sink × Except Err (Lzma2Decoder × Accum × Rd)} {bs : Bytes}
    (h : okRest r = some bs) : ∃ s' d' a' rd', r = (s', .ok (d', a', rd')) ∧ rd'.rem = bs := by
  obtain ⟨s', r⟩ := r
  cases r with
  | error e => simp [okRest] at h
  | ok x => obtain ⟨d', a', rd'⟩ := x; simp [okRest] at h; exact ⟨s', d', a', rd', rfl, h⟩

/-- non-vacuity of `chunk_size_exact`: a 1-byte chunk (`control = 0xE0`, unpacked size 1, packed
size 6, properties 0, all-zero payload = one literal `0x00`) followed by one more byte -/
example : ∃ s' d' a' rd', parseLzma Lzma2Decoder.init (Accum.fromStream USIZE_MAX)
    (Rd.ofBytes [0, 0, 0, 5, 0, 0, 0, 0, 0, 0, 0, 0x77]) (0xE0 : UInt8).toNat {}
      = (s', .ok (d', a', rd')) ∧ rd'.rem = [0x77] :=
  okRest_some (by decide +kernel)

/-- **`chunk_size_exact` cannot be strengthened to "the declared packed size was available"**:
`parse_lzma` itself accepts a chunk whose declared packed size (here 100) exceeds the remaining
input (6 bytes) when the range decoder happens to be exhausted (`code = 0`) exactly at the end
of the input — `Take::fill_buf` reports EOF both at its limit and at the end of the data.  Such
a chunk is necessarily the last thing in the input, so the chunk loop then fails to read a
control byte (`reject_truncated_control`); for whole streams the bound holds
(`lzma2_ok_implies_framing`: every chunk lies in the input in full). -/
theorem chunk_packed_bound_partial :
    ∃ (d : Lzma2Decoder) (a : Accum) (rd : Rd) (c : UInt8) (s s' : Sink) (d' : Lzma2Decoder)
      (a' : Accum) (rd' : Rd),
      parseLzma d a rd c.toNat s = (s', .ok (d', a', rd')) ∧
        rd.rem.length < hdrLen c + declPacked rd.rem := by
  obtain ⟨s', d', a', rd', h, -⟩ := okRest_some (r := parseLzma Lzma2Decoder.init
    (Accum.fromStream USIZE_MAX) (Rd.ofBytes [0, 0, 0, 99, 0, 0, 0, 0, 0, 0, 0])
    (0xE0 : UInt8).toNat {}) (bs := []) (by decide +kernel)
  exact ⟨_, _, _, 0xE0, _, s', d', a', rd', h, by decide⟩

/-- `parse_lzma` needs its header and the 5-byte range-coder preamble: on a shorter reader it
fails -/
theorem parseLzma_short (d : Lzma2Decoder) (a : Accum) (s : Sink) {rd : Rd} {c : UInt8}
    (hl : rd.rem.length < hdrLen c + 5) :
    ∃ s' e, parseLzma d a rd c.toNat s = (s', .error e) := by
  rcases h : parseLzma d a rd c.toNat s with ⟨s', e | ⟨d', a', rd'⟩⟩
  · exact ⟨s', e, rfl⟩
  · have := (chunk_size_exact h).2.2.2.2.1
    omega

/-- a compressed chunk cut anywhere before the end of its 5-byte range-coder preamble (inside
the size fields, before the property byte, or with fewer than 5 payload bytes) is an error -/
theorem reject_truncated_lzma_chunk (fuel : Nat) (d : Lzma2Decoder) (a : Accum) (rd : Rd)
    (s : Sink) (c : UInt8) (rest : Bytes) (hr : rd.rem = c :: rest) (hc : 0x80 ≤ c.toNat)
    (hl : rest.length < hdrLen c + 5) :
    ∃ s' e, chunkLoop (fuel + 1) d a rd s = (s', .error e) := by
  obtain ⟨s', e, h⟩ := parseLzma_short d a s (rd := { rd with rem := rest }) (by simpa using hl)
  exact ⟨s', e, chunkLoop_of_parseLzma_error hr (by omega) h⟩


/-- the error class of `reject_truncated_lzma_chunk` -/
theorem parseLzma_truncated_class {d : Lzma2Decoder} {a : Accum} {rd : Rd} {c : UInt8}
    {s s' : Sink} {e : Err} (hc : 0x80 ≤ c.toNat) (hl : rd.rem.length < hdrLen c + 5)
    (h : parseLzma d a rd c.toNat s = (s', .error e)) :
    e = .lzma ∨ e = .io ∨ d.lzmaState.props.validate = .error e := by
  rw [parseLzma_eq_M, parseLzmaM] at h
  split at h
  · exact .inl (throwM_eq_error.1 h).1.symm
  -- the stages one after the other: each fails with one of the three classes or succeeds
  rcases mBind_eq_error.1 h with h | ⟨⟨u, rd1⟩, s1, h1, h⟩
  · exact .inl (lzErr_error_inv (liftE_eq_error.1 h).1)
  rcases mBind_eq_error.1 h with h | ⟨⟨p, rd2⟩, s2, h2, h⟩
  · exact .inl (lzErr_error_inv (liftE_eq_error.1 h).1)
  rcases mBind_eq_error.1 h with h | ⟨a0, s3, -, h⟩
  · exact .inr (.inl (optReset_error h))
  rcases mBind_eq_error.1 h with h | ⟨⟨st0, rd3⟩, s4, h4, h⟩
  · exact (lzma2PropsStage_error_class (liftE_eq_error.1 h).1).imp id .inr
  -- all stages before the payload succeeded: fewer than 5 bytes are left for it
  have hshort : rd3.rem.length < 5 := by
    obtain ⟨u1, u2, hr1, -, -⟩ := Rd.readU16BE_ok.1 (lzErr_ok_inv (liftE_eq_ok.1 h1).1)
    obtain ⟨p1, p2, hr2, -, -⟩ := Rd.readU16BE_ok.1 (lzErr_ok_inv (liftE_eq_ok.1 h2).1)
    obtain ⟨po, hr3, -, hp, -⟩ := (lzma2PropsStage_ok_iff_chunk hc).1 (liftE_eq_ok.1 h4).1
    dsimp only at hr2 hr3
    rw [hr1, hr2, hr3] at hl
    unfold hdrLen at hl
    cases po with
    | none => simp at hp hl; split at hl <;> omega
    | some b => simp at hp hl; rw [if_pos hp.1] at hl; omega
  rw [lzma2Payload_short hshort] at h
  cases h
  exact .inl rfl


/-- `reject_truncated_lzma_chunk` with its error class: `LzmaError`; or `io` when the dictionary
reset failed on a faulty sink; or — only for a decoder state whose properties are invalid, which
`Lzma2Decoder::new`/`parse_lzma` never produce — the `validate` panic of `reset_state` -/
theorem reject_truncated_lzma_chunk_class (fuel : Nat) (d : Lzma2Decoder) (a : Accum) (rd : Rd)
    (s : Sink) (c : UInt8) (rest : Bytes) (hr : rd.rem = c :: rest) (hc : 0x80 ≤ c.toNat)
    (hl : rest.length < hdrLen c + 5) :
    ∃ s' e, chunkLoop (fuel + 1) d a rd s = (s', .error e) ∧
      (e = .lzma ∨ e = .io ∨ d.lzmaState.props.validate = .error e) := by
  obtain ⟨s', e, h⟩ := parseLzma_short d a s (rd := { rd with rem := rest }) (by simpa using hl)
  exact ⟨s', e, chunkLoop_of_parseLzma_error hr (by omega) h,
    parseLzma_truncated_class hc (by simpa using hl) h⟩

/-- the empty input is rejected -/
example (s : Sink) : lzma2Decompress (Rd.ofBytes []) s = (s, .error .lzma) := by
  rw [lzma2Decompress_eq]
  exact bind_run_error (bind_run_error (reject_truncated_control _ _ _ _ _ rfl))

/-! ### the end byte, and the inversion: success implies well-formed framing -/

/-- `lzma2_decompress` succeeds **iff** the input is a sequence of well-formed chunks
(`Chunk.WF`: control byte 1, 2 or ≥ 0x80; sizes as encoded; 1 ≤ data ≤ 65536 bytes; valid
property byte exactly when `control ≥ 0xC0`; 5 ≤ payload ≤ 65536 bytes, present in full), each of
which executes (`Chunk.Exec`: dictionary / state resets as named by the control byte, payload
decodes to exactly the declared unpacked size with the range decoder exhausted), followed by a
`0` control byte; the reader is left right behind that byte. -/
theorem lzma2_framing_iff {rd rd' : Rd} {s s' : Sink} :
    lzma2Decompress rd s = (s', .ok rd') ↔
      ∃ (cs : List Chunk) (d' : Lzma2Decoder) (a' : Accum) (s1 : Sink), (∀ c ∈ cs, c.WF) ∧
        rd.rem = cs.flatMap Chunk.bytes ++ 0 :: rd'.rem ∧ rd'.bad = rd.bad ∧
        Run cs Lzma2Decoder.init (Accum.fromStream USIZE_MAX) s d' a' s1 ∧
        a'.finish s1 = (s', .ok ()) :=
  lzma2Decompress_ok_iff

theorem lzma2_ok_implies_framing {x : Bytes} {rd' : Rd} {s s' : Sink}
    (h : lzma2Decompress (Rd.ofBytes x) s = (s', .ok rd')) :
    ∃ (cs : List Chunk) (d' : Lzma2Decoder) (a' : Accum) (s1 : Sink), (∀ c ∈ cs, c.WF) ∧
      x = cs.flatMap Chunk.bytes ++ 0 :: rd'.rem ∧
      Run cs Lzma2Decoder.init (Accum.fromStream USIZE_MAX) s d' a' s1 ∧
      a'.finish s1 = (s', .ok ()) := by
  obtain ⟨cs, d', a', s1, h1, h2, -, h3, h4⟩ := lzma2Decompress_ok_iff.1 h
  exact ⟨cs, d', a', s1, h1, h2, h3, h4⟩

/-- what "executes" means for a compressed chunk, spelled out: exactly the declared number of
bytes is produced (on top of the window, emptied first iff `control ≥ 0xE0`) -/
theorem packed_chunk_exact {c : UInt8} {u : Nat} {p : Option UInt8} {payload : Bytes}
    {d d' : Lzma2Decoder} {a a' : Accum} {s s' : Sink}
    (h : (Chunk.packed c u p payload).Exec d a s d' a' s') :
    a'.len = (if 0xE0 ≤ c.toNat then 0 else a.len) + u :=
  h.packed_len

/-- success ⇒ the last byte consumed is the `0` control byte -/
theorem reject_missing_end {x : Bytes} {rd' : Rd} {s s' : Sink}
    (h : lzma2Decompress (Rd.ofBytes x) s = (s', .ok rd')) :
    ∃ pre, x = pre ++ 0 :: rd'.rem := by
  obtain ⟨pre, h1, -, -⟩ := lzma2Decompress_tail_irrelevant h
  exact ⟨pre, h1⟩

/-- Input that stops anywhere before the end byte of a valid stream — at a chunk
boundary or inside a chunk, including inside the payload of a compressed chunk — is an error -/
theorem reject_truncated_stream {x : Bytes} {rd' : Rd} {s s' : Sink}
    (h : lzma2Decompress (Rd.ofBytes x) s = (s', .ok rd')) (y z : Bytes)
    (hx : x = y ++ z ++ rd'.rem) (hz : z ≠ []) :
    ∃ s2 e, lzma2Decompress (Rd.ofBytes y) s = (s2, .error e) :=
  lzma2Decompress_strict_prefix_error h y z hx hz false

/-- non-vacuity: `"abc"` as one uncompressed chunk; the stream without its end byte is rejected -/
example : ∃ s2 e, lzma2Decompress (Rd.ofBytes [1, 0, 2, 0x61, 0x62, 0x63]) {} = (s2, .error e) := by
  obtain ⟨s', h⟩ := rawAbc_ok
  exact reject_truncated_stream h [1, 0, 2, 0x61, 0x62, 0x63] [0] rfl (by simp)

end Lzma.C17
