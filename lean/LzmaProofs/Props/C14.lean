/-
  C14 — "a reset raw decoder is indistinguishable from a new one"
  (`decode/lzma.rs`: `DecoderState::{new, reset_state}`, `LzmaDecoder::{new, reset, decompress}`;
   `decode/lzma2.rs`: `Lzma2Decoder::{new, reset, decompress}`).

  Definitions used in the statements (`DState.WF`, `Probs.Sized`, `LenProbs.Sized`,
  `LzmaDecoder.{Inv, forgetSize, forgetRes, thenDecompress}`,
  `Lzma2Decoder.{Inv, norm, forgetRes}`) are in `LzmaProofs/Lemmas/Reset.lean`.
-/
import LzmaProofs.Lemmas.Reset
namespace Lzma.C14

variable {ω : Type} [LzBuf ω]

/-- `DecoderState::new` establishes `WF`. -/
theorem new_establishes_WF (p : Props) (u : Option Nat) (s : DState)
    (h : DState.new p u = .ok s) : s.WF :=
  DState.new_WF h

/-- non-vacuity: the default properties give a well-formed state (8 rows of 0x300 literal
probabilities, …) -/
example : ∃ s, DState.new { lc := 3, lp := 0, pb := 2 } none = .ok s ∧ s.WF ∧
    s.probs.lit.size = 8 * 0x300 :=
  ⟨_, rfl, DState.new_WF (p := { lc := 3, lp := 0, pb := 2 }) (u := none) rfl,
    Array.size_replicate⟩

/-- Writing one probability (`Probs.set`, i.e. every `setIfInBounds`) preserves all table sizes. -/
theorem set_preserves_sizes (p : Probs) (i : PIdx) (v : Nat) (h : p.Sized) :
    (p.set i v).Sized ∧ (p.set i v).litRows = p.litRows :=
  ⟨h.set i v, Probs.set_litRows p i v⟩

theorem lenSet_preserves_sizes (l : LenProbs) (i : PIdx) (v : Nat) (h : l.Sized) :
    (l.set i v).Sized :=
  h.set i v

/-- Decoding any bit tree with `update = true` (or the dry run) preserves the table sizes. -/
theorem runDec_preserves_sizes {α : Type} (update : Bool) (c : Coder PIdx α) (p p' : Probs)
    (rc rc' : RC) (rd rd' : Rd) (a : α)
    (h : runDec update c p rc rd = .ok (a, p', rc', rd')) (hp : p.Sized) :
    p'.Sized ∧ p'.litRows = p.litRows :=
  hp.runDec h

/-- `applySym` (the `update = true` effects of a decoded symbol) touches neither the tables
nor `props`, `unpacked_size`, `partial_input_buf`. -/
theorem applySym_preserves (s s' : DState) (w w' : ω) (rc : RC) (rd : Rd) (sym : RawSym)
    (snk snk' : Sink) (st : DState.Status)
    (h : DState.applySym s w rc rd sym snk = (snk', .ok (st, s', w'))) :
    s'.probs = s.probs ∧ s'.props = s.props ∧ s'.unpackedSize = s.unpackedSize ∧
      s'.partialBuf = s.partialBuf :=
  (DState.applySym_ok h).1

/-- `process_next` preserves `WF` and never changes `props`, `unpacked_size`,
`partial_input_buf`. -/
theorem processNext_preserves (s s' : DState) (w w' : ω) (rc rc' : RC) (rd rd' : Rd)
    (snk snk' : Sink) (st : DState.Status)
    (h : DState.processNext s w rc rd snk = (snk', .ok (st, s', w', rc', rd'))) (hwf : s.WF) :
    s'.WF ∧ s'.props = s.props ∧ s'.unpackedSize = s.unpackedSize ∧
      s'.partialBuf = s.partialBuf :=
  let ⟨h1, h2, h3⟩ := DState.processNext_fields h
  ⟨.processNext h hwf, h2, h1, h3⟩

/-- The loop of `process_mode` (any mode, any fuel, any window type) preserves `WF` and never
changes `props`, `unpacked_size`. -/
theorem processLoop_preserves (mode : DState.Mode) (fuel : Nat) (s s' : DState) (w w' : ω)
    (rc rc' : RC) (rd rd' : Rd) (snk snk' : Sink)
    (h : DState.processLoop mode fuel s w rc rd snk = (snk', .ok (s', w', rc', rd')))
    (hwf : s.WF) :
    s'.WF ∧ s'.props = s.props ∧ s'.unpackedSize = s.unpackedSize :=
  let ⟨h1, h2⟩ := DState.processLoop_fields fuel h
  ⟨.processLoop h hwf, h2, h1⟩

/-- `process_mode` preserves `WF` and never changes `props`, `unpacked_size`. -/
theorem processMode_preserves (mode : DState.Mode) (s s' : DState) (w w' : ω)
    (rc rc' : RC) (rd rd' : Rd) (snk snk' : Sink)
    (h : DState.processMode mode s w rc rd snk = (snk', .ok (s', w', rc', rd')))
    (hwf : s.WF) :
    s'.WF ∧ s'.props = s.props ∧ s'.unpackedSize = s.unpackedSize :=
  let ⟨h1, h2⟩ := DState.processMode_fields h
  ⟨.processMode h hwf, h2, h1⟩

/-- `process_mode` in Finish mode started with an empty `partial_input_buf` ends (on `Ok`)
with an empty `partial_input_buf`. -/
theorem finish_mode_keeps_partialBuf_empty (s s' : DState) (w w' : ω)
    (rc rc' : RC) (rd rd' : Rd) (snk snk' : Sink)
    (h : DState.processMode .finish s w rc rd snk = (snk', .ok (s', w', rc', rd')))
    (hwf : s.WF) (hpb : s.partialBuf = []) : s'.partialBuf = [] :=
  DState.processMode_finish_partialBuf h hpb

/-- `reset_state(p)` on a well-formed state yields exactly `DecoderState::new(p, size)` —
every table and every register — except that `partial_input_buf` is kept; this covers both
branches (same `lc + lp`: refill in place; different: reallocate). -/
theorem reset_eq_new (s s' s'' : DState) (p : Props) (hwf : s.WF)
    (hr : s.resetState p = .ok s') (hn : DState.new p s.unpackedSize = .ok s'') :
    s' = { s'' with partialBuf := s.partialBuf } := by
  rw [DState.resetState_eq_new hwf, hn] at hr
  cases hr
  rfl

/-- `reset_state` and `new` also agree on failure (both panic in `validate`, or both succeed). -/
theorem reset_new_same_verdict (s : DState) (p : Props) (hwf : s.WF) :
    (s.resetState p).map (fun _ => ()) = (DState.new p s.unpackedSize).map (fun _ => ()) := by
  rw [DState.resetState_eq_new hwf]
  cases DState.new p s.unpackedSize <;> rfl

/-- non-vacuity: a state dirtied by nothing but with a staged byte, reset in the "same
`lc + lp`" branch and in the "different" branch, both succeed -/
example : ∃ s s1 s2, DState.new { lc := 3, lp := 0, pb := 2 } (some 5) = .ok s ∧
    s.WF ∧ s.resetState { lc := 2, lp := 1, pb := 0 } = .ok s1 ∧
    s.resetState { lc := 0, lp := 0, pb := 0 } = .ok s2 :=
  have hwf : (DState.mk [] { lc := 3, lp := 0, pb := 2 } (some 5) (Probs.init (1 <<< (3 + 0)))
      0 0 0 0 0).WF := DState.fresh_WF _ _ []
  ⟨_, _, _, rfl, hwf, DState.resetState_eq hwf rfl, DState.resetState_eq hwf rfl⟩

/-- The decoder objects that can arise: `new` succeeded, then any sequence of `reset`s and
`decompress` calls.  A failed `decompress` leaves the Rust object in an unspecified state;
it is modelled by an arbitrary object with the same configuration whose state is
well-formed, has an empty `partial_input_buf` (Finish mode never stages input) and keeps the
properties. -/
inductive LzmaReachable : LzmaDecoder → Prop where
  | new {params : LzmaParams} {ml : Option Nat} {d : LzmaDecoder} :
      LzmaDecoder.new params ml = .ok d → LzmaReachable d
  | reset {d d' : LzmaDecoder} {r : Option (Option Nat)} :
      LzmaReachable d → d.reset r = .ok d' → LzmaReachable d'
  | decompress {d d' : LzmaDecoder} {y y' : Rd} {snk snk' : Sink} :
      LzmaReachable d → d.decompress y snk = (snk', .ok (d', y')) → LzmaReachable d'
  | failed {d d' : LzmaDecoder} {y : Rd} {snk snk' : Sink} {e : Err} :
      LzmaReachable d → d.decompress y snk = (snk', .error e) →
      d'.params = d.params → d'.memlimit = d.memlimit →
      d'.state.WF → d'.state.partialBuf = [] → d'.state.props = d.state.props →
      LzmaReachable d'

/-- every reachable decoder object satisfies the invariant used below -/
theorem lzma_reachable_inv (d : LzmaDecoder) (h : LzmaReachable d) : d.Inv := by
  induction h with
  | new h => exact LzmaDecoder.new_inv h
  | reset _ h ih => exact LzmaDecoder.reset_inv ih h
  | decompress _ h ih => exact LzmaDecoder.decompress_inv ih h
  | failed _ _ hp _ hwf hpb hprops ih =>
    exact ⟨hwf, hpb, by rw [hprops, ih.props, hp], by rw [hp]; exact ih.dict⟩

/-- For every usable decoder object `d` (in particular every reachable one), every
`reset` argument `r`, every input and every sink (any script):
`d.reset(r)` followed by `decompress` behaves exactly like a decoder freshly made by
`LzmaDecoder::new` with the same properties, dictionary size and memory limit and with the
unpacked size that is in effect (`r`'s value if given, else the size currently stored in the
state) — same sink, same verdict, same reader position, and the same decoder object
afterwards (up to the `params.unpacked_size` field, which only `new` reads).
The equation also covers the failure of `reset`/`new` themselves (invalid properties). -/
theorem lzma_reset_then_decompress (d : LzmaDecoder) (hd : d.Inv) (r : Option (Option Nat))
    (y : Rd) (snk : Sink) :
    LzmaDecoder.thenDecompress (d.reset r) y snk =
      LzmaDecoder.thenDecompress
        (LzmaDecoder.new { d.params with unpackedSize := r.getD d.state.unpackedSize }
          (some d.memlimit)) y snk := by
  have h := LzmaDecoder.reset_vs_new d hd r
  revert h
  generalize d.reset r = x1
  generalize LzmaDecoder.new _ _ = x2
  intro h
  rcases x1 with e1 | d1 <;> rcases x2 with e2 | d2 <;>
    simp only [Except.map, Except.error.injEq, Except.ok.injEq, reduceCtorEq] at h
  · subst h; rfl
  · exact LzmaDecoder.decompress_forget h y snk

/-- When the properties are valid (as for every reachable decoder), both `reset` and `new`
succeed, so the theorem above really compares two `decompress` runs. -/
theorem lzma_reset_and_new_succeed (d : LzmaDecoder) (hd : d.Inv)
    (hv : d.params.props.validate = .ok ()) (r : Option (Option Nat)) :
    ∃ dr dn, d.reset r = .ok dr ∧
      LzmaDecoder.new { d.params with unpackedSize := r.getD d.state.unpackedSize }
        (some d.memlimit) = .ok dn ∧
      dr.forgetSize = dn.forgetSize ∧
      ∀ y snk, LzmaDecoder.forgetRes (dr.decompress y snk) =
        LzmaDecoder.forgetRes (dn.decompress y snk) := by
  have h1 := (LzmaDecoder.reset_ok_iff hd.wf (r := r)).2 ⟨hv, rfl⟩
  have h2 := (LzmaDecoder.new_ok_iff
    (params := { d.params with unpackedSize := r.getD d.state.unpackedSize })
    (ml := some d.memlimit)).2 ⟨hd.dict, hv, rfl⟩
  have h := LzmaDecoder.reset_vs_new d hd r
  rw [h1, h2] at h
  simp only [Except.map, Except.ok.injEq] at h
  exact ⟨_, _, h1, h2, h, fun y snk => LzmaDecoder.decompress_forget h y snk⟩

/-- non-vacuity: a freshly created decoder is reachable, hence satisfies the invariant -/
example : ∃ d, LzmaDecoder.new ⟨{ lc := 3, lp := 0, pb := 2 }, 4096, some 7⟩ none = .ok d ∧ LzmaReachable d ∧ d.Inv ∧
      d.params.props.validate = .ok () := by
  have h : LzmaDecoder.new ⟨{ lc := 3, lp := 0, pb := 2 }, 4096, some 7⟩ none = .ok _ :=
    LzmaDecoder.new_ok_iff.2 ⟨by decide, rfl, rfl⟩
  exact ⟨_, h, .new h, lzma_reachable_inv _ (.new h), rfl⟩

/-- two LZMA2 decoders that differ only in
`lzma_state.unpacked_size` behave identically under `decompress`: same sink, same verdict,
same reader, and the returned decoders again differ at most in that field.
(`parse_lzma` overwrites the size with `set_unpacked_size` before every `process`, and
`parse_uncompressed` never reads it.) -/
theorem lzma2_ignores_stale_size (d1 d2 : Lzma2Decoder)
    (h : d1.lzmaState.setUnpackedSize none = d2.lzmaState.setUnpackedSize none)
    (y : Rd) (snk : Sink) :
    Lzma2Decoder.forgetRes (d1.decompress y snk) = Lzma2Decoder.forgetRes (d2.decompress y snk) :=
  Lzma2Decoder.decompress_eqv (by simp only [Lzma2Decoder.norm, h]) y snk

/-- the same for a single LZMA chunk, as an equation between the `M` computations -/
theorem lzma2_parseLzma_ignores_stale_size (d : Lzma2Decoder) (u : Option Nat) (accum : Accum)
    (rd : Rd) (status : Nat) :
    d.parseLzma accum rd status =
      ({ lzmaState := d.lzmaState.setUnpackedSize u } : Lzma2Decoder).parseLzma accum rd status := by
  rw [Lzma2Decoder.parseLzma_norm d,
    Lzma2Decoder.parseLzma_norm { lzmaState := d.lzmaState.setUnpackedSize u }]
  rfl

/-- The LZMA2 decoder objects that can arise (a failed `decompress` again leaves an
arbitrary well-formed state with an empty `partial_input_buf`). -/
inductive Lzma2Reachable : Lzma2Decoder → Prop where
  | new {d : Lzma2Decoder} : Lzma2Decoder.new = .ok d → Lzma2Reachable d
  | reset {d d' : Lzma2Decoder} : Lzma2Reachable d → d.reset = .ok d' → Lzma2Reachable d'
  | decompress {d d' : Lzma2Decoder} {y y' : Rd} {snk snk' : Sink} :
      Lzma2Reachable d → d.decompress y snk = (snk', .ok (d', y')) → Lzma2Reachable d'
  | failed {d d' : Lzma2Decoder} {y : Rd} {snk snk' : Sink} {e : Err} :
      Lzma2Reachable d → d.decompress y snk = (snk', .error e) →
      d'.lzmaState.WF → d'.lzmaState.partialBuf = [] → Lzma2Reachable d'

theorem lzma2_reachable_inv (d : Lzma2Decoder) (h : Lzma2Reachable d) : d.Inv := by
  induction h with
  | new h =>
    rw [Lzma2Decoder.new_eq_fresh] at h; cases h
    exact ⟨DState.fresh_WF _ _ _, rfl⟩
  | reset _ h ih =>
    rw [Lzma2Decoder.reset_eq_fresh ih] at h; cases h
    exact ⟨DState.fresh_WF _ _ _, rfl⟩
  | decompress _ h ih => exact Lzma2Decoder.decompress_inv _ ih _ h
  | failed _ _ hwf hpb _ => exact ⟨hwf, hpb⟩

/-- For every usable LZMA2 decoder object (in particular every reachable one): `reset`
succeeds, `new` succeeds, the two decoders differ only in the stale
`lzma_state.unpacked_size` (`reset` keeps it, `new` has `None`), and that does not matter:
`decompress` gives the same sink, verdict, reader and (up to that field) decoder, for every
input and every sink. -/
theorem lzma2_reset_then_decompress (d : Lzma2Decoder) (hd : d.Inv) :
    ∃ dr dn, d.reset = .ok dr ∧ Lzma2Decoder.new = .ok dn ∧
      dr.lzmaState = dn.lzmaState.setUnpackedSize d.lzmaState.unpackedSize ∧
      ∀ (y : Rd) (snk : Sink),
        Lzma2Decoder.forgetRes (dr.decompress y snk) =
          Lzma2Decoder.forgetRes (dn.decompress y snk) := by
  refine ⟨_, _, Lzma2Decoder.reset_eq_fresh hd, Lzma2Decoder.new_eq_fresh, ?_, ?_⟩
  · simp only [DState.setUnpackedSize]
  · intro y snk
    refine Lzma2Decoder.decompress_eqv ?_ y snk
    simp only [Lzma2Decoder.norm, DState.setUnpackedSize]

/-- non-vacuity: the fresh LZMA2 decoder is reachable and satisfies the invariant -/
example : ∃ d, Lzma2Decoder.new = .ok d ∧ Lzma2Reachable d ∧ d.Inv := by
  refine ⟨_, Lzma2Decoder.new_eq_fresh, ?_⟩
  have h := Lzma2Reachable.new Lzma2Decoder.new_eq_fresh
  exact ⟨h, lzma2_reachable_inv _ h⟩

end Lzma.C14
