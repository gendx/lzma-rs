/-
  C01 — the symbol layer of the LZMA decoder/encoder round trip.

  `symTree` (the bit-level decision tree of `process_next_inner`) followed along
  the events a conforming encoder emits for a raw symbol (`rawSymEvents`)
  returns exactly that symbol and consumes exactly those events; no probability
  index is used twice for one symbol, hence the dry run of `try_process_next`
  (`update = false`) reads the same bits as the real run.
-/
import LzmaProofs.Lemmas.SymLayerDist
import LzmaProofs.Lemmas.SymLayerNoDup
namespace Lzma.C01
open Lzma

/-- Symbol round trip.  `RawSym.WF`: `.lit b` with `b < 256`; `.shortRep`;
`.rep idx l` with `idx ≤ 3 ∧ l < 272`; `.mtch l d` with `l < 272 ∧ d < 2^32`
(`d` = distance − 1, so the end marker `0xFFFFFFFF` is included).  The literal
row and the match byte are only demanded where the decoder demands them; no
bound on the match byte is needed. -/
theorem sym_roundtrip (c : Ctx) (e : ECtx) (s : RawSym)
    (hstate : c.state = e.state) (hpos : c.posState = e.posState)
    (hrow : (∃ b, s = .lit b) → c.litRow = .ok e.litRow)
    (hmb : (∃ b, s = .lit b) → e.state ≥ 7 → c.matchByte = .ok e.matchByte)
    (hs : s.WF) (rest : List Ev) :
    runEv (symTree c) (rawSymEvents e s ++ rest) = some (s, rest) :=
  sym_roundtrip_lemma c e s ⟨hstate, hpos, hrow, hmb⟩ hs rest

/-- the same with the unconditional context hypotheses -/
theorem sym_roundtrip' (c : Ctx) (e : ECtx) (s : RawSym)
    (hstate : c.state = e.state) (hpos : c.posState = e.posState)
    (hrow : c.litRow = .ok e.litRow) (hmb : c.matchByte = .ok e.matchByte)
    (hs : s.WF) (rest : List Ev) :
    runEv (symTree c) (rawSymEvents e s ++ rest) = some (s, rest) :=
  sym_roundtrip c e s hstate hpos (fun _ => hrow) (fun _ _ => hmb) hs rest

/-- non-vacuity: a concrete context (state 8, so literals use the matched loop)
meets the hypotheses for the end marker with maximal length, an ordinary match
and a literal -/
example : ∀ s ∈ [RawSym.mtch 271 0xFFFFFFFF, .mtch 5 1234567, .lit 0xA5, .rep 3 271, .shortRep],
    runEv (symTree { state := 8, posState := 3, litRow := .ok 5, matchByte := .ok 0x5A })
      (rawSymEvents { state := 8, posState := 3, litRow := 5, matchByte := 0x5A } s ++ [.dbit true])
      = some (s, [.dbit true]) := by
  intro s hs
  refine sym_roundtrip' _ _ s rfl rfl rfl rfl ?_ _
  simp only [List.mem_cons, List.not_mem_nil, or_false] at hs
  rcases hs with rfl | rfl | rfl | rfl | rfl <;> decide

/-- the statement evaluated on a concrete match (slot 40, 15 direct bits, 4 align bits) -/
example :
    runEv (symTree { state := 0, posState := 1, litRow := .ok 0, matchByte := .ok 0 })
      (rawSymEvents { state := 0, posState := 1, litRow := 0, matchByte := 0 } (.mtch 5 1234567))
      = some (.mtch 5 1234567, []) := by
  decide +kernel

/-- No probability is used twice for one symbol: on every root-to-leaf path
of `symTree c` no probability index occurs twice. -/
theorem symTree_nodup (c : Ctx) : (symTree c).NoDup := symTree_nodup_lemma c

/-- the same in terms of paths: the `pbit` indices of the events consumed by
`symTree c` are pairwise distinct -/
theorem symTree_paths_nodup (c : Ctx) (evs rest : List Ev) (s : RawSym)
    (h : runEv (symTree c) evs = some (s, rest)) :
    ∃ used, evs = used ++ rest ∧ (used.filterMap Ev.idx?).Nodup := by
  obtain ⟨u, hu, hnd, _⟩ := Coder.NoDupAux.path (symTree_nodup c) h
  exact ⟨u, hu, hnd⟩

/-- The dry run reads the same bits.  For a tree without duplicate index on
any path, over a lawful store all of whose readable probabilities are `≤ 0x800`,
`runDec false` and `runDec true` return the same value, coder state and reader,
and fail in exactly the same cases with the same error; only the store differs.

The hypothesis `hb` cannot be dropped (hence `_partial` in the name) — see
`runDec_update_relevant_of_bad_prob`: with a probability `> 0x800` the real run
panics on `0x800 - prob` while the dry run does not look at it. -/
theorem runDec_update_irrelevant_partial {σ ι α : Type} [ProbStore σ ι] [LawfulProbStore σ ι]
    (t : Coder ι α) (ht : t.NoDup) (s : σ)
    (hb : ∀ i v, ProbStore.get s i = .ok v → v ≤ 0x800) (rc : RC) (rd : Rd) :
    (runDec false t s rc rd).map (fun r => (r.1, r.2.2.1, r.2.2.2)) =
    (runDec true t s rc rd).map (fun r => (r.1, r.2.2.1, r.2.2.2)) :=
  runDec_update_irrelevant_aux t _ ht s s hb (fun _ _ => rfl) rc rd

/-- `Probs` is such a store -/
example : LawfulProbStore Probs PIdx := inferInstance

/-- the instance for one LZMA symbol: `try_process_next` succeeds iff
`process_next_inner` gets through its bit decoding -/
theorem symTree_update_irrelevant (c : Ctx) (p : Probs)
    (hb : ∀ i v, p.get i = .ok v → v ≤ 0x800) (rc : RC) (rd : Rd) :
    (runDec false (symTree c) p rc rd).map (fun r => (r.1, r.2.2.1, r.2.2.2)) =
    (runDec true (symTree c) p rc rd).map (fun r => (r.1, r.2.2.1, r.2.2.2)) :=
  runDec_update_irrelevant_partial (symTree c) (symTree_nodup c) p hb rc rd

/-- non-vacuity: freshly initialised tables meet `hb` -/
example (k : Nat) : ∀ i v, (Probs.init k).get i = .ok v → v ≤ 0x800 := by
  intro i v h; rw [Probs.init_get k i v h]; decide

/-- a store whose every cell reads `0x801` -/
structure BadStore where
instance : ProbStore BadStore Unit := ⟨fun _ _ => .ok 0x801, fun s _ _ => s⟩
instance : LawfulProbStore BadStore Unit := ⟨fun _ _ _ _ _ _ _ => rfl⟩

/-- why `hb` is needed: one probability bit on a store cell holding `0x801`;
the dry run decodes it, the real run panics in `0x800 - prob` -/
theorem runDec_update_relevant_of_bad_prob :
    ∃ (t : Coder Unit Bool) (rc : RC) (rd : Rd), t.NoDup ∧
      (runDec false t BadStore.mk rc rd).map (fun r => (r.1, r.2.2.1, r.2.2.2))
        = .ok (false, ⟨0x801 * 0x100000, 0⟩, Rd.ofBytes []) ∧
      (runDec true t BadStore.mk rc rd).map (fun r => (r.1, r.2.2.1, r.2.2.2))
        = .error (.panic "decode_bit: 0x800 - prob") :=
  ⟨.bit () fun b => .ret b, ⟨0x80000000, 0⟩, Rd.ofBytes [],
    ⟨fun h => h, fun _ => trivial⟩, by rfl, by rfl⟩

/-- the direction that needs no bound on the probabilities: whenever the real
run succeeds, the dry run succeeds with the same value, coder state and reader
(and leaves the store alone) -/
theorem runDec_true_ok_imp_dry_ok {σ ι α : Type} [ProbStore σ ι] [LawfulProbStore σ ι]
    (t : Coder ι α) (ht : t.NoDup) (s : σ) (rc : RC) (rd : Rd) (r : α × σ × RC × Rd)
    (h : runDec true t s rc rd = .ok r) :
    runDec false t s rc rd = .ok (r.1, s, r.2.2.1, r.2.2.2) :=
  runDec_true_ok_aux t _ ht s s (fun _ _ => rfl) rc rd h

end Lzma.C01
