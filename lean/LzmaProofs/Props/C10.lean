/-
  C10 — the memory limit is honoured exactly.

  Subject: `Circ` (= Rust `LzCircularBuffer`) of `LzmaModel/Window.lean`.
  * never more: `buf.len() ≤ memlimit` after every op of every sequence — for every sink
    behaviour and every distance (even the `dist = 0` the decoder never issues);
  * never less: the allocation is exactly `min produced dictSize`, a run fails with `lzma` iff
    `min dictSize produced` would exceed the limit, at the first op that would do so and before
    anything reaches the sink; with enough memory the limit is invisible.
  "produced" = length of the ideal history `idealPrefix d ops []` (up to the end or to the first
  op the ideal semantics rejects).
-/
import LzmaProofs.Lemmas.Window
namespace Lzma.C10

/-- `buf.len() ≤ memlimit` is part of the invariant -/
theorem inv_buf_le_memlimit {w : Circ} {H : Bytes} (h : CircInv w H) :
    w.buf.size ≤ w.memlimit ∧ w.buf.size = min H.length w.dictSize :=
  ⟨h.size_le, h.size_eq⟩

/-- After every op of every sequence (apply it to each prefix), for EVERY sink script and every
distance, the allocation respects the limit; `memlimit` and `dictSize` never change. -/
theorem buf_le_memlimit {ops : List WinOp} {w w' : Circ} {s s' : Sink}
    (hb : w.buf.size ≤ w.memlimit) (h : Circ.runOps ops w s = (s', .ok w')) :
    w'.buf.size ≤ w'.memlimit ∧ w'.memlimit = w.memlimit ∧ w'.dictSize = w.dictSize :=
  Circ.runOps_size_le h hb

/-- the same for the single operations (any sink, any arguments) -/
theorem buf_le_memlimit_step {w w' : Circ} {s s' : Sink} (hb : w.buf.size ≤ w.memlimit) :
    (∀ b, w.appendLiteral b s = (s', .ok w') → w'.buf.size ≤ w'.memlimit) ∧
    (∀ len dist, w.appendLz len dist s = (s', .ok w') → w'.buf.size ≤ w'.memlimit) :=
  ⟨fun _ h => (Circ.appendLiteral_size_le h hb).1, fun _ _ h => (Circ.appendLz_size_le h hb).1⟩

theorem buf_le_memlimit_fresh {ops : List WinOp} {d m : Nat} {w' : Circ} {s s' : Sink}
    (h : Circ.runOps ops (Circ.fromStream d m) s = (s', .ok w')) :
    w'.buf.size ≤ m := by
  have := Circ.runOps_size_le h (by simp [Circ.fromStream])
  have e : (Circ.fromStream d m).memlimit = m := rfl
  omega

/-- non-vacuity: a run with a misbehaving sink (a short write) and a `dist = 0` op -/
example :
    Circ.runOps [.lit 1, .lit 2, .lz 3 0] (Circ.fromStream 2 2) { script := [.upto 1, .all] } =
      ({ out := #[1, 2, 1, 2], writes := 3 },
       .ok { buf := #[1, 2], dictSize := 2, memlimit := 2, cursor := 1, len := 5 }) := by
  decide +kernel

/-- Enough memory: the limit is invisible.  For any two limits that both accommodate
`min d produced`, the runs give the same result for the op list, the same sink and the same
window up to the `memlimit` field.  (Take `m' = d`, or anything larger, as "unlimited".) -/
theorem memlimit_exact {ops : List WinOp} {d m m' : Nat} {s0 : Sink} (hd : 0 < d)
    (hs : s0.Perfect) (hv : ∀ op ∈ ops, op.Valid)
    (hm : min (idealPrefix d ops []).length d ≤ m)
    (hm' : min (idealPrefix d ops []).length d ≤ m') :
    Circ.runOps ops (Circ.fromStream d m) s0 =
      ((Circ.runOps ops (Circ.fromStream d m') s0).1,
       (Circ.runOps ops (Circ.fromStream d m') s0).2.map fun w => { w with memlimit := m }) := by
  cases hok : (idealOps d ops []).isSome
  · rw [Circ.runOps_fromStream_err hd hs hv (hok ▸ idealRunM_of_le hm),
      Circ.runOps_fromStream_err hd hs hv (hok ▸ idealRunM_of_le hm')]
    rfl
  · obtain ⟨w1, e1, i1, d1, m1⟩ :=
      Circ.runOps_fromStream_ok (s := s0) hd hs hv (hok ▸ idealRunM_of_le hm)
    obtain ⟨w2, e2, i2, d2, m2⟩ :=
      Circ.runOps_fromStream_ok (s := s0) hd hs hv (hok ▸ idealRunM_of_le hm')
    rw [e1, e2]
    simp only [Except.map, Prod.mk.injEq, Except.ok.injEq, true_and]
    apply CircInv.ext i1 (i2.withLimit (by rw [d2]; exact hm))
    · simp only [d1, d2, Circ.withLimit_dictSize]
    · simp only [m1, Circ.withLimit_memlimit]

/-- `m' = d` always qualifies as "unlimited" -/
theorem memlimit_exact_unlimited {ops : List WinOp} {d m : Nat} {s0 : Sink} (hd : 0 < d)
    (hs : s0.Perfect) (hv : ∀ op ∈ ops, op.Valid)
    (hm : min (idealPrefix d ops []).length d ≤ m) :
    Circ.runOps ops (Circ.fromStream d m) s0 =
      ((Circ.runOps ops (Circ.fromStream d d) s0).1,
       (Circ.runOps ops (Circ.fromStream d d) s0).2.map fun w => { w with memlimit := m }) :=
  memlimit_exact hd hs hv hm (Nat.min_le_right _ _)

/-- Not enough memory: `lzma` error, and nothing at all has reached the sink. -/
theorem memlimit_exceeded {ops : List WinOp} {d m : Nat} {s0 : Sink} (hd : 0 < d)
    (hs : s0.Perfect) (hv : ∀ op ∈ ops, op.Valid)
    (hm : ¬ min (idealPrefix d ops []).length d ≤ m) :
    Circ.runOps ops (Circ.fromStream d m) s0 = (s0, .error .lzma) := by
  obtain ⟨f1, f2, _⟩ := idealRunM_of_not_le (H := []) (by simp) hm
  have h1 := Circ.runOps_fromStream_err (s := s0) hd hs hv
    (Hp := (idealRunM d m ops []).1) (by rw [← f1])
  rw [Sink.after_of_lt s0 (by simp) f2] at h1
  exact h1

/-- The failing op is exactly the first one that would make `min d produced` exceed the limit:
if the ops before it are ideal-accepted producing `Hp` with `min Hp.length d ≤ m`, they run fine
(window represents `Hp`, sink untouched), and `op` — a literal or a match inside the window —
with `min (Hp.length + op.outLen) d > m` fails.  (`hop` only delimits the case meant; a match outside
the window fails with the same error, so the proof does not use it.) -/
theorem memlimit_fails_at {pre post : List WinOp} {op : WinOp} {d m : Nat} {s0 : Sink}
    {Hp : Bytes} (hd : 0 < d) (hs : s0.Perfect) (hv : ∀ o ∈ pre ++ op :: post, o.Valid)
    (hpre : idealOps d pre [] = some Hp) (hfit : min Hp.length d ≤ m)
    (hop : ∀ len dist, op = .lz len dist → dist ≤ min Hp.length d)
    (hover : ¬ min (Hp.length + op.outLen) d ≤ m) :
    (∃ w, Circ.runOps pre (Circ.fromStream d m) s0 = (s0, .ok w) ∧ CircInv w Hp) ∧
      Circ.runOps (pre ++ op :: post) (Circ.fromStream d m) s0 = (s0, .error .lzma) :=
  Circ.memlimit_fails_at hd hs hv hpre hfit hop hover

/-- single-step form: exact accept/reject condition of each operation w.r.t. the limit -/
theorem memlimit_step {w : Circ} {H : Bytes} {s : Sink} (h : CircInv w H) (hs : s.Perfect) :
    (∀ b, (∃ s' w', w.appendLiteral b s = (s', .ok w')) ↔
      min (H.length + 1) w.dictSize ≤ w.memlimit) ∧
    (∀ len dist, 1 ≤ dist → dist ≤ w.dictSize → dist ≤ H.length →
      ((∃ s' w', w.appendLz len dist s = (s', .ok w')) ↔
        (len = 0 ∨ min (H.length + len) w.dictSize ≤ w.memlimit))) := by
  refine ⟨fun b => ?_, fun len dist h1 h2 h3 => ?_⟩
  · have hsp : if min (H.length + 1) w.dictSize ≤ w.memlimit then
        ∃ w', w.appendLiteral b s = (s.after w.dictSize H (H ++ [b]), .ok w') ∧ CircInv w' (H ++ [b])
        else w.appendLiteral b s = (s, .error .lzma) := by
      split
      · next hm => exact let ⟨w', e, i, _⟩ := Circ.appendLiteral_ok b h hs hm; ⟨w', e, i⟩
      · next hm => exact Circ.appendLiteral_fail s b h hm
    exact ok_iff_of_spec hsp
  · exact (ok_iff_of_spec (Circ.appendLz_spec (s := s) len h hs h1)).trans
      ⟨fun hh => hh.2.2, fun hh => ⟨h2, h3, hh⟩⟩

/-- `d = 4`, ops produce 6 bytes: `min 4 6 = 4`.  Limit 4 behaves like limit 1000 (up to the
field); limit 3 fails — at the copy, the first op that needs the 4th cell — with an untouched
sink, while limit 3 is fine for the first two ops. -/
example :
    (∀ op ∈ [WinOp.lit 1, .lit 2, .lz 4 2], op.Valid) ∧
    idealPrefix 4 [.lit 1, .lit 2, .lz 4 2] [] = [1, 2, 1, 2, 1, 2] ∧
    Circ.runOps [.lit 1, .lit 2, .lz 4 2] (Circ.fromStream 4 4) {} =
      ({ out := #[1, 2, 1, 2], writes := 1 },
       .ok { buf := #[1, 2, 1, 2], dictSize := 4, memlimit := 4, cursor := 2, len := 6 }) ∧
    Circ.runOps [.lit 1, .lit 2, .lz 4 2] (Circ.fromStream 4 1000) {} =
      ({ out := #[1, 2, 1, 2], writes := 1 },
       .ok { buf := #[1, 2, 1, 2], dictSize := 4, memlimit := 1000, cursor := 2, len := 6 }) ∧
    Circ.runOps [.lit 1, .lit 2, .lz 4 2] (Circ.fromStream 4 3) {} = ({}, .error .lzma) ∧
    Circ.runOps [.lit 1, .lit 2] (Circ.fromStream 4 3) {} =
      ({}, .ok { buf := #[1, 2], dictSize := 4, memlimit := 3, cursor := 2, len := 2 }) := by
  decide +kernel

end Lzma.C10
