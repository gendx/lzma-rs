/-
  C01 — the arithmetic-coding layer of "LZMA decoding is exact".

  For every event sequence (probability-coded and direct bits, any length, any
  adaptive-probability history that starts from values in [31, 2017] — in
  particular from the initial 0x400), what the modelled range encoder emits
  (carry propagation through arbitrarily long 0xFF runs included) followed by
  its 5-byte flush is decoded by the modelled range decoder into exactly the
  same decisions, with the same probability updates, consuming exactly the
  encoder's bytes and ending with `code = 0` — whatever bytes follow.

  Together with `Lzma.C01.sym_roundtrip` (Props/C01Sym.lean: the decision tree
  of one LZMA symbol follows the events a conforming encoder emits for it) this
  gives: the bit-level decoder returns every symbol of a reference-encoded
  program.  The composition with the window theorems (C09) into the end-to-end
  statements is `Props/C01Exact.lean`.
-/
import LzmaProofs.Lemmas.RangeCoder
namespace Lzma.C01
open Lzma

/-- Range-coder round trip for one decision tree `t` whose path is `evs`. -/
theorem rc_roundtrip {α : Type} {evs : List Ev} {probs probsF : Probs} {snk0 snkF snkB : Sink}
    {eF e2 : REnc} (t : Coder PIdx α) (a : α)
    (hs : snk0.script = []) (hp : ProbsOk probs)
    (henc : encodeEvents evs probs {} snk0 = (snkF, .ok (probsF, eF)))
    (hfin : eF.finish snkF = (snkB, .ok e2))
    (hrun : runEv t evs = some (a, [])) :
    ∃ P, snkB.out.toList = snk0.out.toList ++ P ∧ ∀ (T : Bytes) (bad : Bool),
      ∃ rc rd rc', RC.new { rem := P ++ T, bad := bad } = .ok (rc, rd) ∧
        runDec true t probs rc rd = .ok (a, probsF, rc', { rem := T, bad := bad }) ∧
        rc'.code = 0 :=
  Lzma.rc_roundtrip t a hs hp henc hfin hrun

/-- the encoder side never fails: for admissible probabilities and in-bounds
indices, encoding any event list and flushing succeeds (no panic, no error) -/
theorem encoder_total (evs : List Ev) (probs : Probs) (snk : Sink)
    (hs : snk.script = []) (hp : ProbsOk probs)
    (hidx : ∀ i b, Ev.pbit i b ∈ evs → ∃ v, probs.get i = .ok v) :
    ∃ snkF probsF eF snkB e2, encodeEvents evs probs {} snk = (snkF, .ok (probsF, eF)) ∧
      eF.finish snkF = (snkB, .ok e2) :=
  Lzma.encodeEvents_total evs probs {} snk hs REnc.eok_fresh hp hidx

/-- the payload is exactly `5 + (number of normalisation shifts)` bytes long -/
theorem encoder_byte_count {evs : List Ev} {probs probsF : Probs} {snk0 snkF snkB : Sink}
    {eF e2 : REnc} (hs : snk0.script = []) (hp : ProbsOk probs)
    (henc : encodeEvents evs probs {} snk0 = (snkF, .ok (probsF, eF)))
    (hfin : eF.finish snkF = (snkB, .ok e2)) :
    snkB.out.toList.length = snk0.out.toList.length + 5 + normCount evs probs {} :=
  Lzma.encoder_byte_count hs hp henc hfin

/-- the probability range is necessary: with a stored probability outside
[31, 2017] (unreachable from 0x400 by the update rule) the round trip fails -/
theorem rc_roundtrip_needs_probOk :
    (∀ i v, cxProbs.get i = .ok v → 0 < v ∧ v < 0x800) ∧ rcRoundTrips cxEvs cxProbs = false :=
  Lzma.rc_roundtrip_needs_probOk

/-- non-vacuity: the initial tables satisfy the hypothesis -/
example : ProbsOk (Probs.init 8) := probsOk_init 8

end Lzma.C01
