/-
  C10 (decoder level) — the memory limit is honoured exactly by the WHOLE decoders.

  `Props/C10.lean` proves the property for the circular window; here it is lifted to
  `lzmaDecompress` (= `lzma_decompress_with_options`), to the raw `LzmaDecoder.decompress`
  and to the streaming decoder `Stream`.

  With a memory limit `m` decoding behaves exactly as without a limit whenever the window
  actually needed — `min (dictionary size) (bytes produced)` — does not exceed `m`; otherwise it
  fails with `Err lzma`, having delivered a prefix of the unlimited output; errors of the
  unlimited run are reproduced (or pre-empted by the limit); and no decoder ever holds more
  than `m` bytes of history.

  Conventions: `snk.Perfect` = the sink accepts every write (`script = []`; `{}` is perfect);
  `APre a b` = `a` is a prefix of `b`; `headerDict rd` = the dictionary size in effect for the
  `.lzma` header at the front of `rd` (`max field 4096`); bytes produced = growth of `out`.
  The proofs (`Lemmas/MemLimit.lean`) run the limited decoder in lock step with a reference
  decoder whose window can never hit its limit; the symbol decoder cannot observe the
  `memlimit` field except through a failing append.
-/
import LzmaProofs.Lemmas.MemLimit
namespace Lzma.C10
open Lzma DState

/-- the options with `memlimit = Some(m)` -/
def optsM (opts : Options) (m : Nat) : Options := { opts with memlimit := some m }
/-- the options with `memlimit = None` -/
def optsU (opts : Options) : Options := { opts with memlimit := none }

/-! ### one-shot `.lzma` decoder -/

/-- the bytes a run delivered are some list `H1`; `|H1|` is the growth of `out` -/
private theorem len_of_out {snk snk' : Sink} {H1 : Bytes} (h : snk'.out = snk.out ++ H1.toArray) :
    H1.length = snk'.out.size - snk.out.size := by
  rw [h]; simp

/-- Enough memory ⇒ the limit is invisible.  If the unlimited run succeeds and
`min dict produced ≤ m`, the run with limit `m` returns the identical result: same sink (bytes,
number of raw writes and flushes), same reader position. -/
theorem lzma_memlimit_exact_ok (rd : Rd) (opts : Options) (m : Nat) {snk snkU : Sink} {rdU : Rd}
    (hs : snk.Perfect) (hU : lzmaDecompress rd (optsU opts) snk = (snkU, .ok rdU))
    (hm : min (headerDict rd) (snkU.out.size - snk.out.size) ≤ m) :
    lzmaDecompress rd (optsM opts m) snk = (snkU, .ok rdU) := by
  obtain ⟨H1, -, ho, -, hsame, -⟩ := (lzmaDecompress_lim rd opts m hs).ok _ _ hU
  exact hsame (by rw [len_of_out ho]; omega)

/-- Not enough memory ⇒ `Err lzma`.  If the unlimited run succeeds but
`min dict produced > m`, the limited run fails with `LzmaError`, and what it delivered is a
prefix of the unlimited output. -/
theorem lzma_memlimit_exact_err (rd : Rd) (opts : Options) (m : Nat) {snk snkU : Sink} {rdU : Rd}
    (hs : snk.Perfect) (hU : lzmaDecompress rd (optsU opts) snk = (snkU, .ok rdU))
    (hm : m < min (headerDict rd) (snkU.out.size - snk.out.size)) :
    (lzmaDecompress rd (optsM opts m) snk).2 = .error .lzma ∧
      APre (lzmaDecompress rd (optsM opts m) snk).1.out snkU.out := by
  obtain ⟨H1, -, ho, -, -, hhit⟩ := (lzmaDecompress_lim rd opts m hs).ok _ _ hU
  exact (hhit (by rw [len_of_out ho]; omega)).2

/-- the two together: given that the unlimited run succeeds, the limited run succeeds (and is
then identical) IFF the needed window fits -/
theorem lzma_memlimit_iff (rd : Rd) (opts : Options) (m : Nat) {snk snkU : Sink} {rdU : Rd}
    (hs : snk.Perfect) (hU : lzmaDecompress rd (optsU opts) snk = (snkU, .ok rdU)) :
    (lzmaDecompress rd (optsM opts m) snk = (snkU, .ok rdU) ↔
      min (headerDict rd) (snkU.out.size - snk.out.size) ≤ m) ∧
    ((∃ s r, lzmaDecompress rd (optsM opts m) snk = (s, .ok r)) ↔
      min (headerDict rd) (snkU.out.size - snk.out.size) ≤ m) := by
  have hno : ¬ min (headerDict rd) (snkU.out.size - snk.out.size) ≤ m →
      ∀ s r, lzmaDecompress rd (optsM opts m) snk ≠ (s, .ok r) := by
    intro hn s r he
    have := (lzma_memlimit_exact_err rd opts m hs hU (by omega)).1
    rw [he] at this; cases this
  refine ⟨⟨fun he => ?_, lzma_memlimit_exact_ok rd opts m hs hU⟩,
    ⟨fun ⟨s, r, he⟩ => ?_, fun h => ⟨_, _, lzma_memlimit_exact_ok rd opts m hs hU h⟩⟩⟩
  · exact Decidable.byContradiction fun hn => hno hn _ _ he
  · exact Decidable.byContradiction fun hn => hno hn _ _ he

/-- Errors are preserved.  If the unlimited run fails, the limited run fails too: with the
same error and the same sink, or — only possible when `m < dict` — with `LzmaError` earlier
(its sink a prefix). -/
theorem lzma_memlimit_error_preserved (rd : Rd) (opts : Options) (m : Nat) {snk snkU : Sink}
    {e : Err} (hs : snk.Perfect) (hU : lzmaDecompress rd (optsU opts) snk = (snkU, .error e)) :
    lzmaDecompress rd (optsM opts m) snk = (snkU, .error e) ∨
      (m < headerDict rd ∧ (lzmaDecompress rd (optsM opts m) snk).2 = .error .lzma ∧
        APre (lzmaDecompress rd (optsM opts m) snk).1.out snkU.out) :=
  (lzmaDecompress_lim rd opts m hs).err _ _ hU

/-- a limit of at least the dictionary size is never noticed, whatever the input -/
theorem lzma_memlimit_ge_dict (rd : Rd) (opts : Options) (m : Nat) {snk : Sink} (hs : snk.Perfect)
    (hm : headerDict rd ≤ m) :
    lzmaDecompress rd (optsM opts m) snk = lzmaDecompress rd (optsU opts) snk := by
  rcases hU : lzmaDecompress rd (optsU opts) snk with ⟨snkU, e | rdU⟩
  · rcases lzma_memlimit_error_preserved rd opts m hs hU with h | ⟨h, -⟩
    · exact h
    · omega
  · exact lzma_memlimit_exact_ok rd opts m hs hU (by omega)

/-- Monotonicity.  Success under limit `m` implies the identical success under every larger
limit and without a limit. -/
theorem lzma_memlimit_mono (rd : Rd) (opts : Options) {m m' : Nat} (hmm : m ≤ m') {snk s : Sink}
    {r : Rd} (hs : snk.Perfect) (h : lzmaDecompress rd (optsM opts m) snk = (s, .ok r)) :
    lzmaDecompress rd (optsM opts m') snk = (s, .ok r) ∧
      lzmaDecompress rd (optsU opts) snk = (s, .ok r) := by
  rcases hU : lzmaDecompress rd (optsU opts) snk with ⟨snkU, e | rdU⟩
  · rcases lzma_memlimit_error_preserved rd opts m hs hU with h' | ⟨-, h', -⟩
    · rw [h] at h'; cases h'
    · rw [h] at h'; cases h'
  · have hfit := ((lzma_memlimit_iff rd opts m hs hU).2).1 ⟨s, r, h⟩
    have h1 := lzma_memlimit_exact_ok rd opts m hs hU hfit
    rw [h] at h1; cases h1
    exact ⟨lzma_memlimit_exact_ok rd opts m' hs hU (by omega), rfl⟩

/-- Never more than `m` bytes of history (ANY sink, any input): every configuration that a
Finish-mode decoding loop started on a fresh window with limit `m` passes through — `k` complete
iterations, for every `k` — has `buf.len() ≤ m` (and still the same limit and dictionary size). -/
theorem never_buffers_more {s : DState} {d m : Nat} {rc : RC} {rd : Rd} {snk : Sink} {k : Nat}
    {c' : Cfg Circ} (h : FinishSteps ⟨s, Circ.fromStream d m, rc, rd, snk⟩ k c') :
    c'.w.buf.size ≤ m ∧ c'.w.memlimit = m ∧ c'.w.dictSize = d :=
  FinishSteps.bufOK h (BufOK.fromStream d m)

/-- … in particular along the run of `lzma_decompress_with_options` with `memlimit = Some(m)`: the
run is `process_mode` on exactly such a fresh window (`lzmaDecompress_ok_iff`), and the window it
finally `finish`es holds at most `m` bytes.  ANY sink. -/
theorem lzma_never_buffers_more {rd rd' : Rd} {opts : Options} {m : Nat} {snk snk' : Sink}
    (hm : opts.memlimit = some m) (h : lzmaDecompress rd opts snk = (snk', .ok rd')) :
    ∃ params rd1 dec rc rd2 s' w' rc' snk1,
      readHeader rd opts = .ok (params, rd1) ∧ LzmaDecoder.new params opts.memlimit = .ok dec ∧
      RC.new rd1 = .ok (rc, rd2) ∧
      dec.state.processMode .finish (Circ.fromStream params.dictSize m) rc rd2 snk =
        (snk1, .ok (s', w', rc', rd')) ∧
      w'.finish snk1 = (snk', .ok ()) ∧ w'.buf.size ≤ m ∧
      (∀ k c', FinishSteps ⟨dec.state, Circ.fromStream params.dictSize m, rc, rd2, snk⟩ k c' →
        c'.w.buf.size ≤ m) := by
  obtain ⟨params, rd1, dec, rc, rd2, s', w', rc', snk1, hh, hd, hrc, hpm, hfin⟩ :=
    lzmaDecompress_ok_iff.1 h
  rw [hm] at hpm
  simp only [Option.getD] at hpm
  refine ⟨params, rd1, dec, rc, rd2, s', w', rc', snk1, hh, hd, hrc, hpm, hfin, ?_, ?_⟩
  · exact (processMode_bufOK hpm (BufOK.fromStream _ m)).1
  · intro k c' hs; exact (never_buffers_more hs).1

/-! ### raw decoder `LzmaDecoder` (any dictionary size `≥ 1`)

`dec` is the reference decoder; it must be unable to hit its own limit
(`dictSize ≤ dec.memlimit`: e.g. `memlimit = None` and `dictSize ≤ usize::MAX`, see
`decoder_new_unlimited`).  `dec.withLimit m` is the same decoder with limit `m`. -/

/-- a decoder created with `memlimit = Some(m)` is the one created with `None`, with limit `m`;
the latter cannot hit its limit as long as the dictionary size is a `usize` -/
theorem decoder_new_unlimited {params : LzmaParams} {decU : LzmaDecoder} (m : Nat)
    (h : LzmaDecoder.new params none = .ok decU) (hd : params.dictSize ≤ USIZE_MAX) :
    LzmaDecoder.new params (some m) = .ok (decU.withLimit m) ∧
      1 ≤ decU.params.dictSize ∧ decU.params.dictSize ≤ decU.memlimit := by
  obtain ⟨hp, hml, -⟩ := LzmaDecoder.new_ok h
  refine ⟨by rw [LzmaDecoder.new_memlimit params none (some m), h]; rfl, ?_, by rw [hp, hml]; exact hd⟩
  have := (LzmaDecoder.new_ok_iff.1 h).1
  rw [hp]
  omega

theorem decoder_memlimit_exact_ok (dec : LzmaDecoder) (m : Nat) (rd : Rd) {snk snkU : Sink}
    {dU : LzmaDecoder} {rdU : Rd} (hs : snk.Perfect) (hd : 1 ≤ dec.params.dictSize)
    (hroomy : dec.params.dictSize ≤ dec.memlimit)
    (hU : dec.decompress rd snk = (snkU, .ok (dU, rdU)))
    (hm : min dec.params.dictSize (snkU.out.size - snk.out.size) ≤ m) :
    (dec.withLimit m).decompress rd snk = (snkU, .ok (dU.withLimit m, rdU)) := by
  obtain ⟨H1, -, ho, -, hsame, -⟩ := (LzmaDecoder.decompress_lim dec m rd hs hd hroomy).ok _ _ hU
  exact hsame (by rw [len_of_out ho]; omega)

theorem decoder_memlimit_exact_err (dec : LzmaDecoder) (m : Nat) (rd : Rd) {snk snkU : Sink}
    {dU : LzmaDecoder} {rdU : Rd} (hs : snk.Perfect) (hd : 1 ≤ dec.params.dictSize)
    (hroomy : dec.params.dictSize ≤ dec.memlimit)
    (hU : dec.decompress rd snk = (snkU, .ok (dU, rdU)))
    (hm : m < min dec.params.dictSize (snkU.out.size - snk.out.size)) :
    ((dec.withLimit m).decompress rd snk).2 = .error .lzma ∧
      APre ((dec.withLimit m).decompress rd snk).1.out snkU.out := by
  obtain ⟨H1, -, ho, -, -, hhit⟩ := (LzmaDecoder.decompress_lim dec m rd hs hd hroomy).ok _ _ hU
  exact (hhit (by rw [len_of_out ho]; omega)).2

theorem decoder_memlimit_error_preserved (dec : LzmaDecoder) (m : Nat) (rd : Rd) {snk snkU : Sink}
    {e : Err} (hs : snk.Perfect) (hd : 1 ≤ dec.params.dictSize)
    (hroomy : dec.params.dictSize ≤ dec.memlimit)
    (hU : dec.decompress rd snk = (snkU, .error e)) :
    (dec.withLimit m).decompress rd snk = (snkU, .error e) ∨
      (m < dec.params.dictSize ∧ ((dec.withLimit m).decompress rd snk).2 = .error .lzma ∧
        APre ((dec.withLimit m).decompress rd snk).1.out snkU.out) :=
  (LzmaDecoder.decompress_lim dec m rd hs hd hroomy).err _ _ hU

/-- monotonicity for ANY decoder (no assumption on its own limit): success under `m` implies the
identical success under every `m' ≥ m` -/
theorem decoder_memlimit_mono (dec : LzmaDecoder) {m m' : Nat} (hmm : m ≤ m') (rd : Rd)
    {snk s : Sink} {d' : LzmaDecoder} {r : Rd} (hs : snk.Perfect) (hd : 1 ≤ dec.params.dictSize)
    (h : (dec.withLimit m).decompress rd snk = (s, .ok (d', r))) :
    (dec.withLimit m').decompress rd snk = (s, .ok (d'.withLimit m', r)) := by
  -- reference: the same decoder with limit `dictSize`, which can never be hit
  have hroomy : (dec.withLimit dec.params.dictSize).params.dictSize ≤
      (dec.withLimit dec.params.dictSize).memlimit := Nat.le_refl _
  have e1 : (dec.withLimit dec.params.dictSize).withLimit m = dec.withLimit m := rfl
  have e2 : (dec.withLimit dec.params.dictSize).withLimit m' = dec.withLimit m' := rfl
  rcases hR : (dec.withLimit dec.params.dictSize).decompress rd snk with ⟨sR, e | ⟨dR, rR⟩⟩
  · rcases decoder_memlimit_error_preserved (dec.withLimit dec.params.dictSize) m rd hs hd hroomy hR with h' | ⟨-, h', -⟩
    · rw [e1, h] at h'; cases h'
    · rw [e1, h] at h'; cases h'
  · by_cases hfit : min dec.params.dictSize (sR.out.size - snk.out.size) ≤ m
    · have h1 := decoder_memlimit_exact_ok (dec.withLimit dec.params.dictSize) m rd hs hd hroomy hR hfit
      rw [e1, h] at h1; cases h1
      have h2 := decoder_memlimit_exact_ok (dec.withLimit dec.params.dictSize) m' rd hs hd hroomy hR
        (Nat.le_trans hfit hmm)
      rw [e2] at h2
      exact h2
    · have h1 := (decoder_memlimit_exact_err (dec.withLimit dec.params.dictSize) m rd hs hd hroomy hR (Nat.lt_of_not_le hfit)).1
      rw [e1, h] at h1; cases h1

/-! ### streaming decoder `Stream`

`Stream.runStream fuel opts chunks snk` (`Lemmas/MemLimit.lean`) is a complete session: create the
stream with `opts`, feed the chunks one after the other with the re-submitting loop `Stream.feed`
(stop at the first `Err`), then `finish`; it returns the final sink and the per-chunk accepted
counts, or the first error.  `stF.dict` is the dictionary size of the window the unlimited
stream created from the header (`0` if the header was never completed: then nothing was
produced).  Bytes produced = growth of `out` (a successful `finish` delivers everything). -/

/-- Enough memory ⇒ the limit is invisible, for every chunking of the input: same per-chunk
results, same final sink. -/
theorem stream_memlimit_exact_ok (m fuel : Nat) (opts : Options) (chunks : List Bytes)
    {snk snkU : Sink} {ns : List Nat} (hs : snk.Perfect)
    (hU : Stream.runStream fuel (optsU opts) chunks snk = (snkU, .ok ns)) :
    ∃ snkF stF, Stream.feedChunks fuel chunks (Stream.newWithOptions (optsU opts)) snk =
        (snkF, stF, .ok ns) ∧
      (min stF.dict (snkU.out.size - snk.out.size) ≤ m →
        Stream.runStream fuel (optsM opts m) chunks snk = (snkU, .ok ns)) := by
  obtain ⟨snkF, stF, h1, h2, -⟩ := (Stream.runStream_lim m fuel opts chunks hs).1 _ _ hU
  exact ⟨snkF, stF, h1, h2⟩

/-- Not enough memory ⇒ `Err lzma` (from the `write` that would exceed the limit, or from
`finish`), the sink holding a prefix of the unlimited output. -/
theorem stream_memlimit_exact_err (m fuel : Nat) (opts : Options) (chunks : List Bytes)
    {snk snkU : Sink} {ns : List Nat} (hs : snk.Perfect)
    (hU : Stream.runStream fuel (optsU opts) chunks snk = (snkU, .ok ns)) :
    ∃ snkF stF, Stream.feedChunks fuel chunks (Stream.newWithOptions (optsU opts)) snk =
        (snkF, stF, .ok ns) ∧
      (m < min stF.dict (snkU.out.size - snk.out.size) →
        (Stream.runStream fuel (optsM opts m) chunks snk).2 = .error .lzma ∧
        APre (Stream.runStream fuel (optsM opts m) chunks snk).1.out snkU.out) := by
  obtain ⟨snkF, stF, h1, -, h3⟩ := (Stream.runStream_lim m fuel opts chunks hs).1 _ _ hU
  exact ⟨snkF, stF, h1, fun hlt => h3 (by omega)⟩

/-- the two together: given that the unlimited session succeeds, the limited session succeeds
(and is then identical) IFF the needed window fits -/
theorem stream_memlimit_exact (m fuel : Nat) (opts : Options) (chunks : List Bytes)
    {snk snkU : Sink} {ns : List Nat} (hs : snk.Perfect)
    (hU : Stream.runStream fuel (optsU opts) chunks snk = (snkU, .ok ns)) :
    ∃ snkF stF, Stream.feedChunks fuel chunks (Stream.newWithOptions (optsU opts)) snk =
        (snkF, stF, .ok ns) ∧
      (Stream.runStream fuel (optsM opts m) chunks snk = (snkU, .ok ns) ↔
        min stF.dict (snkU.out.size - snk.out.size) ≤ m) := by
  obtain ⟨snkF, stF, h1, h2, h3⟩ := (Stream.runStream_lim m fuel opts chunks hs).1 _ _ hU
  refine ⟨snkF, stF, h1, fun he => ?_, h2⟩
  exact Decidable.byContradiction fun hn => by
    have : (Stream.runStream fuel (optsM opts m) chunks snk).2 = .error .lzma := (h3 hn).1
    rw [he] at this; cases this

/-- Errors are preserved by the limited session (or pre-empted by `Err lzma`). -/
theorem stream_memlimit_error_preserved (m fuel : Nat) (opts : Options) (chunks : List Bytes)
    {snk snkU : Sink} {e : Err} (hs : snk.Perfect)
    (hU : Stream.runStream fuel (optsU opts) chunks snk = (snkU, .error e)) :
    Stream.runStream fuel (optsM opts m) chunks snk = (snkU, .error e) ∨
      ((Stream.runStream fuel (optsM opts m) chunks snk).2 = .error .lzma ∧
        APre (Stream.runStream fuel (optsM opts m) chunks snk).1.out snkU.out) :=
  (Stream.runStream_lim m fuel opts chunks hs).2 _ _ hU

/-- Monotonicity for sessions: success under `m` implies the identical success under every
`m' ≥ m` and without a limit -/
theorem stream_memlimit_mono {m m' : Nat} (hmm : m ≤ m') (fuel : Nat) (opts : Options)
    (chunks : List Bytes) {snk s : Sink} {ns : List Nat} (hs : snk.Perfect)
    (h : Stream.runStream fuel (optsM opts m) chunks snk = (s, .ok ns)) :
    Stream.runStream fuel (optsM opts m') chunks snk = (s, .ok ns) ∧
      Stream.runStream fuel (optsU opts) chunks snk = (s, .ok ns) := by
  rcases hU : Stream.runStream fuel (optsU opts) chunks snk with ⟨snkU, e | nsU⟩
  · rcases stream_memlimit_error_preserved m fuel opts chunks hs hU with h' | ⟨h', -⟩
    · rw [h] at h'; cases h'
    · rw [h] at h'; cases h'
  · obtain ⟨snkF, stF, h1, h2, h3⟩ := (Stream.runStream_lim m fuel opts chunks hs).1 _ _ hU
    obtain ⟨snkF', stF', h1', h2', -⟩ := (Stream.runStream_lim m' fuel opts chunks hs).1 _ _ hU
    rw [h1] at h1'; cases h1'
    by_cases hfit : min stF.dict (snkU.out.size - snk.out.size) ≤ m
    · have e1 : Stream.runStream fuel (optsM opts m) chunks snk = (snkU, .ok nsU) := h2 hfit
      rw [h] at e1; cases e1
      exact ⟨h2' (by omega), rfl⟩
    · have : (Stream.runStream fuel (optsM opts m) chunks snk).2 = .error .lzma := (h3 hfit).1
      rw [h] at this; cases this

/-- one `write` call from ANY reachable pair of states: `st` is the unlimited stream (invariant
`Stream.Inv`: it has decoded `H` into the perfect sink), `st.withLimit m` the limited one, whose
window still fits (`st.need ≤ m`).  The limited call returns the same count, the same sink and
the corresponding stream iff the window the unlimited stream holds afterwards fits; otherwise
`Err lzma`.  (`need` = `buf.len()` of the window = `min dict produced`.) -/
theorem stream_write_memlimit (m : Nat) (data : Bytes) {st : Stream} {base snk : Sink} {H : Bytes}
    (h : st.Inv base snk H) (hfit : st.need ≤ m) :
    (∀ n, (st.writeS data snk).2.2 = .ok n →
      (∃ H1, H <+: H1 ∧ (st.writeS data snk).2.1.Inv base (st.writeS data snk).1 H1) ∧
      ((st.writeS data snk).2.1.need ≤ m →
        (st.withLimit m).writeS data snk =
          ((st.writeS data snk).1, (st.writeS data snk).2.1.withLimit m, .ok n)) ∧
      (¬ (st.writeS data snk).2.1.need ≤ m →
        ((st.withLimit m).writeS data snk).2.2 = .error .lzma ∧
        APre ((st.withLimit m).writeS data snk).1.out (st.writeS data snk).1.out)) ∧
    (∀ e, (st.writeS data snk).2.2 = .error e →
      (st.withLimit m).writeS data snk =
          ((st.writeS data snk).1, (st.writeS data snk).2.1.withLimit m, .error e) ∨
        (((st.withLimit m).writeS data snk).2.2 = .error .lzma ∧
          APre ((st.withLimit m).writeS data snk).1.out (st.writeS data snk).1.out)) := by
  have hrel := Stream.writeS_srel m data h
  exact ⟨fun n hn => ⟨(hrel.ref n hn).2, hrel.same hfit n hn, hrel.hit hfit n hn⟩,
    fun e he => hrel.err hfit e he⟩

/-- the invariant holds initially and `st.need = min dict produced` under it -/
theorem stream_inv_new (opts : Options) (m : Nat) {base : Sink} (hb : base.Perfect) :
    (Stream.newWithOptions (optsU opts)).Inv base base [] ∧
      (Stream.newWithOptions (optsU opts)).withLimit m = Stream.newWithOptions (optsM opts m) :=
  ⟨Stream.Inv.new _ rfl hb, rfl⟩

theorem stream_need_eq {st : Stream} {base snk : Sink} {H : Bytes} (h : st.Inv base snk H) :
    st.need = min H.length st.dict := h.need_eq

/-- The stream never holds more than `m` bytes of history: after ANY sequence of `write` and
`flush` calls (any data, any sink behaviour) on a stream created with `memlimit = Some(m)`, the
window — if the stream is in the `Data` state — has `buf.len() ≤ m`. -/
theorem stream_never_buffers_more (opts : Options) (m : Nat) (cs : List Stream.Call) (snk : Sink)
    {rs : RunState}
    (h : (Stream.runCalls cs (Stream.newWithOptions (optsM opts m)) snk).2.1.state = some (.data rs)) :
    rs.output.buf.size ≤ m ∧ rs.output.memlimit = m :=
  (Stream.runCalls_bufOK cs snk (Stream.BufOKS.new opts m)).2 rs h

/-! ### non-vacuity: a real stream, a limit equal to the needed window and one below it -/

/-- `"abcabcabc"` as `.lzma` (lc = lp = pb = 0, dictionary 4096, end marker), made by liblzma -/
def sample : Bytes :=
  [0, 0, 16, 0, 0, 255, 255, 255, 255, 255, 255, 255, 255, 0, 48, 153, 171, 216, 139, 1, 114, 199,
   255, 255, 50, 64, 0, 0]

/-- the empty sink is perfect -/
theorem perfect_empty : ({} : Sink).Perfect := rfl

/-- is the result `Err(LzmaError)`? -/
def isLzmaErr {α : Type} : Except Err α → Bool
  | .error .lzma => true
  | _ => false

private theorem eq_of_snd {α β : Type} {r : α × β} {b : β} (h : r.2 = b) : r = (r.1, b) := h ▸ rfl

/-- a result whose verdict `isOk` is a success -/
private theorem ok_of_isOk {α : Type} {r : Sink × Except Err α} (h : r.2.isOk = true) :
    ∃ a, r = (r.1, .ok a) := by
  rcases r with ⟨s, e | a⟩
  · cases h
  · exact ⟨a, rfl⟩

/-- the one evaluation of the unlimited run -/
private theorem sample_run : (lzmaDecompress (Rd.ofBytes sample) (optsU {}) {}).2.isOk = true ∧
    (lzmaDecompress (Rd.ofBytes sample) (optsU {}) {}).1.out.toList =
      [97, 98, 99, 97, 98, 99, 97, 98, 99] ∧
    headerDict (Rd.ofBytes sample) = 4096 := by decide +kernel

/-- the unlimited run succeeds and produces 9 bytes; the dictionary is 4096: needed window
`min 4096 9 = 9` -/
theorem sample_unlimited :
    ∃ snkU rdU, lzmaDecompress (Rd.ofBytes sample) (optsU {}) {} = (snkU, .ok rdU) ∧
      snkU.out.size = 9 ∧ headerDict (Rd.ofBytes sample) = 4096 := by
  obtain ⟨rdU, hU⟩ := ok_of_isOk sample_run.1
  exact ⟨_, rdU, hU, by rw [← Array.length_toList, sample_run.2.1]; rfl, sample_run.2.2⟩

/-- limit 9 = needed window: `lzma_memlimit_exact_ok` applies, the limited run is the unlimited one -/
private theorem sample_limit9 : lzmaDecompress (Rd.ofBytes sample) (optsM {} 9) {} =
    lzmaDecompress (Rd.ofBytes sample) (optsU {}) {} := by
  obtain ⟨snkU, rdU, hU, hsz, hd⟩ := sample_unlimited
  rw [hU]
  exact lzma_memlimit_exact_ok _ _ 9 perfect_empty hU (by rw [hsz, hd]; decide)

example : lzmaDecompress (Rd.ofBytes sample) (optsM {} 9) {} =
    lzmaDecompress (Rd.ofBytes sample) (optsU {}) {} := sample_limit9

/-- limit 8 < needed window: `lzma_memlimit_exact_err` applies -/
example : (lzmaDecompress (Rd.ofBytes sample) (optsM {} 8) {}).2 = .error .lzma := by
  obtain ⟨snkU, rdU, hU, hsz, hd⟩ := sample_unlimited
  exact (lzma_memlimit_exact_err _ _ 8 perfect_empty hU (by rw [hsz, hd]; decide)).1

/-- the same two facts with the bytes spelled out: under limit 9 the output of the unlimited run,
under limit 8 (evaluated) nothing at all -/
example : (lzmaDecompress (Rd.ofBytes sample) (optsM {} 9) {}).2.isOk = true ∧
    (lzmaDecompress (Rd.ofBytes sample) (optsM {} 9) {}).1.out.toList =
      [97, 98, 99, 97, 98, 99, 97, 98, 99] ∧
    isLzmaErr (lzmaDecompress (Rd.ofBytes sample) (optsM {} 8) {}).2 = true ∧
    (lzmaDecompress (Rd.ofBytes sample) (optsM {} 8) {}).1.out.toList = [] := by
  rw [sample_limit9]
  exact ⟨sample_run.1, sample_run.2.1, by decide +kernel⟩

/-- an unlimited error (truncated input) is reproduced under a limit that is not hit … -/
example : (lzmaDecompress (Rd.ofBytes (sample.take 20)) (optsU {}) {}).2.isOk = false ∧
    lzmaDecompress (Rd.ofBytes (sample.take 20)) (optsM {} 4096) {} =
      lzmaDecompress (Rd.ofBytes (sample.take 20)) (optsU {}) {} :=
  ⟨by decide +kernel, lzma_memlimit_ge_dict _ _ _ perfect_empty (by decide +kernel)⟩

/-- … while under a small limit it is pre-empted by `Err lzma` (the second alternative of
`lzma_memlimit_error_preserved` does occur): the input truncated after 24 bytes fails with `eof`
without a limit and with `lzma` under limit 2 -/
example : (match (lzmaDecompress (Rd.ofBytes (sample.take 24)) (optsU {}) {}).2 with
      | .error .eof => true
      | _ => false) = true ∧
    isLzmaErr (lzmaDecompress (Rd.ofBytes (sample.take 24)) (optsM {} 2) {}).2 = true := by
  decide +kernel

/-- … and `lzma_memlimit_mono` has instances: success under 9 gives success under 10 -/
example : ∃ s r, lzmaDecompress (Rd.ofBytes sample) (optsM {} 10) {} = (s, .ok r) := by
  obtain ⟨snkU, rdU, hU, hsz, hd⟩ := sample_unlimited
  have h9 := lzma_memlimit_exact_ok _ _ 9 perfect_empty hU (by rw [hsz, hd]; decide)
  exact ⟨_, _, (lzma_memlimit_mono _ _ (by decide : 9 ≤ 10) perfect_empty h9).1⟩

/-- raw decoder: the payload of `sample` on a decoder for dictionary 4096 -/
def sampleParams : LzmaParams :=
  { props := { lc := 0, lp := 0, pb := 0 }, dictSize := 4096, unpackedSize := none }

def sampleDecoder : LzmaDecoder := (LzmaDecoder.new sampleParams none).toOption.getD default

example : LzmaDecoder.new sampleParams none = .ok sampleDecoder ∧
    1 ≤ sampleDecoder.params.dictSize ∧ sampleDecoder.params.dictSize ≤ sampleDecoder.memlimit :=
  ⟨rfl, by decide, by decide⟩

/-- one evaluation of the reference decoder; the two limited runs are instances of
`decoder_memlimit_exact_ok` and `decoder_memlimit_exact_err` -/
example : ((sampleDecoder.withLimit 9).decompress (Rd.ofBytes (sample.drop 13)) {}).2.isOk = true ∧
    isLzmaErr ((sampleDecoder.withLimit 8).decompress (Rd.ofBytes (sample.drop 13)) {}).2 = true ∧
    (sampleDecoder.decompress (Rd.ofBytes (sample.drop 13)) {}).1.out.size = 9 := by
  have h : (sampleDecoder.decompress (Rd.ofBytes (sample.drop 13)) {}).2.isOk = true ∧
      (sampleDecoder.decompress (Rd.ofBytes (sample.drop 13)) {}).1.out.size = 9 := by
    decide +kernel
  obtain ⟨⟨dU, rdU⟩, hU⟩ := ok_of_isOk h.1
  have hd : 1 ≤ sampleDecoder.params.dictSize := by decide
  have hr : sampleDecoder.params.dictSize ≤ sampleDecoder.memlimit := by decide
  refine ⟨?_, ?_, h.2⟩
  · rw [decoder_memlimit_exact_ok _ 9 _ perfect_empty hd hr hU (by rw [h.2]; decide)]; rfl
  · rw [(decoder_memlimit_exact_err _ 8 _ perfect_empty hd hr hU (by rw [h.2]; decide)).1]; rfl

/-- the configurations of `never_buffers_more` exist: 3 iterations on the sample payload with
limit 9 lead to a window holding 3 bytes -/
example : ∃ c', FinishSteps (ω := Circ) ⟨sampleDecoder.state, Circ.fromStream 4096 9,
      (RC.new (Rd.ofBytes (sample.drop 13))).toOption.get!.1,
      (RC.new (Rd.ofBytes (sample.drop 13))).toOption.get!.2, {}⟩ 3 c' ∧ c'.w.buf.size = 3 := by
  have h : (stepsTrace 3 (⟨sampleDecoder.state, Circ.fromStream 4096 9,
      (RC.new (Rd.ofBytes (sample.drop 13))).toOption.get!.1,
      (RC.new (Rd.ofBytes (sample.drop 13))).toOption.get!.2, {}⟩ : Cfg Circ)).map (·.w.buf.size) =
        some 3 := by decide +kernel
  obtain ⟨c', hc, h3⟩ := Option.map_eq_some_iff.1 h
  exact ⟨c', stepsTrace_sound 3 hc, h3⟩

/-! streaming: the sample fed in two fragments (the first ends inside the header) -/

/-- the one evaluation of the unlimited session -/
private theorem sample_stream_run :
    (Stream.runStream 10 (optsU {}) [sample.take 7, sample.drop 7] {}).2 = .ok [7, 21] ∧
    (Stream.runStream 10 (optsU {}) [sample.take 7, sample.drop 7] {}).1.out.toList =
      [97, 98, 99, 97, 98, 99, 97, 98, 99] ∧
    (Stream.feedChunks 10 [sample.take 7, sample.drop 7] (Stream.newWithOptions (optsU {})) {}).2.1.dict =
      4096 := by decide +kernel

/-- the unlimited session succeeds, accepts `[7, 21]` bytes, delivers 9 bytes; the window the
stream created has dictionary size 4096 -/
theorem sample_stream_unlimited :
    ∃ snkU, Stream.runStream 10 (optsU {}) [sample.take 7, sample.drop 7] {} = (snkU, .ok [7, 21]) ∧
      snkU.out.size = 9 ∧
      (Stream.feedChunks 10 [sample.take 7, sample.drop 7] (Stream.newWithOptions (optsU {})) {}).2.1.dict =
        4096 := by
  exact ⟨_, eq_of_snd sample_stream_run.1, by rw [← Array.length_toList, sample_stream_run.2.1]; rfl,
    sample_stream_run.2.2⟩

/-- limit 9: `stream_memlimit_exact_ok` applies — the limited session is the unlimited one -/
private theorem sample_stream_limit9 :
    Stream.runStream 10 (optsM {} 9) [sample.take 7, sample.drop 7] {} =
      Stream.runStream 10 (optsU {}) [sample.take 7, sample.drop 7] {} := by
  obtain ⟨snkU, hU, hsz, hd⟩ := sample_stream_unlimited
  obtain ⟨snkF, stF, hF, hok⟩ := stream_memlimit_exact_ok 9 10 {} _ perfect_empty hU
  rw [hF] at hd
  rw [hU]
  exact hok (by dsimp only at hd; rw [hd, hsz]; decide)

example : Stream.runStream 10 (optsM {} 9) [sample.take 7, sample.drop 7] {} =
    Stream.runStream 10 (optsU {}) [sample.take 7, sample.drop 7] {} := sample_stream_limit9

/-- limit 8: `stream_memlimit_exact_err` applies -/
private theorem sample_stream_limit8 :
    (Stream.runStream 10 (optsM {} 8) [sample.take 7, sample.drop 7] {}).2 = .error .lzma := by
  obtain ⟨snkU, hU, hsz, hd⟩ := sample_stream_unlimited
  obtain ⟨snkF, stF, hF, herr⟩ := stream_memlimit_exact_err 8 10 {} _ perfect_empty hU
  rw [hF] at hd
  exact (herr (by dsimp only at hd; rw [hd, hsz]; decide)).1

example : (Stream.runStream 10 (optsM {} 8) [sample.take 7, sample.drop 7] {}).2 = .error .lzma :=
  sample_stream_limit8

/-- the same with the bytes spelled out -/
example : (Stream.runStream 10 (optsM {} 9) [sample.take 7, sample.drop 7] {}).2.isOk = true ∧
    (Stream.runStream 10 (optsM {} 9) [sample.take 7, sample.drop 7] {}).1.out.toList =
      [97, 98, 99, 97, 98, 99, 97, 98, 99] ∧
    isLzmaErr (Stream.runStream 10 (optsM {} 8) [sample.take 7, sample.drop 7] {}).2 = true := by
  rw [sample_stream_limit9, sample_stream_limit8, sample_stream_run.1]
  exact ⟨rfl, sample_stream_run.2.1, rfl⟩

/-- `stream_never_buffers_more` has instances in the `Data` state: after three writes (the second
one is cut short by the 18-byte header staging buffer) with limit 9 the window holds 9 bytes -/
example : (match (Stream.runCalls [.write (sample.take 7), .write (sample.drop 7), .write (sample.drop 18)]
      (Stream.newWithOptions (optsM {} 9)) {}).2.1.state with
    | some (.data rs) => rs.output.buf.size
    | _ => 0) = 9 := by decide +kernel

end Lzma.C10
