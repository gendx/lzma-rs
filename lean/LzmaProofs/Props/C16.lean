/-
  C16 — "a failed or completed stream stays failed or completed"
  (`decode/stream.rs`, model `LzmaModel/Stream.lean`).

  The call language (`Stream.Call`, `Stream.stepCall`, `Stream.runCalls`) is
  defined in `LzmaProofs/Lemmas/StreamBasic.lean`.
-/
import LzmaProofs.Lemmas.StreamBasic
namespace Lzma.C16
open Lzma.Stream

/-! ### a failed stream (`state = none`) latches -/

/-- After a failure (`state = none`): `write` reports `Ok(0)` and touches neither the sink
nor the stream; `flush` is a no-op; `finish` fails. Whole-sink equality covers `out`,
`writes`, `flushes`, the script and `lastFlush`. -/
theorem failed_latches (st : Stream) (data : Bytes) (snk : Sink) (h : st.state = none) :
    st.writeS data snk = (snk, st, .ok 0) ∧
    st.flush snk = (snk, .ok ()) ∧
    st.finish snk = (snk, .error .lzma) :=
  ⟨writeS_none st data snk h, flush_none st snk h, finish_none st snk h⟩

/-- On a failed stream the `Write` trait's `write_all` (std's default loop) cannot report a
non-empty buffer as written: it fails (`WriteZero`), leaving sink and stream alone. -/
theorem failed_latches_writeAll (st : Stream) (data : Bytes) (snk : Sink) (h : st.state = none)
    (hd : data ≠ []) : st.writeAll data snk = (snk, st, .error .io) := by
  cases data with
  | nil => exact absurd rfl hd
  | cons b bs =>
    have hf : feed (bs.length + 1 + 1) st (b :: bs) 0 snk = (snk, st, .ok 0) := by
      rw [feed]
      simp [writeS_none st (b :: bs) snk h]
    simp [Stream.writeAll, hf]

/-- non-vacuity: a stream that failed on a bad properties byte -/
example : ((Stream.newWithOptions {}).writeS [255] {}).2.1.state = none := by rfl

/-- A `write` that returns `Err` leaves the stream in the `none` state. -/
theorem write_error_leaves_none (st st' : Stream) (data : Bytes) (snk snk' : Sink) (e : Err)
    (h : st.writeS data snk = (snk', st', .error e)) : st'.state = none :=
  (writeS_error_state h).1

/-- non-vacuity: such a `write` exists -/
example : ((Stream.newWithOptions {}).writeS [255] {}).2.2 = .error .lzma := by rfl

/-- Once some `write` has returned an error (after an arbitrary earlier call sequence `pre`),
every later call sequence is inert: each call (`write` or `flush`) reports `ok 0`, neither
the sink nor the stream object changes, and `finish` reports an error without touching the sink. -/
theorem after_error_forever (pre later : List Call) (data : Bytes) (st st1 st2 : Stream)
    (snk snk1 snk2 : Sink) (rs1 : List (Except Err Nat)) (e : Err)
    (_hpre : runCalls pre st snk = (snk1, st1, rs1))
    (herr : st1.writeS data snk1 = (snk2, st2, .error e)) :
    runCalls later st2 snk2 = (snk2, st2, later.map fun _ => .ok 0) ∧
    st2.finish snk2 = (snk2, .error .lzma) := by
  have hnone := (writeS_error_state herr).1
  exact ⟨runCalls_none later st2 snk2 hnone, finish_none st2 snk2 hnone⟩

/-- The same as one call sequence: if the call at position `pre.length` (a `write`) returned
an error, then the sink after the whole sequence is the sink right after that call, all later
results are `ok 0`, and `finish` fails leaving the sink alone. -/
theorem after_error_forever_seq (pre later : List Call) (data : Bytes) (st st' : Stream)
    (snk snk' : Sink) (rs : List (Except Err Nat)) (e : Err)
    (hrun : runCalls (pre ++ Call.write data :: later) st snk = (snk', st', rs))
    (herr : rs[pre.length]? = some (.error e)) :
    snk' = (runCalls (pre ++ [Call.write data]) st snk).1 ∧
    rs.drop (pre.length + 1) = later.map (fun _ => .ok 0) ∧
    st'.state = none ∧
    st'.finish snk' = (snk', .error .lzma) := by
  rcases hpre : runCalls pre st snk with ⟨snk1, st1, rs1⟩
  rcases hw : st1.writeS data snk1 with ⟨snk2, st2, r⟩
  have hlen : rs1.length = pre.length := by
    have : ∀ (cs : List Call) (st : Stream) (snk : Sink), (runCalls cs st snk).2.2.length = cs.length := by
      intro cs
      induction cs with
      | nil => intros; rfl
      | cons c cs ih => intro st snk; simp [runCalls, ih]
    have h := this pre st snk
    rw [hpre] at h; exact h
  rcases hl : runCalls later st2 snk2 with ⟨snk3, st3, rs3⟩
  have hsingle : runCalls (pre ++ [Call.write data]) st snk = (snk2, st2, rs1 ++ [r]) := by
    rw [runCalls_append, hpre]; simp [runCalls, stepCall, hw]
  rw [runCalls_append, hpre] at hrun
  simp only [runCalls, stepCall, hw, hl, Prod.mk.injEq] at hrun
  obtain ⟨rfl, rfl, rfl⟩ := hrun
  have hr : r = .error e := by
    have : (rs1 ++ r :: rs3)[pre.length]? = some r := by
      rw [← hlen]; simp
    rw [this] at herr
    exact Option.some.inj herr
  subst hr
  obtain ⟨h1, h2⟩ := after_error_forever pre later data st st1 st2 snk snk1 snk2 rs1 e hpre hw
  rw [hl] at h1
  simp only [Prod.mk.injEq] at h1
  obtain ⟨rfl, rfl, rfl⟩ := h1
  refine ⟨by rw [hsingle], ?_, (writeS_error_state hw).1, h2⟩
  rw [← hlen]; simp

/-! ### a stream whose announced size is reached latches -/

/-- When the unpacked size announced in the header has been produced, a `write` accepts
nothing (`Ok(0)`), does not touch the sink, and keeps the run state (window, decoder,
range, code); the staging buffer is emptied. -/
theorem size_reached_latches (st : Stream) (rs : RunState) (n : Nat) (data : Bytes) (snk : Sink)
    (hst : st.state = some (.data rs)) (hn : rs.decoder.unpackedSize = some n)
    (hlen : rs.output.len ≥ n) :
    st.writeS data snk = (snk, { st with tmp := [], state := some (.data rs) }, .ok 0) := by
  unfold writeS
  rw [write_size_reached st rs data snk n hst hn hlen]

/-- Once the announced size is reached, `write_all` of a non-empty buffer fails (`WriteZero`)
without touching the sink. -/
theorem size_reached_latches_writeAll (st : Stream) (rs : RunState) (n : Nat) (data : Bytes) (snk : Sink)
    (hst : st.state = some (.data rs)) (hn : rs.decoder.unpackedSize = some n)
    (hlen : rs.output.len ≥ n) (hd : data ≠ []) :
    st.writeAll data snk = (snk, { st with tmp := [], state := some (.data rs) }, .error .io) := by
  cases data with
  | nil => exact absurd rfl hd
  | cons b bs =>
    have hf : feed (bs.length + 1 + 1) st (b :: bs) 0 snk =
        (snk, { st with tmp := [], state := some (.data rs) }, .ok 0) := by
      rw [feed]
      simp [size_reached_latches st rs n (b :: bs) snk hst hn hlen]
    simp [Stream.writeAll, hf]

/-- Once the announced size is reached, every later sequence of writes is inert: all report `ok 0`, the sink is unchanged,
the run state is unchanged. -/
theorem size_reached_latches_seq (st : Stream) (rs : RunState) (n : Nat) (ds : List Bytes)
    (snk : Sink)
    (hst : st.state = some (.data rs)) (hn : rs.decoder.unpackedSize = some n)
    (hlen : rs.output.len ≥ n) :
    ∃ st', st'.state = some (.data rs) ∧ st'.options = st.options ∧
      runCalls (ds.map Call.write) st snk = (snk, st', ds.map fun _ => .ok 0) := by
  induction ds generalizing st with
  | nil => exact ⟨st, hst, rfl, rfl⟩
  | cons d ds ih =>
    obtain ⟨st', h1, h2, h3⟩ := ih { st with tmp := [], state := some (.data rs) } rfl
    refine ⟨st', h1, h2, ?_⟩
    simp only [List.map_cons, runCalls, stepCall, size_reached_latches st rs n d snk hst hn hlen, h3]

theorem flushSink_out (snk : Sink) : (flushSink snk).1.out = snk.out := by
  unfold flushSink; split <;> rfl

/-- With `flush` calls mixed in: the sink's `out` never changes, every `write` reports
`ok 0`, the run state stays. (`flush` reaches the sink, so `flushes` may grow and a scripted
failure of the sink's `flush` is reported.) -/
theorem size_reached_latches_calls (st : Stream) (rs : RunState) (n : Nat) (cs : List Call)
    (snk : Sink)
    (hst : st.state = some (.data rs)) (hn : rs.decoder.unpackedSize = some n)
    (hlen : rs.output.len ≥ n) :
    (runCalls cs st snk).1.out = snk.out ∧
    (runCalls cs st snk).2.1.state = some (.data rs) ∧
    ∀ (i : Nat) (d : Bytes), cs[i]? = some (.write d) → (runCalls cs st snk).2.2[i]? = some (.ok 0) := by
  induction cs generalizing st snk with
  | nil => exact ⟨rfl, hst, by simp⟩
  | cons c cs ih =>
    cases c with
    | write d =>
      obtain ⟨h1, h2, h3⟩ := ih { st with tmp := [], state := some (.data rs) } snk rfl
      simp only [runCalls, stepCall, size_reached_latches st rs n d snk hst hn hlen]
      refine ⟨h1, h2, ?_⟩
      intro i d' hi
      cases i with
      | zero => simp
      | succ i => simpa using h3 i d' (by simpa using hi)
    | flush =>
      have hf : stepCall .flush st snk = ((flushSink snk).1, st,
          match (flushSink snk).2 with | .ok _ => .ok 0 | .error e => .error e) := by
        simp only [stepCall, flushS, Stream.flush, hst]
        rcases flushSink snk with ⟨s', (e | u)⟩ <;> rfl
      obtain ⟨h1, h2, h3⟩ := ih st (flushSink snk).1 hst
      simp only [runCalls, hf]
      refine ⟨by rw [h1, flushSink_out], h2, ?_⟩
      intro i d' hi
      cases i with
      | zero => simp at hi
      | succ i => simpa using h3 i d' (by simpa using hi)

/-- non-vacuity: a header announcing size 0 followed by the 5 range-coder bytes puts the
stream in the `data` state with the size already reached -/
example : ∃ rs, ((Stream.newWithOptions {}).writeS
      [0x5d, 0, 0, 1, 0, 0, 0, 0, 0, 0, 0, 0, 0, 0, 0, 0, 0, 0] {}).2.1.state = some (.data rs) ∧
    rs.decoder.unpackedSize = some 0 ∧ rs.output.len ≥ 0 :=
  ⟨_, rfl, rfl, Nat.zero_le _⟩

/-! ### the `header` state produces no output -/

/-- A single call made in the `header` state does not touch the sink at all. -/
theorem header_state_no_output_step (c : Call) (st : Stream) (snk : Sink)
    (h : st.state = some .header) : (stepCall c st snk).1 = snk := by
  cases c with
  | write data => exact writeS_header_sink st data snk h
  | flush => simp [stepCall, flushS, flush_header st snk h]

/-- While the stream is in the `header` state no call changes the sink: if after a call
sequence the stream is (still) in the `header` state, it was there all along and the sink
is exactly the initial one (in particular its `out`). -/
theorem header_state_no_output (cs : List Call) (st st' : Stream) (snk snk' : Sink)
    (rs : List (Except Err Nat))
    (h : runCalls cs st snk = (snk', st', rs)) (hst' : st'.state = some .header) :
    st.state = some .header ∧ snk' = snk ∧ snk'.out = snk.out := by
  obtain ⟨h1, h2⟩ := runCalls_to_header h hst'
  exact ⟨h1, h2, by rw [h2]⟩

/-- non-vacuity: a fresh stream fed 3 bytes stays in the `header` state -/
example : ((Stream.newWithOptions {}).writeS [0x5d, 0, 0] {}).2.1.state = some .header := by rfl

end Lzma.C16
