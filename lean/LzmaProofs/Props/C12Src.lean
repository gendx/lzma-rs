/-
  C12 (reader side, whole decoders) — a source fault never yields success that the fault-free
  source would not yield, and it never corrupts what is delivered.

  The input is the flat reader `Rd`: `bad = true` means that demanding a byte beyond the data —
  or probing for the end of input (`fill_buf`, `is_eof`, `flush_zero_padding`) when no data is
  left — is an I/O error instead of "end of file".  For each one-shot decoder
  `D ∈ {lzma_decompress_with_options, lzma2_decompress, xz_decompress}`, EVERY input `x`, EVERY
  sink (any fault script), every option set:

  * `*_fault_never_helps`: a run on the faulty source that succeeds never touched the fault: the
    fault-free run on the same bytes gives the same sink, the same verdict and the same reader
    position;
  * `*_fault_propagates_partial`: if the fault-free run on `x` fails, so does the faulty run, and
    what the faulty run delivered is a prefix of what the fault-free run delivered.  (Equality of
    the delivered bytes is false in general, see `fault_out_may_be_shorter`: the fault-free run
    goes on after the point where the faulty one stopped — e.g. `finish` writes the window — and
    fails later for another reason.)
  * `*_eof_probe_faults`: the decoders that end by probing for the end of input
    (`xz_decompress` always, `lzma_decompress` when no unpacked size is in effect) never succeed
    on a faulty source: the final `is_eof` is an I/O error.

  `Lemmas/SrcFault.lean` carries the relation "success on `rd` ⇒ identical success on `rd.good`,
  failure on `rd` ⇒ delivered a prefix" (`SF.Sim`) through the decoders; the encoders, which read
  from `ERd`, are not covered (only the primitive `C12.encoder_source_fault_propagates`).
-/
import LzmaProofs.Lemmas.SrcFault
namespace Lzma.C12
open Lzma Lzma.SF

/-! ## a fault never helps -/

/-- `lzma_decompress`: if the run on the faulty source succeeds, the fault-free run on the same bytes is
the same run: same sink (all fields), `Ok`, same reader position.  (The reader handed back by
the faulty run still carries the fault flag.) -/
theorem lzma_fault_never_helps (x : Bytes) (opts : Options) (snk snk' : Sink) (rd' : Rd)
    (h : lzmaDecompress { rem := x, bad := true } opts snk = (snk', .ok rd')) :
    lzmaDecompress { rem := x, bad := false } opts snk = (snk', .ok { rem := rd'.rem, bad := false })
    ∧ rd'.bad = true :=
  (lzmaDecompress_sim (b := true) { rem := x, bad := true } opts rfl).ok h

/-- the same for `lzma2_decompress` -/
theorem lzma2_fault_never_helps (x : Bytes) (snk snk' : Sink) (rd' : Rd)
    (h : lzma2Decompress { rem := x, bad := true } snk = (snk', .ok rd')) :
    lzma2Decompress { rem := x, bad := false } snk = (snk', .ok { rem := rd'.rem, bad := false })
    ∧ rd'.bad = true :=
  (lzma2Decompress_sim (b := true) { rem := x, bad := true } rfl).ok h

/-- the same for `xz_decompress`.  (By `xz_eof_probe_faults` the hypothesis is never met: stated for uniformity.) -/
theorem xz_fault_never_helps (x : Bytes) (snk snk' : Sink) (rd' : Rd)
    (h : xzDecompress { rem := x, bad := true } snk = (snk', .ok rd')) :
    xzDecompress { rem := x, bad := false } snk = (snk', .ok { rem := rd'.rem, bad := false })
    ∧ rd'.bad = true :=
  (xzDecompress_sim (b := true) { rem := x, bad := true } rfl).ok h

/-- The same for a reader with ANY flag, in terms of `Rd.good` (`= { rd with bad := false }`):
the flag is handed through unchanged, and the fault-free run is identical. -/
theorem fault_never_helps (rd rd' : Rd) (opts : Options) (snk snk' : Sink) :
    (lzmaDecompress rd opts snk = (snk', .ok rd') →
      lzmaDecompress rd.good opts snk = (snk', .ok rd'.good) ∧ rd'.bad = rd.bad) ∧
    (lzma2Decompress rd snk = (snk', .ok rd') →
      lzma2Decompress rd.good snk = (snk', .ok rd'.good) ∧ rd'.bad = rd.bad) ∧
    (xzDecompress rd snk = (snk', .ok rd') →
      xzDecompress rd.good snk = (snk', .ok rd'.good) ∧ rd'.bad = rd.bad) :=
  ⟨fun h => (lzmaDecompress_sim rd opts rfl).ok h, fun h => (lzma2Decompress_sim rd rfl).ok h,
   fun h => (xzDecompress_sim rd rfl).ok h⟩

/-! ## a failure of the fault-free run is a failure of the faulty run -/

/-- `lzma_decompress`: if the fault-free run on `x` fails (truncated or corrupt data, sink fault, …) the
faulty run fails too — possibly with another error class (`.io`, or `.lzma` /
`.headerTooShort` where the Rust code remaps the I/O error) and possibly earlier: what it has
delivered is a prefix of what the fault-free run delivered. -/
theorem lzma_fault_propagates_partial (x : Bytes) (opts : Options) (snk sg : Sink) (e : Err)
    (h : lzmaDecompress { rem := x, bad := false } opts snk = (sg, .error e)) :
    ∃ sb e', lzmaDecompress { rem := x, bad := true } opts snk = (sb, .error e') ∧
      ∃ t : Array UInt8, sg.out = sb.out ++ t :=
  (lzmaDecompress_sim (b := true) { rem := x, bad := true } opts rfl).error_of_error h

/-- the same for `lzma2_decompress` -/
theorem lzma2_fault_propagates_partial (x : Bytes) (snk sg : Sink) (e : Err)
    (h : lzma2Decompress { rem := x, bad := false } snk = (sg, .error e)) :
    ∃ sb e', lzma2Decompress { rem := x, bad := true } snk = (sb, .error e') ∧
      ∃ t : Array UInt8, sg.out = sb.out ++ t :=
  (lzma2Decompress_sim (b := true) { rem := x, bad := true } rfl).error_of_error h

/-- the same for `xz_decompress` -/
theorem xz_fault_propagates_partial (x : Bytes) (snk sg : Sink) (e : Err)
    (h : xzDecompress { rem := x, bad := false } snk = (sg, .error e)) :
    ∃ sb e', xzDecompress { rem := x, bad := true } snk = (sb, .error e') ∧
      ∃ t : Array UInt8, sg.out = sb.out ++ t :=
  (xzDecompress_sim (b := true) { rem := x, bad := true } rfl).error_of_error h

/-- Whatever the faulty run does, it never delivers anything the fault-free run does not: on
success the sinks are equal (`fault_never_helps`), on failure the delivered bytes are a prefix of those of
the fault-free run — whether that one fails or succeeds. -/
theorem fault_delivers_prefix (x : Bytes) (opts : Options) (snk : Sink) :
    (∃ t : Array UInt8, (lzmaDecompress { rem := x, bad := false } opts snk).1.out
        = (lzmaDecompress { rem := x, bad := true } opts snk).1.out ++ t) ∧
    (∃ t : Array UInt8, (lzma2Decompress { rem := x, bad := false } snk).1.out
        = (lzma2Decompress { rem := x, bad := true } snk).1.out ++ t) ∧
    (∃ t : Array UInt8, (xzDecompress { rem := x, bad := false } snk).1.out
        = (xzDecompress { rem := x, bad := true } snk).1.out ++ t) :=
  ⟨(lzmaDecompress_sim (b := true) { rem := x, bad := true } opts rfl).out_prefix snk,
    (lzma2Decompress_sim (b := true) { rem := x, bad := true } rfl).out_prefix snk,
    (xzDecompress_sim (b := true) { rem := x, bad := true } rfl).out_prefix snk⟩

/-- is the result an error? -/
def isErr {α : Type} : Except Err α → Bool
  | .error _ => true
  | .ok _ => false

/-- a 2-byte `.lzma` stream (`lc = lp = pb = 0`, liblzma output for `"ab"`, size field all-ones,
end marker) -/
def lzmaAbMarker : Bytes :=
  [0, 0, 16, 0, 0, 255, 255, 255, 255, 255, 255, 255, 255, 0, 48, 153, 197, 104, 43, 235, 255,
   237, 244, 128, 0]

/-- Why only a prefix: "the faulty run fails with the same delivered bytes" is false: on the
complete stream `lzmaAbMarker` with a sink that takes one byte and then fails, the fault-free run
reaches `finish`, delivers `"a"` and reports the sink's I/O error, while the faulty run already
failed at the `is_eof` probe behind the end marker, before anything was written. -/
theorem fault_out_may_be_shorter :
    isErr (lzmaDecompress { rem := lzmaAbMarker, bad := false } {} { script := [.upto 1, .fail] }).2 = true ∧
    (lzmaDecompress { rem := lzmaAbMarker, bad := false } {} { script := [.upto 1, .fail] }).1.out = #[97] ∧
    isErr (lzmaDecompress { rem := lzmaAbMarker, bad := true } {} { script := [.upto 1, .fail] }).2 = true ∧
    (lzmaDecompress { rem := lzmaAbMarker, bad := true } {} { script := [.upto 1, .fail] }).1.out = #[] := by
  decide +kernel

/-! ## decoders that probe for the end of input never succeed on a faulty source -/

/-- XZ: `decode_stream` ends with `is_eof`; with data left that is "trailing data"
(`C11.xz_rejects_trailing`), with no data left it is the I/O error of the faulty source. -/
theorem xz_eof_probe_faults (x : Bytes) (snk snk' : Sink) (rd' : Rd) :
    xzDecompress { rem := x, bad := true } snk ≠ (snk', .ok rd') := fun h =>
  Bool.noConfusion (xzDecompress_no_fault h).1

/-- LZMA with no unpacked size in effect (the header's size field is all-ones with
`ReadFromHeader`, or `None` is provided): both exits of `process_mode(Finish)` — end marker, or
`code = 0` at the end of input — go through `is_finished_ok`, i.e. `is_eof`. -/
theorem lzma_eof_probe_faults (x : Bytes) (opts : Options) (snk snk' : Sink) (rd' : Rd)
    (hopts : (opts.unpackedSize = .readFromHeader ∧
                leVal ((x.drop 5).take 8) = 0xFFFFFFFFFFFFFFFF) ∨
             opts.unpackedSize = .readHeaderButUseProvided none ∨
             opts.unpackedSize = .useProvided none) :
    lzmaDecompress { rem := x, bad := true } opts snk ≠ (snk', .ok rd') := by
  intro h
  have h1 := ((lzmaDecompress_sim (b := true) { rem := x, bad := true } opts rfl).ok h).2
  have h2 : rd'.bad = false := by
    refine (lzmaDecompress_no_size_eof ?_ h).2
    intro params rd1 hh
    rw [readHeader_unpackedSize hh]
    rcases hopts with ⟨h1, h2⟩ | h1 | h1
    · rw [h1]; simp only [h2, if_true]
    · rw [h1]
    · rw [h1]
  simp only [fl_rd] at h1
  rw [h1] at h2
  cases h2

/-- `xz_decompress`, positive form: a success was a run on a fault-free source, read to its end -/
theorem success_means_no_fault (rd rd' : Rd) (snk snk' : Sink)
    (h : xzDecompress rd snk = (snk', .ok rd')) : rd.bad = false ∧ rd'.rem = [] :=
  xzDecompress_no_fault h

/-! ## non-vacuity -/

/-- `"ab"` with the size `2` in the header (the stream is not read to its end) -/
def lzmaAbSized : Bytes :=
  [0, 0, 16, 0, 0, 2, 0, 0, 0, 0, 0, 0, 0, 0, 48, 153, 197, 104, 43, 235, 255, 237, 244, 128, 0]

/-- an `.xz` file (CRC32 check, liblzma output for `"abc"`) -/
def xzAbcFile : Bytes :=
  [253, 55, 122, 88, 90, 0, 0, 1, 105, 34, 222, 54, 2, 0, 33, 1, 22, 0, 0, 0, 116, 47, 229, 163,
   1, 0, 2, 97, 98, 99, 0, 0, 194, 65, 36, 53, 0, 1, 23, 3, 7, 96, 12, 188, 144, 66, 153, 13,
   1, 0, 0, 0, 0, 1, 89, 90]

/-- the hypothesis of `*_fault_never_helps` is met: LZMA with a size in effect and LZMA2 stop
without probing the end, so they succeed on a faulty source (here even with unread input) -/
example :
    isErr (lzmaDecompress { rem := lzmaAbSized, bad := true } {} {}).2 = false ∧
    (lzmaDecompress { rem := lzmaAbSized, bad := true } {} {}).1.out = #[97, 98] ∧
    isErr (lzma2Decompress { rem := [1, 0, 2, 7, 8, 9, 0], bad := true } {}).2 = false ∧
    (lzma2Decompress { rem := [1, 0, 2, 7, 8, 9, 0], bad := true } {}).1.out = #[7, 8, 9] := by
  decide +kernel

/-- the hypothesis of `*_fault_propagates_partial` is met by truncated inputs; the faulty runs
fail as well (here: `Io` instead of `Eof` for LZMA and XZ, `LzmaError` both times for LZMA2) -/
example :
    isErr (lzmaDecompress { rem := lzmaAbMarker.take 20, bad := false } {} {}).2 = true ∧
    isErr (lzmaDecompress { rem := lzmaAbMarker.take 20, bad := true } {} {}).2 = true ∧
    isErr (lzma2Decompress { rem := [1, 0, 2, 7, 8], bad := false } {}).2 = true ∧
    isErr (lzma2Decompress { rem := [1, 0, 2, 7, 8], bad := true } {}).2 = true ∧
    isErr (xzDecompress { rem := xzAbcFile.take 40, bad := false } {}).2 = true ∧
    isErr (xzDecompress { rem := xzAbcFile.take 40, bad := true } {}).2 = true := by
  decide +kernel

/-- `*_eof_probe_faults` on complete, valid files: the fault-free source succeeds, the faulty
source fails at the final probe — after all data were delivered -/
example :
    isErr (xzDecompress { rem := xzAbcFile, bad := false } {}).2 = false ∧
    isErr (xzDecompress { rem := xzAbcFile, bad := true } {}).2 = true ∧
    (xzDecompress { rem := xzAbcFile, bad := true } {}).1.out = #[97, 98, 99] ∧
    isErr (lzmaDecompress { rem := lzmaAbMarker, bad := false } {} {}).2 = false ∧
    isErr (lzmaDecompress { rem := lzmaAbMarker, bad := true } {} {}).2 = true := by
  decide +kernel

example : ({} : Options).unpackedSize = .readFromHeader ∧
    leVal ((lzmaAbMarker.drop 5).take 8) = 0xFFFFFFFFFFFFFFFF := by decide

end Lzma.C12
