/-
  C10 — the memory limit in effect for a raw decoder built in two steps
  (`LzmaParams::read_header(&options)` then `LzmaDecoder::new(params, memlimit)`) is the one given to
  `new`: the parsed parameters do not depend on the limit (or on `allow_incomplete`) the header was
  parsed under.
-/
import LzmaModel.Lzma
namespace Lzma.C10

/-- `read_header` looks at `options.unpacked_size` only. -/
theorem readHeader_ignores_memlimit (rd : Rd) (opts : Options) (m : Option Nat) (ai : Bool) :
    readHeader rd { opts with memlimit := m, allowIncomplete := ai } = readHeader rd opts := rfl

/-- Hence the decoder object built in two steps is the same whatever limit the header was parsed
under; only the limit passed to `LzmaDecoder.new` is stored. -/
theorem two_step_decoder_limit (rd : Rd) (opts : Options) (m m' : Option Nat) :
    ((readHeader rd { opts with memlimit := m' }).bind fun p => LzmaDecoder.new p.1 m) =
    ((readHeader rd opts).bind fun p => LzmaDecoder.new p.1 m) := by
  rw [show ({ opts with memlimit := m' } : Options) = { opts with memlimit := m', allowIncomplete := opts.allowIncomplete } from rfl,
    readHeader_ignores_memlimit]

/-- non-vacuity: a 13-byte header parsed under limit 0 gives a decoder with the limit passed to `new` -/
example : ∃ d, ((readHeader (Rd.ofBytes [0x5d, 0, 0x10, 0, 0, 0xff, 0xff, 0xff, 0xff, 0xff, 0xff, 0xff, 0xff])
      { memlimit := some 0 }).bind fun p => LzmaDecoder.new p.1 (some 77)) = .ok d ∧ d.memlimit = 77 := by
  refine ⟨_, rfl, rfl⟩

end Lzma.C10
