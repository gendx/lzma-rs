/-
  C18 — unsupported XZ features are refused explicitly: SHA-256 or an unassigned check id,
  reserved stream-flag bits, a filter other than LZMA2, reserved block-flag bits, a second
  stream / stream padding / any trailing data.  Such a file is rejected with an error; it is never
  partly decoded and reported as success.

  Model: `LzmaModel/Xz.lean`; lemmas and the container grammar: `LzmaProofs/Lemmas/XzInv.lean`.
-/
import LzmaProofs.Lemmas.XzInv
namespace Lzma.C18
open Lzma

/-! ### Check method and stream flags -/

/-- Success implies: the file starts with the magic, and its two stream-flag bytes are `[0, id]`
with `id ∈ {0x00 (none), 0x01 (CRC32), 0x04 (CRC64)}`.  (Any sink.) -/
theorem refuses_unsupported_check (x : Bytes) (s s' : Sink) (rd' : Rd)
    (h : xzDecompress (Rd.ofBytes x) s = (s', .ok rd')) :
    x.take 6 = XZ_MAGIC ∧
    ∃ id : UInt8, (id = 0x00 ∨ id = 0x01 ∨ id = 0x04) ∧ streamFlags x = [0, id] := by
  obtain ⟨check, r1, -, -, hh, hsha, -, -⟩ := xzDecompress_ok_iff.1 h
  obtain ⟨p1, -⟩ := parseStreamHeader_ok_iff.1 hh
  have hx : (Rd.ofBytes x).rem = x := rfl
  rw [hx] at p1
  refine ⟨by rw [p1]; simp [XZ_MAGIC], UInt8.ofNat check.id, ?_, streamFlags_of_header p1⟩
  cases check <;> simp_all [CheckMethod.id]

/-- Contrapositive, with the sink: if the stream flags are anything else — first byte non-zero
(reserved bits), check id 0x0A (SHA-256), any unassigned id, or missing — the result is an error and
the sink is untouched.  (Any sink, any script; no assumption on the rest of the file.) -/
theorem refuses_unsupported_check_error (x : Bytes) (s : Sink)
    (hbad : ¬ ∃ id : UInt8, (id = 0x00 ∨ id = 0x01 ∨ id = 0x04) ∧ streamFlags x = [0, id]) :
    ∃ e, xzDecompress (Rd.ofBytes x) s = (s, .error e) :=
  xzDecompress_bad_flags x s hbad

/-- every file `magic ++ [f0, f1] ++ rest` with `f0 ≠ 0` or `f1 ∉ {0, 1, 4}` is refused
(this covers SHA-256 = 0x0A, the twelve unassigned ids, and all reserved bits) -/
theorem refuses_flag_bytes (f0 f1 : UInt8) (rest : Bytes) (s : Sink)
    (hbad : f0 ≠ 0 ∨ (f1 ≠ 0x00 ∧ f1 ≠ 0x01 ∧ f1 ≠ 0x04)) :
    ∃ e, xzDecompress (Rd.ofBytes (XZ_MAGIC ++ [f0, f1] ++ rest)) s = (s, .error e) := by
  apply xzDecompress_bad_flags
  rintro ⟨id, hid, hf⟩
  have : streamFlags (XZ_MAGIC ++ [f0, f1] ++ rest) = [f0, f1] := by
    simp [streamFlags, XZ_MAGIC]
  rw [this] at hf
  simp only [List.cons.injEq, and_true] at hf
  obtain ⟨rfl, rfl⟩ := hf
  rcases hbad with h | ⟨h0, h1, h4⟩
  · exact h rfl
  · rcases hid with rfl | rfl | rfl <;> contradiction

/-- SHA-256 in particular -/
theorem refuses_sha256 (rest : Bytes) (s : Sink) :
    ∃ e, xzDecompress (Rd.ofBytes (XZ_MAGIC ++ [0x00, 0x0A] ++ rest)) s = (s, .error e) :=
  refuses_flag_bytes 0x00 0x0A rest s (.inr (by decide))

/-! ### Filters and block flags -/

/-- Success implies: in every block header the reserved flag bits are zero, the number of filters
is `(flags & 3) + 1`, and every filter entry has id 0x21 (LZMA2) and exactly one property byte.
(`MbInt enc v`: `enc` is a multibyte-integer encoding, of at most 9 bytes, of `v`; the value of an
encoding is unique: `MbEnc.unique`.) -/
theorem refuses_other_filters (x : Bytes) (s s' : Sink) (rd' : Rd)
    (h : xzDecompress (Rd.ofBytes x) s = (s', .ok rd')) :
    ∃ f : XzFile, x = f.bytes ∧ ∀ b ∈ f.blocks,
      b.flags.toNat &&& 0x3C = 0 ∧
      b.filters.length = (b.flags.toNat &&& 0x03) + 1 ∧
      ∀ fl ∈ b.filters, MbInt fl.idEnc 0x21 ∧ fl.props.length = 1 ∧
        ∀ id, MbEnc fl.idEnc id → id = 0x21 := by
  obtain ⟨f, hv, hx, -⟩ := xzDecompress_ok h
  refine ⟨f, hx, fun b hb => ?_⟩
  obtain ⟨rest, hbv⟩ := BlocksValid.of_mem hv.blocks_valid b hb
  refine ⟨hbv.reserved, hbv.nfilters, fun fl hfl => ?_⟩
  obtain ⟨h1, -, h3⟩ := hbv.filters_ok fl hfl
  exact ⟨h1, h3, fun id hid => MbEnc.unique hid h1.1⟩

/-- At the point of decision: a filter entry whose id field holds any value other than 0x21
makes `read_block_header`'s filter loop fail with the format error -/
theorem refuses_filter_id {n hs : Nat} {acc : List Filter} {rd r : Rd} {id : Nat} {bs : Bytes}
    (h : getMultibyte rd = .ok (id, bs, r)) (hid : id ≠ 0x21) :
    readFilters (n + 1) hs acc rd = .error .xz :=
  readFilters_rejects_id h hid

/-- reserved bits in the block flags make `read_block_header` fail with the format error -/
theorem refuses_reserved_block_flags {rd r : Rd} {hs : Nat} {flags : UInt8}
    (h : rd.readU8 = .ok (flags, r)) (hres : flags.toNat &&& 0x3C ≠ 0) :
    readBlockHeader rd hs = .error .xz :=
  readBlockHeader_rejects_reserved h hres

/-! ### Trailing data: second stream, stream padding -/

/-- Success implies the reader is at end of input right after the footer magic. (Any sink.) -/
theorem refuses_trailing (x : Bytes) (s s' : Sink) (rd' : Rd)
    (h : xzDecompress (Rd.ofBytes x) s = (s', .ok rd')) : rd'.rem = [] :=
  (xzDecompress_post _ h).1

/-- Prefix determinism: if `x` is accepted then `x ++ t` is rejected for every non-empty `t` —
whatever `t` is (a second stream, stream padding, garbage).  The error is the format error, raised
after the first stream has been decoded (the sink `s'` is the one of the successful run).
(Any sink.) -/
theorem refuses_trailing_data (x t : Bytes) (s s' : Sink) (rd' : Rd) (ht : t ≠ [])
    (h : xzDecompress (Rd.ofBytes x) s = (s', .ok rd')) :
    xzDecompress (Rd.ofBytes (x ++ t)) s = (s', .error .xz) :=
  xzDecompress_trailing ht h

/-- two concatenated streams are rejected -/
theorem refuses_second_stream (x y : Bytes) (s s' t t' : Sink) (rd' rd'' : Rd)
    (hx : xzDecompress (Rd.ofBytes x) s = (s', .ok rd'))
    (hy : xzDecompress (Rd.ofBytes y) t = (t', .ok rd'')) :
    xzDecompress (Rd.ofBytes (x ++ y)) s = (s', .error .xz) := by
  apply xzDecompress_trailing _ hx
  rintro rfl
  obtain ⟨c, r1, -, -, hh, -⟩ := xzDecompress_ok_iff.1 hy
  obtain ⟨p1, -⟩ := parseStreamHeader_ok_iff.1 hh
  have := congrArg List.length p1
  simp [Rd.ofBytes, XZ_MAGIC] at this

/-- stream padding after a complete stream is rejected -/
theorem refuses_stream_padding (x : Bytes) (n : Nat) (s s' : Sink) (rd' : Rd) (hn : 0 < n)
    (hx : xzDecompress (Rd.ofBytes x) s = (s', .ok rd')) :
    xzDecompress (Rd.ofBytes (x ++ List.replicate n 0)) s = (s', .error .xz) := by
  apply xzDecompress_trailing _ hx
  intro h
  have := congrArg List.length h
  simp at this
  omega

/-! ### Never partly decoded and reported as success -/

/-- Whenever success is reported (any sink), the input is a complete single-stream file using
only supported features, all of it has been consumed, every integrity check holds
(`XzFile.Valid`), and the sink received the whole content — nothing less. -/
theorem never_partly_decoded_as_success (x : Bytes) (s s' : Sink) (rd' : Rd)
    (h : xzDecompress (Rd.ofBytes x) s = (s', .ok rd')) :
    ∃ f : XzFile, f.Valid ∧ x = f.bytes ∧ rd'.rem = [] ∧
      (f.check = .none ∨ f.check = .crc32 ∨ f.check = .crc64) ∧
      (∀ b ∈ f.blocks, b.flags.toNat &&& 0x3C = 0 ∧
        ∀ fl ∈ b.filters, MbInt fl.idEnc 0x21 ∧ fl.props.length = 1) ∧
      s'.out = s.out ++ f.out.toArray := by
  obtain ⟨f, hv, hx, hr, -, ho⟩ := xzDecompress_ok h
  refine ⟨f, hv, hx, hr, hv.check_supported, fun b hb => ?_, ho⟩
  obtain ⟨rest, hbv⟩ := BlocksValid.of_mem hv.blocks_valid b hb
  exact ⟨hbv.reserved, fun fl hfl => ⟨(hbv.filters_ok fl hfl).1, (hbv.filters_ok fl hfl).2.2⟩⟩

/-- The error side (perfect sink): when an error is reported, either nothing at all was written
(the stream header was refused: `s' = s`), or the stream header is valid with a supported check and
the sink holds exactly the contents of a prefix `blocks` of the file's blocks, every one of them
completely validated (`BlocksValid`: header CRC, sizes, padding, check field …) before the point
of failure.  No byte of a block that failed validation ever reaches the sink. -/
theorem error_leaves_validated_prefix (x : Bytes) (s s' : Sink) (e : Err) (hs : s.script = [])
    (h : xzDecompress (Rd.ofBytes x) s = (s', .error e)) :
    s' = s ∨ ∃ (check : CheckMethod) (blocks : List XzBlock) (tail : Bytes),
      x = XZ_MAGIC ++ [0, UInt8.ofNat check.id] ++ leBytes 4 (crc32 [0, UInt8.ofNat check.id]) ++
        blocks.flatMap (·.bytes) ++ tail ∧
      (check = .none ∨ check = .crc32 ∨ check = .crc64) ∧
      BlocksValid check blocks tail ∧
      s'.out = s.out ++ (blocks.flatMap (·.out)).toArray :=
  xzDecompress_error hs h

/-! ### Non-vacuity and concrete refusals (evaluated by the kernel) -/

/-- `xz -C crc64` of `"hello"` -/
def helloCrc64 : Bytes :=
  [0xfd, 0x37, 0x7a, 0x58, 0x5a, 0x00, 0x00, 0x04, 0xe6, 0xd6, 0xb4, 0x46, 0x02, 0x00, 0x21, 0x01,
   0x16, 0x00, 0x00, 0x00, 0x74, 0x2f, 0xe5, 0xa3, 0x01, 0x00, 0x04, 0x68, 0x65, 0x6c, 0x6c, 0x6f,
   0x00, 0x00, 0x00, 0x00, 0xb1, 0x37, 0xb9, 0xdb, 0xe5, 0xda, 0x1e, 0x9b, 0x00, 0x01, 0x1d, 0x05,
   0xb8, 0x2d, 0x80, 0xaf, 0x1f, 0xb6, 0xf3, 0x7d, 0x01, 0x00, 0x00, 0x00, 0x00, 0x04, 0x59, 0x5a]

/-- `xz -C sha256` of `"hello"` -/
def helloSha256 : Bytes :=
  [0xfd, 0x37, 0x7a, 0x58, 0x5a, 0x00, 0x00, 0x0a, 0xe1, 0xfb, 0x0c, 0xa1, 0x02, 0x00, 0x21, 0x01,
   0x16, 0x00, 0x00, 0x00, 0x74, 0x2f, 0xe5, 0xa3, 0x01, 0x00, 0x04, 0x68, 0x65, 0x6c, 0x6c, 0x6f,
   0x00, 0x00, 0x00, 0x00, 0x2c, 0xf2, 0x4d, 0xba, 0x5f, 0xb0, 0xa3, 0x0e, 0x26, 0xe8, 0x3b, 0x2a,
   0xc5, 0xb9, 0xe2, 0x9e, 0x1b, 0x16, 0x1e, 0x5c, 0x1f, 0xa7, 0x42, 0x5e, 0x73, 0x04, 0x33, 0x62,
   0x93, 0x8b, 0x98, 0x24, 0x00, 0x01, 0x35, 0x05, 0x12, 0x83, 0xdd, 0xf2, 0x18, 0x9b, 0x4b, 0x9a,
   0x01, 0x00, 0x00, 0x00, 0x00, 0x0a, 0x59, 0x5a]

/-- `xz --delta=dist=1 --lzma2` of `"hello"` (filter chain delta + LZMA2) -/
def helloDelta : Bytes :=
  [0xfd, 0x37, 0x7a, 0x58, 0x5a, 0x00, 0x00, 0x01, 0x69, 0x22, 0xde, 0x36, 0x02, 0x01, 0x03, 0x01,
   0x00, 0x21, 0x01, 0x0c, 0x03, 0xd9, 0xa6, 0x13, 0x01, 0x00, 0x04, 0x68, 0xfd, 0x07, 0x00, 0x03,
   0x00, 0x00, 0x00, 0x00, 0x86, 0xa6, 0x10, 0x36, 0x00, 0x01, 0x19, 0x05, 0xbc, 0xe8, 0xec, 0xcb,
   0x90, 0x42, 0x99, 0x0d, 0x01, 0x00, 0x00, 0x00, 0x00, 0x01, 0x59, 0x5a]

def isOk (r : Sink × Except Err Rd) : Bool := match r with | (_, .ok _) => true | _ => false
def isXzErrorWithOut (out : Bytes) (r : Sink × Except Err Rd) : Bool :=
  match r with | (s, .error .xz) => s.out.toList == out | _ => false

theorem isOk_elim {r : Sink × Except Err Rd} (h : isOk r = true) : ∃ s' rd', r = (s', .ok rd') := by
  obtain ⟨s, e | a⟩ := r
  · simp [isOk] at h
  · exact ⟨s, a, rfl⟩

/-- the hypotheses are satisfiable: the CRC64 file is accepted -/
example : ∃ s' rd', xzDecompress (Rd.ofBytes helloCrc64) {} = (s', .ok rd') :=
  isOk_elim (by decide +kernel)

/-- the same content with SHA-256 is refused, nothing written -/
example : isXzErrorWithOut [] (xzDecompress (Rd.ofBytes helloSha256) {}) = true := by
  decide +kernel

/-- the refusal of the SHA-256 file as an instance of `refuses_unsupported_check_error` -/
example : ∃ e, xzDecompress (Rd.ofBytes helloSha256) {} = ({}, .error e) :=
  refuses_unsupported_check_error helloSha256 {} (by
    rintro ⟨id, hid, hf⟩
    have : streamFlags helloSha256 = [0x00, 0x0A] := by decide
    rw [this] at hf
    simp only [List.cons.injEq, and_true] at hf
    obtain ⟨-, rfl⟩ := hf
    revert hid; decide)

/-- a delta + LZMA2 filter chain is refused, nothing written -/
example : isXzErrorWithOut [] (xzDecompress (Rd.ofBytes helloDelta) {}) = true := by
  decide +kernel

/-- two streams / stream padding: refused after the first stream's content was written -/
example : isXzErrorWithOut [0x68, 0x65, 0x6c, 0x6c, 0x6f]
    (xzDecompress (Rd.ofBytes (helloCrc64 ++ helloCrc64)) {}) = true := by
  decide +kernel

example : isXzErrorWithOut [0x68, 0x65, 0x6c, 0x6c, 0x6f]
    (xzDecompress (Rd.ofBytes (helloCrc64 ++ [0, 0, 0, 0])) {}) = true := by
  decide +kernel

/-- the same two facts as instances of the theorems -/
example : ∃ s', xzDecompress (Rd.ofBytes (helloCrc64 ++ helloCrc64)) {} = (s', .error .xz) ∧
    xzDecompress (Rd.ofBytes (helloCrc64 ++ List.replicate 4 0)) {} = (s', .error .xz) := by
  obtain ⟨s', rd', h⟩ := isOk_elim (r := xzDecompress (Rd.ofBytes helloCrc64) {}) (by decide +kernel)
  exact ⟨s', refuses_second_stream _ _ _ _ _ _ _ _ h h,
    refuses_stream_padding _ 4 _ _ _ (by decide) h⟩

end Lzma.C18
