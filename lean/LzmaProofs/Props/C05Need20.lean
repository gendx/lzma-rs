/-
  C05 — `MAX_REQUIRED_INPUT = 20` (`decode/lzma.rs`): decoding one symbol
  never consumes more than 20 input bytes; hence with at least 20 bytes
  available the range decoder never fails with end-of-input while decoding a
  symbol.

  Proof (`Lemmas/Need20.lean`, `Lemmas/Need20Sym.lean`): with probabilities in
  `[31, 2017]` a probability bit shrinks `range` by at most `31 * 8191 / 2^24`,
  a direct bit by at most `(2^24 - 1) / 2^25`, a consumed byte multiplies it by
  exactly 256, and `2^24 ≤ range < 2^32` between bits.  Every path of the
  symbol tree has at most 22 probability and 26 direct bits, or at most 23
  probability bits and no direct bit (which shrinks the range less), so `n` consumed bytes
  satisfy `256^n * 2^24 * 253921^22 * (2^24-1)^26 < 2^32 * 2^(24*22 + 25*26)`,
  which is false for `n = 21` — and true for `n = 20`: the margin is < 1 bit.
-/
import LzmaProofs.Lemmas.Need20Sym
namespace Lzma.C05
open Lzma Lzma.Safety Lzma.Need20

/-- No symbol needs more than 20 bytes.  For every decoder context whose
window reads do not themselves report end-of-data (`CtxNoEnd`; true of every
context the decoders build: `mkCtx_noEnd_circ`, `mkCtx_noEnd_accum`), every
probability table with values in `[31, 2017]` (no index validity needed),
every range-decoder state between two symbols, real run and dry run alike:

* with at least 20 bytes in the reader, decoding one symbol does not fail with
  the reader's end-of-data error (`.eof`, or `.io` for a faulty reader);
* a successfully decoded symbol consumed at most 20 bytes (whatever the length
  of the reader), and the invariants hold again. -/
theorem symbol_needs_at_most_20 (u : Bool) (c : Ctx) (hc : CtxNoEnd c) (p : Probs)
    (hp : ProbsInv p) (rc : RC) (hrc : RCInv rc) (rd : Rd) :
    (20 ≤ rd.rem.length → runDec u (symTree c) p rc rd ≠ .error rd.endErr) ∧
    (20 ≤ rd.rem.length → rd.bad = false → runDec u (symTree c) p rc rd ≠ .error .eof) ∧
    (∀ x p' rc' rd', runDec u (symTree c) p rc rd = .ok (x, p', rc', rd') →
      ProbsInv p' ∧ RCInv rc' ∧ rd'.bad = rd.bad ∧
        ∃ n, rd'.rem.length + n = rd.rem.length ∧ n ≤ 20) := by
  have h := runDec_bytes_le probs_storeOk u (symTree_pathBound hc) symP_dom need20_num hp hrc
    (rd := rd)
  refine ⟨h.1, ?_, fun x p' rc' rd' he => (h.2 x p' rc' rd' he).2⟩
  intro hlen hbad
  have := h.1 hlen
  simpa [Rd.endErr, hbad] using this

/-- the form used by the streaming decoder: the dry run on a 20-byte (or longer)
buffer fails only for reasons other than running out of input -/
theorem tryProcessNext_full_buffer {ω : Type} [LzBuf ω] (s : DState) (w : ω) (buf : Bytes)
    (rc : RC) (hc : CtxNoEnd (s.mkCtx w)) (hp : ProbsInv s.probs) (hrc : RCInv rc)
    (hlen : DState.MAX_REQUIRED_INPUT ≤ buf.length) :
    runDec false (symTree (s.mkCtx w)) s.probs rc (Rd.ofBytes buf) ≠ .error .eof :=
  (symbol_needs_at_most_20 false _ hc _ hp rc hrc (Rd.ofBytes buf)).2.1 hlen rfl

/-- The margin is real: the counting argument does not give 19 — the closed
inequality that excludes 21 bytes does not exclude 20. -/
theorem need20_tight :
    2 ^ 32 * 2 ^ (24 * 22 + 25 * 26) ≤ 256 ^ 21 * 2 ^ 24 * (253921 ^ 22 * (2 ^ 24 - 1) ^ 26) ∧
    ¬ 2 ^ 32 * 2 ^ (24 * 22 + 25 * 26) ≤ 256 ^ 20 * 2 ^ 24 * (253921 ^ 22 * (2 ^ 24 - 1) ^ 26) := by
  constructor <;> decide +kernel

/-- the bound "22 probability bits" of the informal argument is not literally
true of the tree (a `pos_slot` of 12 has 23 and no direct bit) -/
theorem symTree_has_23_bit_path (c : Ctx) : ¬ BitBound (fun _ => True) 22 26 (symTree c) :=
  symTree_not_bitBound_22 c _ 26

/-! ### non-vacuity -/

/-- a concrete context, fresh tables, the initial range-decoder state and a
20-byte reader meet all hypotheses -/
example :
    CtxNoEnd { state := 0, posState := 0, litRow := .ok 0, matchByte := .ok 0 } ∧
      ProbsInv (Probs.init 8) ∧ RCInv ⟨0xFFFFFFFF, 0⟩ ∧
      20 ≤ (Rd.ofBytes (List.replicate 20 0)).rem.length ∧
      (Rd.ofBytes (List.replicate 20 0)).bad = false :=
  ⟨⟨fun e h => (by cases h), fun e h => (by cases h)⟩, ProbsInv_init 8,
    (by unfold RCInv; decide), (by decide), rfl⟩

/-- … and the run on that instance really succeeds (a literal, one byte consumed) -/
example :
    (match runDec true (symTree { state := 0, posState := 0, litRow := .ok 0, matchByte := .ok 0 })
        (Probs.init 8) ⟨0xFFFFFFFF, 0⟩ (Rd.ofBytes (List.replicate 20 0)) with
      | .ok (x, _, _, rd) => x == .lit 0 && rd.rem.length == 19
      | .error _ => false) = true := by decide +kernel

/-- the contexts of the real decoders meet `CtxNoEnd` -/
example (s : DState) (w : Circ) : CtxNoEnd (s.mkCtx w) := mkCtx_noEnd_circ s w
example (s : DState) (w : Accum) : CtxNoEnd (s.mkCtx w) := mkCtx_noEnd_accum s w

end Lzma.C05
