/-
  C13 — results do not depend on how the input reader fragments its data.

  `FRd` (LzmaModel/FReader.lean) is a `BufRead` that exposes its data in arbitrary
  non-empty pieces; its primitives are written from the std semantics of
  `fill_buf`/`consume`/`read`/`read_exact`/byteorder/`io::Take` and from
  `decode/util.rs`.  Every primitive the decoders use returns, on ANY fragmentation
  of the same bytes, the value the flat model reader `Rd` returns, and leaves the
  same logical remainder (`fr'.toRd = rd'`, hence the same number of bytes consumed) — with two
  exceptions stated below: a raw `read` may be short (`read_corr`), and `flush_zero_padding`
  answering `false` may have consumed leading zero pieces (`flushZeroPadding_corr`).  The proofs
  are the `*_sim` lemmas of `Lemmas/FReader.lean`; the range decoder goes through
  `ByteSrcRel` / `…G_rel` there, the whole decoders are in `Props/C13Dec.lean`.

  What ties "the decoders use only these primitives" to the Rust source is the static
  call-site audit and the differential tests, not a proof.
-/
import LzmaProofs.Lemmas.FDecoders
namespace Lzma.C13
open Lzma FRd

/-! ## What "corresponds" means -/

/-- `x` (computed on a fragmented reader) and `y` (computed on the flat reader)
correspond: each success is matched by a success with the SAME value and the same
logical remainder (`fr'.toRd = rd'`, the fragmented remainder again without empty
piece); errors are identical (same class: `.eof` / `.io` / …). -/
def Corr (x : Except Err (α × FRd)) (y : Except Err (α × Rd)) : Prop :=
  (∀ v fr', x = .ok (v, fr') → fr'.WF ∧ y = .ok (v, fr'.toRd)) ∧
  (∀ v rd', y = .ok (v, rd') → ∃ fr', x = .ok (v, fr') ∧ fr'.WF ∧ fr'.toRd = rd') ∧
  (∀ e, x = .error e ↔ y = .error e)

/-- `Corr` is exactly the relation `RelE SimV` the lemmas are proved for -/
theorem corr_iff {x : Except Err (α × FRd)} {y : Except Err (α × Rd)} :
    Corr x y ↔ RelE SimV x y := by
  constructor
  · rintro ⟨h1, _, h3⟩
    rcases x with e | ⟨v, fr'⟩
    · rw [(h3 e).1 rfl]; rfl
    · obtain ⟨hw, hy⟩ := h1 v fr' rfl
      rw [hy]; exact ⟨rfl, hw, rfl⟩
  · intro h
    refine h.elim (fun _ => ⟨nofun, nofun, fun _ => by simp⟩) ?_
    rintro ⟨v, fr'⟩ ⟨_, _⟩ ⟨⟨⟩, hw, ⟨⟩⟩
    exact ⟨fun _ _ hx => by cases hx; exact ⟨hw, rfl⟩,
      fun _ _ hy => by cases hy; exact ⟨fr', rfl, hw, rfl⟩, fun _ => ⟨nofun, nofun⟩⟩

/-- corresponding successes return the same value and leave the same number of bytes -/
theorem Corr.consumed_eq {x : Except Err (α × FRd)} {y : Except Err (α × Rd)} (h : Corr x y)
    {v w fr' rd'} (hx : x = .ok (v, fr')) (hy : y = .ok (w, rd')) :
    v = w ∧ fr'.join.length = rd'.rem.length := by
  obtain ⟨_, hy'⟩ := h.1 v fr' hx
  rw [hy] at hy'
  cases hy'
  exact ⟨rfl, rfl⟩

/-- two fragmentations whose results correspond to the same flat result agree with
each other: same value, same logical remainder, same error -/
theorem Corr.independent {x x' : Except Err (α × FRd)} {y : Except Err (α × Rd)}
    (h : Corr x y) (h' : Corr x' y) :
    RelE (fun a b => a.1 = b.1 ∧ a.2.toRd = b.2.toRd) x x' := by
  refine RelE.join (corr_iff.1 h) (corr_iff.1 h') ?_
  rintro a b c ⟨a1, _, a2⟩ ⟨b1, _, b2⟩
  exact ⟨a1.trans b1.symm, a2.trans b2.symm⟩

/-- C13, the primitives.  For every reader `fr` without empty piece (any pieces,
any end kind `bad`), each primitive behaves on `fr` as on the flat reader `fr.toRd`:
`fill_buf` (fails iff the flat one fails; exposes a prefix of the remaining bytes,
empty exactly at EOF), `is_eof`, `read_exact n`, `read_u8`, `read_u16/u32 BE`,
`read_u32/u64 LE`, `read_tag`.  (`consume`, `read`, `flush_zero_padding`, `take`
have their own theorems below.)  For `read_exact`/`read_uN` failures the flat model
does not say how many bytes were consumed; the statement is: success-equivalence with
equal value and remainder, and equal errors. -/
theorem freader_primitives (fr : FRd) (hwf : fr.WF) :
    ((∀ e, fr.fillBuf = .error e ↔ fr.toRd.fillBuf = .error e) ∧
     (∀ piece, fr.fillBuf = .ok piece →
        fr.toRd.fillBuf = .ok () ∧ (∃ t, fr.join = piece ++ t) ∧ (piece = [] ↔ fr.join = []))) ∧
    fr.isEof = fr.toRd.isEof ∧
    (∀ n, Corr (fr.readExact n) (fr.toRd.readExact n)) ∧
    Corr fr.readU8 fr.toRd.readU8 ∧
    Corr fr.readU16BE fr.toRd.readU16BE ∧
    Corr fr.readU32BE fr.toRd.readU32BE ∧
    Corr fr.readU32LE fr.toRd.readU32LE ∧
    Corr fr.readU64LE fr.toRd.readU64LE ∧
    (∀ tag, Corr (fr.readTag tag) (fr.toRd.readTag tag)) := by
  have hs := Sim.self hwf
  refine ⟨(fillBuf_sim hs).elim (fun _ => ⟨fun _ => by simp, nofun⟩) fun _ _ hr =>
      ⟨fun _ => ⟨nofun, nofun⟩, fun _ hp => by cases hp; exact ⟨rfl, hr⟩⟩, (isEof_sim hs).eq,
    fun n => corr_iff.2 (readExact_sim hs n),
    corr_iff.2 (readU8_sim hs), corr_iff.2 (readExact_map_sim hs 2 beVal),
    corr_iff.2 (readExact_map_sim hs 4 beVal), corr_iff.2 (readExact_map_sim hs 4 leVal),
    corr_iff.2 (readExact_map_sim hs 8 leVal),
    fun tag => corr_iff.2 (readExact_map_sim hs tag.length (· == tag))⟩

/-- `consume n` within the exposed piece drops `n` bytes of the logical content -/
theorem consume_corr (fr : FRd) (hwf : fr.WF) {piece : Bytes} (hp : fr.fillBuf = .ok piece)
    {n : Nat} (hn : n ≤ piece.length) :
    (fr.consume n).WF ∧
    (fr.consume n).toRd = { fr.toRd with rem := fr.toRd.rem.drop n } :=
  consume_sim (Sim.self hwf) hp hn

/-- One raw `read` call with a buffer of `cap` bytes (the only primitive whose VALUE
depends on the fragmentation — short reads): it returns a prefix of the remaining
bytes of length `≤ cap`, consumes exactly that prefix, returns nothing only for
`cap = 0` or at EOF, and fails exactly at the end of a `bad` reader. -/
theorem read_corr (fr : FRd) (hwf : fr.WF) (cap : Nat) :
    (∀ bs fr', fr.read cap = .ok (bs, fr') →
      fr'.WF ∧ fr'.bad = fr.bad ∧ fr.join = bs ++ fr'.join ∧ bs.length ≤ cap ∧
      (bs = [] ↔ cap = 0 ∨ fr.join = [])) ∧
    (∀ e, fr.read cap = .error e ↔ (fr.join = [] ∧ fr.bad = true ∧ e = .io)) :=
  ⟨fun _ _ h => read_ok hwf h, fun _ => read_error hwf⟩

/-- `flush_zero_padding`: the verdict (and any error) is the same as on the flat
reader.  When it is `true` the remainders agree.  When it is `false` the fragmented
reader may have consumed leading all-zero PIECES before it met a non-zero byte in a
later piece, so its remainder is the flat remainder minus a prefix of zero bytes
(in particular a suffix of it).  (lzma-rs turns `false` into an error at once.) -/
theorem flushZeroPadding_corr (fr : FRd) (hwf : fr.WF) :
    (∀ e, fr.flushZeroPadding = .error e ↔ fr.toRd.flushZeroPadding = .error e) ∧
    (∀ b fr', fr.flushZeroPadding = .ok (b, fr') →
      ∃ rd', fr.toRd.flushZeroPadding = .ok (b, rd') ∧ fr'.WF ∧ fr'.bad = rd'.bad ∧
        (b = true → fr'.toRd = rd') ∧
        (b = false → fr'.join <:+ rd'.rem ∧
          ∃ zs : Bytes, zs.all (· == 0) = true ∧ rd'.rem = zs ++ fr'.join)) ∧
    (∀ b rd', fr.toRd.flushZeroPadding = .ok (b, rd') →
      ∃ fr', fr.flushZeroPadding = .ok (b, fr')) := by
  refine (flushZeroPadding_sim (Sim.self hwf)).elim (fun _ => ⟨fun _ => by simp, nofun, nofun⟩) ?_
  rintro ⟨b, fr'⟩ ⟨_, rd'⟩ ⟨⟨⟩, hw, hbad, ht, hf⟩
  refine ⟨fun _ => ⟨nofun, nofun⟩, fun _ _ hx => ?_, fun _ _ hy => by cases hy; exact ⟨fr', rfl⟩⟩
  cases hx
  exact ⟨rd', rfl, hw, hbad, ht, fun hb => let ⟨zs, hz, hr⟩ := hf hb; ⟨⟨zs, hr.symm⟩, zs, hz, hr⟩⟩

/-- the `false` case really leaves different remainders (zeros consumed piecewise) -/
example :
    (FRd.mk [[0], [0, 0], [4]] false).flushZeroPadding = .ok (false, FRd.mk [[4]] false) ∧
    (FRd.mk [[0], [0, 0], [4]] false).toRd.flushZeroPadding =
      .ok (false, { rem := [0, 0, 0, 4], bad := false }) := by
  constructor
  · simp [FRd.flushZeroPadding, FRd.consume]
  · rfl

/-- `take` (`io::Take`) corresponds to `Rd.split`, `unsplit` to `Rd.unsplit`. -/
theorem take_corr (fr : FRd) (hwf : fr.WF) (n : Nat) :
    (fr.take n).1.WF ∧ (fr.take n).1.toRd = (fr.toRd.split n).1 ∧
    (∀ f ∈ (fr.take n).2, f ≠ []) ∧ (fr.take n).2.flatten = (fr.toRd.split n).2 := by
  obtain ⟨⟨h1, h2⟩, h3, h4⟩ := take_sim (Sim.self hwf) n
  exact ⟨h1, h2, h3, h4⟩

theorem unsplit_corr (fr inner : FRd) (hwf : fr.WF) (hiwf : inner.WF) (rest : List Bytes)
    (hrest : ∀ f ∈ rest, f ≠ []) :
    (fr.unsplit inner rest).WF ∧
    (fr.unsplit inner rest).toRd = fr.toRd.unsplit inner.toRd rest.flatten :=
  unsplit_sim (Sim.self hwf) (Sim.self hiwf) ⟨hrest, rfl⟩

/-- `take` then `unsplit` of the untouched sub-reader gives the same logical reader back -/
theorem take_unsplit (fr : FRd) (hwf : fr.WF) (n : Nat) :
    (fr.unsplit (fr.take n).1 (fr.take n).2).toRd = fr.toRd := by
  obtain ⟨h1, h2, h3, h4⟩ := take_corr fr hwf n
  rw [(unsplit_corr fr _ hwf h1 _ h3).2, h2, h4]
  simp [Rd.unsplit, Rd.split, toRd]

/-- std's `io::Take` is that sub-reader: `Take { inner, limit }` with std's own
`fill_buf`/`consume`/`read` is indistinguishable from `(inner.take limit).1`, and the
bytes beyond the limit are never touched. -/
theorem take_std (t : FTake) (hwf : t.inner.WF) :
    t.fillBuf = t.view.fillBuf ∧
    (∀ piece n, t.fillBuf = .ok piece → n ≤ piece.length →
      (t.consume n).view = t.view.consume n ∧ (t.consume n).inner.WF ∧
      (t.consume n).inner.join.drop (t.consume n).limit = t.inner.join.drop t.limit) ∧
    (∀ cap,
      (∀ bs t', t.read cap = .ok (bs, t') →
        t.view.read cap = .ok (bs, t'.view) ∧ t'.inner.WF ∧
        t'.inner.join.drop t'.limit = t.inner.join.drop t.limit) ∧
      (∀ e, t.read cap = .error e ↔ t.view.read cap = .error e) ∧
      (∀ bs v, t.view.read cap = .ok (bs, v) → ∃ t', t.read cap = .ok (bs, t') ∧ t'.view = v)) := by
  refine ⟨FTake.view_fillBuf t, fun piece n hp hn => FTake.view_consume t hwf hp hn, fun cap => ?_⟩
  refine (FTake.view_read t hwf cap).elim (fun _ => ⟨nofun, fun _ => by simp, nofun⟩) ?_
  rintro ⟨bs, t'⟩ ⟨_, _⟩ ⟨⟨⟩, ⟨⟩, hw, hd⟩
  exact ⟨fun _ _ hx => by cases hx; exact ⟨rfl, hw, hd⟩, fun _ => ⟨nofun, nofun⟩,
    fun _ _ hy => by cases hy; exact ⟨t', rfl, rfl⟩⟩

/-! ## Code built from the primitives -/

/-- If `f fr` and `g rd` correspond and the continuations
correspond whenever their arguments do (same value, `fr'.toRd = rd'`), then the
binds correspond.  (`getMultibyte_corr`, `rc_corr` and `runDecF_corr` below do not go this way
but through `ByteSrcRel` and the `…G_rel` lemmas of `Lemmas/FReader.lean`.) -/
theorem bind_corr {x : Except Err (α × FRd)} {y : Except Err (α × Rd)}
    {f : α × FRd → Except Err (β × FRd)} {g : α × Rd → Except Err (β × Rd)}
    (hxy : Corr x y)
    (hfg : ∀ v fr', fr'.WF → Corr (f (v, fr')) (g (v, fr'.toRd))) :
    Corr (x >>= f) (y >>= g) := by
  rw [corr_iff] at hxy ⊢
  refine RelE.bind hxy ?_
  rintro ⟨v, fr'⟩ ⟨v', rd'⟩ ⟨hv, hw, ht⟩
  simp only at hv hw ht
  subst hv; subst ht
  exact corr_iff.1 (hfg v fr' hw)

/-- the general form, for arbitrary result relations -/
theorem bind_rel {R : α → β → Prop} {S : γ → δ → Prop}
    {x : Except Err α} {y : Except Err β} {f : α → Except Err γ} {g : β → Except Err δ}
    (hxy : RelE R x y) (hfg : ∀ a b, R a b → RelE S (f a) (g b)) :
    RelE S (x >>= f) (y >>= g) := RelE.bind hxy hfg

/-- `get_multibyte` (xz) over the fragmented reader = over the flat reader: same
value, same bytes fed to the digest, same remainder, same error. -/
theorem getMultibyte_corr (fr : FRd) (hwf : fr.WF) :
    Corr (α := Nat × Bytes)
      (fr.getMultibyte.map fun (v, bs, r) => ((v, bs), r))
      ((Lzma.getMultibyte fr.toRd).map fun (v, bs, r) => ((v, bs), r)) := by
  have h := FD.getMultibyteG_rel FRd.byteSrcRel (Sim.self hwf)
  rw [FD.getMultibyteG_FRd, FD.getMultibyteG_Rd] at h
  rw [corr_iff]
  refine h.elim (fun _ => rfl) ?_
  rintro ⟨_, _, _⟩ ⟨_, _, _⟩ ⟨⟨⟩, ⟨⟩, h3⟩
  exact ⟨rfl, h3⟩

/-- the range-decoder functions written over the abstract byte source are, at the
flat reader, literally the model's functions -/
theorem generic_at_Rd :
    RC.newG (ρ := Rd) = RC.new ∧ RC.normalizeG (ρ := Rd) = RC.normalize ∧
    RC.getBitG (ρ := Rd) = RC.getBit ∧ RC.decodeBitG (ρ := Rd) = RC.decodeBit ∧
    RC.isFinishedOkG (ρ := Rd) = RC.isFinishedOk :=
  ⟨rfl, rfl, rfl, rfl, rfl⟩

theorem runDecG_at_Rd [ProbStore σ ι] (update : Bool) (c : Coder ι α) (s : σ) (rc : RC) (rd : Rd) :
    runDecG update c s rc rd = runDec update c s rc rd := runDecG_Rd update c s rc rd

/-- `RangeDecoder::new` / `normalize` / `get_bit` / `decode_bit` / `is_finished_ok`
on a fragmented reader correspond to the model's functions on the flat reader. -/
theorem rc_corr (fr : FRd) (hwf : fr.WF) :
    Corr (RC.newG fr) (RC.new fr.toRd) ∧
    (∀ rc, Corr (RC.normalizeG rc fr) (RC.normalize rc fr.toRd)) ∧
    (∀ rc, RelE (RelV (RelV Sim)) (RC.getBitG rc fr) (RC.getBit rc fr.toRd)) ∧
    (∀ update p rc, RelE (RelV (RelV (RelV Sim)))
        (RC.decodeBitG update p rc fr) (RC.decodeBit update p rc fr.toRd)) ∧
    (∀ rc, RC.isFinishedOkG rc fr = RC.isFinishedOk rc fr.toRd) := by
  have hs := Sim.self hwf
  exact ⟨corr_iff.2 (RC.newG_rel FRd.byteSrcRel hs),
    fun rc => corr_iff.2 (RC.normalizeG_rel FRd.byteSrcRel rc hs),
    fun rc => RC.getBitG_rel FRd.byteSrcRel rc hs,
    fun u p rc => RC.decodeBitG_rel FRd.byteSrcRel u p rc hs,
    fun rc => (RC.isFinishedOkG_rel FRd.byteSrcRel rc hs).eq⟩

/-- The range-decoder interpreter on a fragmented reader: `runDecF` (same
recursion as `runDec`, reading through `FRd.readU8`) succeeds iff `runDec` on the
flat reader does, with the same decoded value, probability store and coder state,
the same logical remainder, and the same error otherwise. -/
theorem runDecF_corr [ProbStore σ ι] (update : Bool) (c : Coder ι α) (s : σ) (rc : RC)
    (fr : FRd) (hwf : fr.WF) :
    (∀ a s' rc' fr', runDecF update c s rc fr = .ok (a, s', rc', fr') →
      fr'.WF ∧ runDec update c s rc fr.toRd = .ok (a, s', rc', fr'.toRd)) ∧
    (∀ a s' rc' rd', runDec update c s rc fr.toRd = .ok (a, s', rc', rd') →
      ∃ fr', runDecF update c s rc fr = .ok (a, s', rc', fr') ∧ fr'.WF ∧ fr'.toRd = rd') ∧
    (∀ e, runDecF update c s rc fr = .error e ↔ runDec update c s rc fr.toRd = .error e) := by
  refine (runDecF_sim update c s rc (Sim.self hwf)).elim
    (fun _ => ⟨nofun, nofun, fun _ => by simp⟩) ?_
  rintro ⟨a, s', rc', fr'⟩ ⟨_, _, _, _⟩ ⟨⟨⟩, ⟨⟩, ⟨⟩, hw, ⟨⟩⟩
  exact ⟨fun _ _ _ _ hx => by cases hx; exact ⟨hw, rfl⟩,
    fun _ _ _ _ hy => by cases hy; exact ⟨fr', rfl, hw, rfl⟩, fun _ => ⟨nofun, nofun⟩⟩

/-- Consequently two fragmentations of the same bytes (same end kind) give the same
range-decoder run: same value, store, coder state, same remaining bytes, same error. -/
theorem runDecF_fragmentation_independent [ProbStore σ ι] (update : Bool) (c : Coder ι α)
    (s : σ) (rc : RC) (fr₁ fr₂ : FRd) (h₁ : fr₁.WF) (h₂ : fr₂.WF) (hsame : fr₁.toRd = fr₂.toRd) :
    RelE (fun x y => x.1 = y.1 ∧ x.2.1 = y.2.1 ∧ x.2.2.1 = y.2.2.1 ∧
        x.2.2.2.toRd = y.2.2.2.toRd)
      (runDecF update c s rc fr₁) (runDecF update c s rc fr₂) := by
  have a := runDecF_sim update c s rc (Sim.self h₁)
  have b := runDecF_sim update c s rc (Sim.self h₂)
  rw [hsame] at a
  refine RelE.join a b ?_
  rintro x y z ⟨a1, a2, a3, _, a4⟩ ⟨b1, b2, b3, _, b4⟩
  exact ⟨a1.trans b1.symm, a2.trans b2.symm, a3.trans b3.symm, a4.trans b4.symm⟩

/-! ## Known finding K2 -/

/-- `read_block` parses the block header through
`BufReader::new(CrcDigestRead(Take(header_size)))`.  The `BufReader`'s first refill
is ONE underlying `read`, which gets at most the current piece (`bufFill`); when the
header parse then fails (here: reserved flag bits set) the read-ahead is abandoned.
Two fragmentations of the same 20 bytes, header size 11: the verdict is the same
(error), but the caller's reader has consumed 11 bytes in one case and 1 in the
other. -/
theorem k2_witness :
    ∃ fr₁ fr₂ r₁ r₂ : FRd, fr₁.WF ∧ fr₂.WF ∧ fr₁.toRd = fr₂.toRd ∧
      fr₁.k2Probe 11 = .ok (true, r₁) ∧ fr₂.k2Probe 11 = .ok (true, r₂) ∧
      fr₁.join.length - r₁.join.length = 11 ∧ fr₂.join.length - r₂.join.length = 1 :=
  ⟨FRd.mk [[0x3C, 1, 2, 3, 4, 5, 6, 7, 8, 9, 10, 11, 12, 13, 14, 15, 16, 17, 18, 19]] false,
   FRd.mk [[0x3C], [1, 2, 3, 4, 5, 6, 7, 8, 9, 10, 11, 12, 13, 14, 15, 16, 17, 18, 19]] false,
   FRd.mk [[11, 12, 13, 14, 15, 16, 17, 18, 19]] false,
   FRd.mk [[1, 2, 3, 4, 5, 6, 7, 8, 9, 10], [11, 12, 13, 14, 15, 16, 17, 18, 19]] false,
   by decide, by decide, rfl, rfl, rfl, rfl, rfl⟩

/-- the read-ahead itself is fragmentation dependent only in HOW MUCH it pulls:
what it pulls is a prefix of the remaining bytes, never beyond `cap` -/
theorem bufFill_corr (fr : FRd) (hwf : fr.WF) (cap : Nat) :
    (∀ buf fr', fr.bufFill cap = .ok (buf, fr') →
      fr'.WF ∧ fr'.bad = fr.bad ∧ fr.join = buf ++ fr'.join ∧ buf.length ≤ cap ∧
      (buf = [] ↔ cap = 0 ∨ fr.join = [])) ∧
    (∀ e, fr.bufFill cap = .error e ↔ (fr.join = [] ∧ fr.bad = true ∧ e = .io)) :=
  read_corr fr hwf cap

/-! ## Non-vacuity -/

/-- the running example: three pieces, none empty -/
def ex : FRd := { frags := [[1], [2, 3], [4]] }

example : ex.WF := by decide
example : ex.toRd = { rem := [1, 2, 3, 4], bad := false } := rfl
example : (ofFrags [[1], [], [2, 3], [], [4]]).WF ∧ ofFrags [[1], [], [2, 3], [], [4]] = ex :=
  ⟨WF_ofFrags _ _, rfl⟩

/-- `read_exact 3` crosses two piece boundaries and stops inside none -/
example : ex.readExact 3 = .ok ([1, 2, 3], { frags := [[4]] }) ∧
    ex.toRd.readExact 3 = .ok ([1, 2, 3], { rem := [4] }) := by
  constructor
  · simp [ex, FRd.readExact, FRd.read, FRd.fillBuf, FRd.consume]
  · rfl

/-- one `read` never crosses a piece boundary -/
example : ex.read 3 = .ok ([1], { frags := [[2, 3], [4]] }) := rfl

/-- `read_u32` big-endian across all three pieces; via the theorem -/
example : ∃ fr', ex.readU32BE = .ok (0x01020304, fr') ∧ fr'.join = [] := by
  obtain ⟨_, _, _, _, _, h, _⟩ := freader_primitives ex (by decide)
  obtain ⟨fr', h1, _, h2⟩ := h.2.1 0x01020304 { rem := [] } rfl
  exact ⟨fr', h1, by simpa [toRd] using congrArg Rd.rem h2⟩

/-- failure at the end: `.eof` for a good reader, `.io` for a `bad` one — on both sides -/
example : ex.readExact 5 = .error .eof ∧ ex.toRd.readExact 5 = .error .eof ∧
    ({ ex with bad := true } : FRd).readExact 5 = .error .io ∧
    ({ ex with bad := true } : FRd).toRd.readExact 5 = .error .io := by
  refine ⟨?_, rfl, ?_, rfl⟩ <;>
    simp [ex, FRd.readExact, FRd.read, FRd.fillBuf, FRd.consume]

/-- `take 2` cuts inside the second piece -/
example : ex.take 2 = ({ frags := [[1], [2]] }, [[3], [4]]) ∧
    ex.toRd.split 2 = ({ rem := [1, 2], bad := false }, [3, 4]) := ⟨rfl, rfl⟩

/-- `is_eof` at a piece boundary: after consuming the first piece the next one is exposed -/
example : (ex.consume 1).isEof = .ok false ∧ (ex.consume 1).fillBuf = .ok [2, 3] := ⟨rfl, rfl⟩

/-- `get_multibyte` with a continuation byte in one piece and the last byte in the next -/
example : (FRd.mk [[0x81], [0x01, 7]] false).getMultibyte =
      .ok (0x81, [0x81, 0x01], FRd.mk [[7]] false) ∧
    Lzma.getMultibyte { rem := [0x81, 0x01, 7] } = .ok (0x81, [0x81, 0x01], { rem := [7] }) := by
  constructor
  · simp [FRd.getMultibyte, getMultibyteAux_cons, consume_cons]
  · rfl

end Lzma.C13
