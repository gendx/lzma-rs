/-
  C01 / C08 — the end-of-stream marker is recognised by its distance alone.

  The LZMA format ends a stream without a known size by a "match" whose decoded distance field is
  `0xFFFFFFFF`; the length field of that match (2..273) is irrelevant.  Real encoders write the
  minimal length, `Sym.eos`; liblzma and lzma-rs accept every length.  (A realistic bug —
  `if len == 0 && rep[0] == 0xFFFF_FFFF` — would only accept the minimal one.)

  `C01.lzma_decode_exact_marker` covers `Sym.eos` only.  Here the general case: for every length
  `2 ≤ len ≤ 273`, `lzma_decompress` on `header (no size in effect) ++
  encodeSyms props dict (prog ++ [Sym.mtch 0x100000000 len])` — the marker written as a match
  with 1-based distance `2^32`, i.e. distance field `2^32 − 1` — succeeds, delivers exactly the
  meaning of `prog`, flushes, and consumes the whole payload; for the three ways in which no size
  is in effect (size field all-ones with `ReadFromHeader`; `ReadHeaderButUseProvided(None)` with
  any size field; `UseProvided(None)` on the 5-byte header).  `Sym.eos` is the instance
  `len = 2` (`encodeSyms_eos_eq_long_marker`), so `lzma_decode_exact_marker` follows
  (`lzma_decode_exact_marker_of_long`).
-/
import LzmaProofs.Lemmas.EncRoundTrip
import LzmaProofs.Props.C01Exact
namespace Lzma.C01
open Lzma DState REnc EncRT LongMarker

/-- End-to-end exactness, end marker with any length field.  For all properties
`lc ≤ 8, lp ≤ 4, pb ≤ 4`, every dictionary field `D < 2^32`, every program `prog` (no end marker)
that is well-formed for the dictionary size in effect `max D 4096`, every marker length
`2 ≤ len ≤ 273`, every perfect sink, with the size field all-ones ("unknown") read from the
header and any memory limit that admits the window: `lzma_decompress` on the header followed by
the reference encoding of `prog` and a match with distance field `0xFFFFFFFF` and length `len`
succeeds, delivers exactly the bytes of `prog`, flushes last, and consumes the whole input.
(Same hypotheses as `lzma_decode_exact_marker`, which is the case `len = 2`.) -/
theorem lzma_decode_exact_long_marker (props : Props) (hp : props.lc ≤ 8 ∧ props.lp ≤ 4 ∧ props.pb ≤ 4)
    (D : Nat) (hD : D < 2 ^ 32) (prog : List Sym) (st : SpecSt)
    (hrun : SpecSt.run (max D 4096) {} prog = some (st, false))
    (len : Nat) (hlen : 2 ≤ len ∧ len ≤ 273) (opts : Options)
    (hopt : opts.unpackedSize = .readFromHeader)
    (hmem : min st.hist.size (max D 4096) ≤ opts.memlimit.getD USIZE_MAX)
    (snk0 : Sink) (hs0 : snk0.script = []) :
    ∃ snk, lzmaDecompress (Rd.ofBytes (lzmaHeader props D (some 0xFFFFFFFFFFFFFFFF) ++
          encodeSyms props (max D 4096) (prog ++ [.mtch 0x100000000 len]))) opts snk0 =
        (snk, .ok { rem := [] }) ∧
      snk.out = snk0.out ++ st.hist ∧ snk.lastFlush = true :=
  decode_exact_long_marker_of_header hp (by omega) prog st hrun len hlen
    (hdrReads_lzmaHeader hp hD (field := 0xFFFFFFFFFFFFFFFF) (by omega) hopt) hmem snk0 hs0

/-- … with the header size field overridden by "unknown" (`ReadHeaderButUseProvided(None)`,
13-byte header with any size field `field`, even one that contradicts the output). -/
theorem lzma_decode_exact_long_marker_header_ignored (props : Props)
    (hp : props.lc ≤ 8 ∧ props.lp ≤ 4 ∧ props.pb ≤ 4)
    (D : Nat) (hD : D < 2 ^ 32) (field : Nat) (prog : List Sym) (st : SpecSt)
    (hrun : SpecSt.run (max D 4096) {} prog = some (st, false))
    (len : Nat) (hlen : 2 ≤ len ∧ len ≤ 273) (opts : Options)
    (hopt : opts.unpackedSize = .readHeaderButUseProvided none)
    (hmem : min st.hist.size (max D 4096) ≤ opts.memlimit.getD USIZE_MAX)
    (snk0 : Sink) (hs0 : snk0.script = []) :
    ∃ snk, lzmaDecompress (Rd.ofBytes (lzmaHeader props D (some field) ++
          encodeSyms props (max D 4096) (prog ++ [.mtch 0x100000000 len]))) opts snk0 =
        (snk, .ok { rem := [] }) ∧
      snk.out = snk0.out ++ st.hist ∧ snk.lastFlush = true :=
  decode_exact_long_marker_of_header hp (by omega) prog st hrun len hlen
    (headerReads_ignored hp hD field hopt) hmem snk0 hs0

/-- … with no size supplied (`UseProvided(None)`, 5-byte header without size field). -/
theorem lzma_decode_exact_long_marker_provided (props : Props)
    (hp : props.lc ≤ 8 ∧ props.lp ≤ 4 ∧ props.pb ≤ 4)
    (D : Nat) (hD : D < 2 ^ 32) (prog : List Sym) (st : SpecSt)
    (hrun : SpecSt.run (max D 4096) {} prog = some (st, false))
    (len : Nat) (hlen : 2 ≤ len ∧ len ≤ 273) (opts : Options)
    (hopt : opts.unpackedSize = .useProvided none)
    (hmem : min st.hist.size (max D 4096) ≤ opts.memlimit.getD USIZE_MAX)
    (snk0 : Sink) (hs0 : snk0.script = []) :
    ∃ snk, lzmaDecompress (Rd.ofBytes (lzmaHeader props D none ++
          encodeSyms props (max D 4096) (prog ++ [.mtch 0x100000000 len]))) opts snk0 =
        (snk, .ok { rem := [] }) ∧
      snk.out = snk0.out ++ st.hist ∧ snk.lastFlush = true :=
  decode_exact_long_marker_of_header hp (by omega) prog st hrun len hlen
    (headerReads_provided hp hD hopt) hmem snk0 hs0

/-- the main theorem in terms of `expand` (default options, empty sink): the sink receives
`expand dict prog` -/
theorem lzma_decode_exact_long_marker_expand (props : Props)
    (hp : props.lc ≤ 8 ∧ props.lp ≤ 4 ∧ props.pb ≤ 4)
    (D : Nat) (hD : D < 2 ^ 32) (prog : List Sym) (out : Bytes)
    (hexp : expand (max D 4096) prog = some out) (hne : Sym.eos ∉ prog)
    (len : Nat) (hlen : 2 ≤ len ∧ len ≤ 273) :
    ∃ snk, lzmaDecompress (Rd.ofBytes (lzmaHeader props D (some 0xFFFFFFFFFFFFFFFF) ++
          encodeSyms props (max D 4096) (prog ++ [.mtch 0x100000000 len]))) {} {} =
        (snk, .ok { rem := [] }) ∧
      snk.out.toList = out ∧ snk.lastFlush = true := by
  unfold expand at hexp
  obtain ⟨⟨st, b⟩, hrun, hout⟩ := Option.map_eq_some_iff.1 hexp
  simp only at hout
  have hb := SpecSt.run_flag prog {} st b hne hrun
  subst hb
  obtain ⟨snk, h1, h2, h3⟩ := lzma_decode_exact_long_marker props hp D hD prog st hrun len hlen {} rfl
    (min_le_getD_none _ (by omega)) {} rfl
  exact ⟨snk, h1, by rw [h2, ← hout]; simp, h3⟩

/-- `Sym.eos` is the marker with length 2: the reference encoder produces the same payload
for `p ++ [eos]` and `p ++ [mtch 2^32 2]` — for every program `p` (well-formed or not), all
properties and every dictionary size. -/
theorem encodeSyms_eos_eq_long_marker (props : Props) (dict : Nat) (p : List Sym) :
    encodeSyms props dict (p ++ [.eos]) = encodeSyms props dict (p ++ [.mtch 0x100000000 2]) :=
  encodeSyms_eos_eq props dict p

/-- hence `lzma_decode_exact_marker` is the instance `len = 2` of `lzma_decode_exact_long_marker` -/
theorem lzma_decode_exact_marker_of_long (props : Props) (hp : props.lc ≤ 8 ∧ props.lp ≤ 4 ∧ props.pb ≤ 4)
    (D : Nat) (hD : D < 2 ^ 32) (prog : List Sym) (st : SpecSt)
    (hrun : SpecSt.run (max D 4096) {} prog = some (st, false)) (opts : Options)
    (hopt : opts.unpackedSize = .readFromHeader)
    (hmem : min st.hist.size (max D 4096) ≤ opts.memlimit.getD USIZE_MAX)
    (snk0 : Sink) (hs0 : snk0.script = []) :
    ∃ snk, lzmaDecompress (Rd.ofBytes (lzmaHeader props D (some 0xFFFFFFFFFFFFFFFF) ++
          encodeSyms props (max D 4096) (prog ++ [.eos]))) opts snk0 = (snk, .ok { rem := [] }) ∧
      snk.out = snk0.out ++ st.hist ∧ snk.lastFlush = true := by
  rw [encodeSyms_eos_eq_long_marker]
  exact lzma_decode_exact_long_marker props hp D hD prog st hrun 2 (by omega) opts hopt hmem snk0 hs0

/-- the marker is ill-formed as a copy in the spec semantics (its distance exceeds `2^32 − 1`):
the program `prog ++ [mtch 2^32 len]` has no `SpecSt.run` meaning, which is why the theorems
above are stated for `prog` and not for the extended program -/
theorem long_marker_step_none (dict : Nat) (st : SpecSt) (len : Nat) :
    SpecSt.step dict st (.mtch 0x100000000 len) = none := by
  simp [SpecSt.step]

/-! ## non-vacuity -/

/-- `lzma_decode_exact_long_marker` applies to `demoProg` (`"abababab"`: a literal, a match, a
short rep, a rep match) with the maximal marker length 273: all hypotheses hold -/
example : ∃ snk, lzmaDecompress (Rd.ofBytes (lzmaHeader ⟨0, 0, 0⟩ 0 (some 0xFFFFFFFFFFFFFFFF) ++
      encodeSyms ⟨0, 0, 0⟩ 4096 (demoProg ++ [.mtch 0x100000000 273]))) {} {} =
      (snk, .ok { rem := [] }) ∧
    snk.out.toList = [0x61, 0x62, 0x61, 0x62, 0x61, 0x62, 0x61, 0x62] ∧ snk.lastFlush = true := by
  obtain ⟨st, hrun, hout⟩ := demoProg_run
  obtain ⟨snk, h1, h2, h3⟩ := lzma_decode_exact_long_marker ⟨0, 0, 0⟩ (by decide) 0 (by decide)
    demoProg st hrun 273 (by omega) {} rfl (min_le_getD_none _ (by omega)) {} rfl
  exact ⟨snk, h1, by rw [h2, ← hout]; simp, h3⟩

/-- … and to the other two option forms (size field 5, contradicting the 8 bytes of output, is
ignored; 5-byte header) -/
example : (∃ snk, lzmaDecompress (Rd.ofBytes (lzmaHeader ⟨0, 0, 0⟩ 0 (some 5) ++
      encodeSyms ⟨0, 0, 0⟩ 4096 (demoProg ++ [.mtch 0x100000000 273])))
      { unpackedSize := .readHeaderButUseProvided none } {} = (snk, .ok { rem := [] }) ∧
    snk.out.toList = [0x61, 0x62, 0x61, 0x62, 0x61, 0x62, 0x61, 0x62]) ∧
    (∃ snk, lzmaDecompress (Rd.ofBytes (lzmaHeader ⟨0, 0, 0⟩ 0 none ++
      encodeSyms ⟨0, 0, 0⟩ 4096 (demoProg ++ [.mtch 0x100000000 273])))
      { unpackedSize := .useProvided none } {} = (snk, .ok { rem := [] }) ∧
    snk.out.toList = [0x61, 0x62, 0x61, 0x62, 0x61, 0x62, 0x61, 0x62]) := by
  obtain ⟨st, hrun, hout⟩ := demoProg_run
  have hm : min st.hist.size (max 0 4096) ≤ (none : Option Nat).getD USIZE_MAX :=
    min_le_getD_none _ (by omega)
  constructor
  · obtain ⟨snk, h1, h2, -⟩ := lzma_decode_exact_long_marker_header_ignored ⟨0, 0, 0⟩ (by decide) 0
      (by decide) 5 demoProg st hrun 273 (by omega) { unpackedSize := .readHeaderButUseProvided none }
      rfl hm {} rfl
    exact ⟨snk, h1, by rw [h2, ← hout]; simp⟩
  · obtain ⟨snk, h1, h2, -⟩ := lzma_decode_exact_long_marker_provided ⟨0, 0, 0⟩ (by decide) 0
      (by decide) demoProg st hrun 273 (by omega) { unpackedSize := .useProvided none } rfl hm {} rfl
    exact ⟨snk, h1, by rw [h2, ← hout]; simp⟩

/-- the same instance checked by running the executable model in the kernel: the stream with the
length-273 marker decodes to `"abababab"`, the whole input is consumed — and it is a different
byte string from the one with the minimal marker `Sym.eos`, so the theorem is not about the same
stream in disguise -/
def longMarkerDemo (len : Nat) : Bytes :=
  lzmaHeader ⟨0, 0, 0⟩ 0 (some 0xFFFFFFFFFFFFFFFF) ++
    encodeSyms ⟨0, 0, 0⟩ 4096 (demoProg ++ [.mtch 0x100000000 len])

/-- success with an empty clean reader, and the delivered bytes -/
def decodesAllTo (input : Bytes) (expected : Bytes) : Bool :=
  let d := lzmaDecompress (Rd.ofBytes input) {} {}
  (match d.2 with
    | .ok rd => rd.rem.isEmpty && !rd.bad
    | .error _ => false) && d.1.out.toList == expected && d.1.lastFlush

example : decodesAllTo (longMarkerDemo 273) [0x61, 0x62, 0x61, 0x62, 0x61, 0x62, 0x61, 0x62] = true := by
  decide +kernel

example : decodesAllTo (longMarkerDemo 2) [0x61, 0x62, 0x61, 0x62, 0x61, 0x62, 0x61, 0x62] = true ∧
    decodesAllTo (longMarkerDemo 9) [0x61, 0x62, 0x61, 0x62, 0x61, 0x62, 0x61, 0x62] = true ∧
    decodesAllTo (longMarkerDemo 10) [0x61, 0x62, 0x61, 0x62, 0x61, 0x62, 0x61, 0x62] = true ∧
    decodesAllTo (longMarkerDemo 18) [0x61, 0x62, 0x61, 0x62, 0x61, 0x62, 0x61, 0x62] = true := by
  decide +kernel

example : longMarkerDemo 273 ≠
    lzmaHeader ⟨0, 0, 0⟩ 0 (some 0xFFFFFFFFFFFFFFFF) ++ encodeSyms ⟨0, 0, 0⟩ 4096 (demoProg ++ [.eos]) := by
  decide +kernel

end Lzma.C01
