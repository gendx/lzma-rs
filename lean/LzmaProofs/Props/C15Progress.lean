/-
  C15 — progress of the streaming decoder and `finish` with `allow_incomplete = true`.

  (`Props/C15.lean` proves that every call only appends to the sink.)  Here:
  for a perfect sink, an input `x` on which the one-shot decoder succeeds, any
  prefix `p` of `x` that contains the header and the five-byte coder preamble
  (`p.length ≥ hdrLen + 5`), and ANY division `cs` of `p` into `write` calls:

  * `finish_incomplete_ok` — feeding never fails, `finish` succeeds, and the
    delivered bytes are a prefix of the one-shot output on `x`;
  * `finish_any_ok` — for ANY input: if no `write` failed and at least `hdrLen + 5`
    bytes were written, `finish` succeeds; `feed_prefix_ok` — feeding a prefix of a
    valid stream never fails;
  * `stream_progress` — the stream state after accepting `p` lies on the one-shot
    trace (`FinishSteps` from the configuration `c₀` after header and
    `RangeDecoder::new`), and its delivered-plus-window history (which `finish`
    then delivers) contains the history of every one-shot configuration `cᵢ`
    whose consumed input satisfies `consumedᵢ + 20 ≤ p.length`
    (`20 = MAX_REQUIRED_INPUT`).  The look-ahead is thus at most 19 input bytes,
    independent of the chunking (the ≤ 8 bytes that may still sit in the header
    staging buffer `tmp` are included in this bound).

  (`finish_any_ok` of `Lemmas/StreamProgress.lean` takes an argument `Need20` it does not use;
  `need20` is passed.)
-/
import LzmaProofs.Lemmas.StreamProgress
namespace Lzma
namespace C15

open StreamEq DState

/-- C15: `finish` after any sufficiently long prefix, `allow_incomplete = true`. -/
theorem finish_incomplete_ok (opts : Options) (hA : opts.allowIncomplete = true)
    (x p q : Bytes) (hx : x = p ++ q) (cs : List Bytes) (hcs : cs.flatten = p)
    (hlen : hdrLen opts.unpackedSize + 5 ≤ p.length) (snk0 : Sink) (hs : snk0.script = [])
    {snkO : Sink} {rdO : Rd} (hone : lzmaDecompress (Rd.ofBytes x) opts snk0 = (snkO, .ok rdO)) :
    ∃ snkS, streamRun opts cs snk0 = (snkS, .ok ()) ∧ APre snkS.out snkO.out := by
  obtain ⟨_, _, _, _, snkS, _, _, _, h1, _, h2, _⟩ :=
    progress_master hA hx hcs hlen hs hone
  exact ⟨snkS, h1, h2⟩

/-- feeding a prefix of a valid stream never fails (any `allow_incomplete`) and leaves the
stream in Data state -/
theorem feed_prefix_ok (opts : Options) (x p q : Bytes) (hx : x = p ++ q) (cs : List Bytes)
    (hcs : cs.flatten = p) (hlen : hdrLen opts.unpackedSize + 5 ≤ p.length) (snk0 : Sink)
    {snkO : Sink} {rdO : Rd} (hone : lzmaDecompress (Rd.ofBytes x) opts snk0 = (snkO, .ok rdO)) :
    ∃ k st' rs', feedAll cs (Stream.newWithOptions opts) snk0 = (k, st', .ok ()) ∧
      st'.state = some (.data rs') := by
  obtain ⟨c₀, _, _, _, hc₀, _, _⟩ := oneshot_run hone
  have hok : OneShotOk opts x snk0 := by
    unfold OneShotOk
    rw [show lzmaDecompress ⟨x, false⟩ opts snk0 = _ from hone]
    rintro ⟨e, he⟩
    simp [toUnit] at he
  obtain ⟨k, st', rs', _, _, h1, _, h2, _⟩ := stream_on_trace hx hcs hlen hok hc₀
  exact ⟨k, st', rs', h1, h2⟩

/-- `finish` after ANY successful feeding — no assumption on what the rest of the stream
would be: perfect sink, `allow_incomplete = true`, no `write` failed, and the input so
far contains the header and the five coder bytes; then `finish` succeeds.  (Together
with `feed_prefix_ok`: finishing after any such prefix of a valid stream succeeds.) -/
theorem finish_any_ok (opts : Options) (hA : opts.allowIncomplete = true) (cs : List Bytes)
    (snk0 k : Sink) (st' : Stream) (hs : snk0.script = [])
    (hfeed : feedAll cs (Stream.newWithOptions opts) snk0 = (k, st', .ok ()))
    (hlen : hdrLen opts.unpackedSize + 5 ≤ cs.flatten.length) :
    ∃ snkS, streamRun opts cs snk0 = (snkS, .ok ()) :=
  StreamEq.finish_any_ok need20 hA hs hfeed hlen

/-- C15: bounded look-ahead.  `c₀` is the one-shot configuration after the header
and `RangeDecoder::new`, `cᵢ` the one after `i` symbols (`FinishSteps c₀ i cᵢ`), and
`x.length - cᵢ.rd.rem.length` the input it has consumed.  If that is at most
`p.length - 20`, the history of `cᵢ` is contained in the stream's
delivered-plus-window history after accepting `p` (in whatever chunks), and `finish`
delivers exactly that history. -/
theorem stream_progress (opts : Options) (hA : opts.allowIncomplete = true)
    (x p q : Bytes) (hx : x = p ++ q) (cs : List Bytes) (hcs : cs.flatten = p)
    (hlen : hdrLen opts.unpackedSize + 5 ≤ p.length) (snk0 : Sink) (hs : snk0.script = [])
    {snkO : Sink} {rdO : Rd} (hone : lzmaDecompress (Rd.ofBytes x) opts snk0 = (snkO, .ok rdO))
    {c₀ : Cfg Circ} (hc₀ : startCfg opts x snk0 = some c₀)
    {i : Nat} {ci : Cfg Circ} (hi : FinishSteps c₀ i ci)
    (hcons : (x.length - ci.rd.rem.length) + 20 ≤ p.length) :
    ∃ k st' rs' snkS, feedAll cs (Stream.newWithOptions opts) snk0 = (k, st', .ok ()) ∧
      st'.state = some (.data rs') ∧
      APre (histOut ci.w ci.snk) (histOut rs'.output k) ∧
      streamRun opts cs snk0 = (snkS, .ok ()) ∧ snkS.out = histOut rs'.output k := by
  obtain ⟨c₀', k, st', rs', snkS, hc₀', h1, h2, h3, h4, _, h6⟩ :=
    progress_master hA hx hcs hlen hs hone
  rw [show startCfg opts x snk0 = some c₀ from hc₀] at hc₀'
  simp only [Option.some.injEq] at hc₀'
  subst hc₀'
  exact ⟨k, st', rs', snkS, h1, h2, h6 i ci hi hcons, h3, h4⟩

/-- the start configuration exists and the one-shot run is a trace from it: `c₀` and the
`cᵢ` of `stream_progress` are those of the one-shot decoder itself -/
theorem oneshot_trace (opts : Options) (x : Bytes) (snk0 : Sink) {snkO : Sink} {rdO : Rd}
    (hone : lzmaDecompress (Rd.ofBytes x) opts snk0 = (snkO, .ok rdO)) :
    ∃ c₀ k e cF, startCfg opts x snk0 = some c₀ ∧ FinishRun c₀ k e cF ∧
      cF.w.finish cF.snk = (snkO, .ok ()) :=
  oneshot_run hone

/-- with the history invariant, `histOut` (sink bytes followed by the unflushed part of the
window) is the full output history, and `finish` delivers exactly it -/
theorem histOut_is_history {base : Array UInt8} {w : Circ} {snk : Sink} {H : Bytes}
    (h : HistInv base w snk H) :
    ∃ s', w.finish snk = (s', .ok ()) ∧ s'.out = base ++ H.toArray ∧ histOut w snk = base ++ H.toArray :=
  finish_hist h

/-! ## non-vacuity: the `"aaaa"` stream, every prefix length 18 … 25 -/

def aaaaBytes : Bytes :=
  [0, 0, 16, 0, 0, 255, 255, 255, 255, 255, 255, 255, 255, 0, 48, 233, 119, 239, 255, 255, 255, 225, 0, 0, 0]

def optsAI : Options := { allowIncomplete := true }

def outIs (exp : Array UInt8) (r : Sink × Except Err Unit) : Bool :=
  match r.2 with
  | .ok _ => r.1.out == exp
  | .error _ => false

def isOk {α : Type} (r : Sink × Except Err α) : Bool :=
  match r.2 with
  | .ok _ => true
  | .error _ => false

/-- the hypotheses are satisfiable: the one-shot decoder succeeds on the stream -/
example : isOk (lzmaDecompress (Rd.ofBytes aaaaBytes) optsAI {}) = true := by decide +kernel
example : optsAI.allowIncomplete = true ∧ hdrLen optsAI.unpackedSize + 5 = 18 := by decide

/-- every prefix of length 18 … 25, as one chunk and byte by byte: `finish` succeeds and
delivers a prefix of `"aaaa"` (after 2 payload bytes everything is already out) -/
example : outIs #[] (streamRun optsAI [aaaaBytes.take 18] {}) = true := by decide +kernel
example : outIs #[97] (streamRun optsAI [aaaaBytes.take 19] {}) = true := by decide +kernel
example : outIs #[97, 97, 97, 97] (streamRun optsAI [aaaaBytes.take 20] {}) = true := by decide +kernel
example : outIs #[97, 97, 97, 97] (streamRun optsAI [aaaaBytes.take 21] {}) = true := by decide +kernel
example : outIs #[97, 97, 97, 97] (streamRun optsAI [aaaaBytes.take 22] {}) = true := by decide +kernel
example : outIs #[97, 97, 97, 97] (streamRun optsAI [aaaaBytes.take 23] {}) = true := by decide +kernel
example : outIs #[97, 97, 97, 97] (streamRun optsAI [aaaaBytes.take 24] {}) = true := by decide +kernel
example : outIs #[97, 97, 97, 97] (streamRun optsAI [aaaaBytes.take 25] {}) = true := by decide +kernel
example : outIs #[] (streamRun optsAI ((aaaaBytes.take 18).map fun b => [b]) {}) = true := by decide +kernel
example : outIs #[97] (streamRun optsAI ((aaaaBytes.take 19).map fun b => [b]) {}) = true := by decide +kernel
example : outIs #[97, 97, 97, 97] (streamRun optsAI ((aaaaBytes.take 20).map fun b => [b]) {}) = true := by
  decide +kernel
example : outIs #[97, 97, 97, 97] (streamRun optsAI ((aaaaBytes.take 25).map fun b => [b]) {}) = true := by
  decide +kernel
/-- the length bound is needed: a shorter prefix makes `finish` fail -/
example : isOk (streamRun optsAI [aaaaBytes.take 17] {}) = false := by decide +kernel

end C15
end Lzma
