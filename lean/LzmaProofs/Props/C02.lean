/-
  C02 — framing core: what `parse_uncompressed` and the control byte of `parse_lzma` do, and
  exact decoding of every well-formed sequence of UNCOMPRESSED chunks.
-/
import LzmaProofs.Lemmas.Lzma2
namespace Lzma.C02
open Lzma Lzma.L2 Lzma2Decoder

/-! ### `LzAccumBuffer::reset` flushes the history to the sink and forgets it -/

theorem accum_reset_spec {a a0 : Accum} {s s' : Sink} :
    a.reset s = (s', .ok a0) ↔
      writeAll a.buf s = (s', .ok ()) ∧ a0 = { a with buf := #[], len := 0 } :=
  Accum.reset_ok_iff

/-! ### `parse_uncompressed` -/

/-- `parse_uncompressed` succeeds iff the reader holds two size bytes `b1 b2` followed by at
least `n = b1·256 + b2 + 1` bytes; it then has read exactly those `2 + n` bytes, appended the
`n` data bytes to the window, and — iff `reset_dict` was asked — first flushed the history to
the sink and emptied the window. -/
theorem parseUncompressed_spec {a a' : Accum} {rd rd' : Rd} {resetDict : Bool} {s s' : Sink} :
    parseUncompressed a rd resetDict s = (s', .ok (a', rd')) ↔
      ∃ (b1 b2 : UInt8) (data rest : Bytes) (a0 : Accum),
        rd.rem = b1 :: b2 :: (data ++ rest) ∧
        data.length = b1.toNat * 256 + b2.toNat + 1 ∧
        (if resetDict then
            writeAll a.buf s = (s', .ok ()) ∧ a0 = { a with buf := #[], len := 0 }
          else s' = s ∧ a0 = a) ∧
        a' = a0.appendBytes data ∧ rd' = { rd with rem := rest } := by
  rw [parseUncompressed_ok_iff]
  simp only [optReset_ok_iff]

/-- the number of bytes read and the new window length -/
theorem parseUncompressed_counts {a a' : Accum} {rd rd' : Rd} {resetDict : Bool} {s s' : Sink}
    (h : parseUncompressed a rd resetDict s = (s', .ok (a', rd'))) :
    ∃ n, 1 ≤ n ∧ n ≤ 65536 ∧ n = beVal (rd.rem.take 2) + 1 ∧
      rd.rem.length = 2 + n + rd'.rem.length ∧ rd'.rem = rd.rem.drop (2 + n) ∧
      a'.len = (if resetDict then 0 else a.len) + n ∧
      a'.buf = (if resetDict then #[] else a.buf) ++ ((rd.rem.drop 2).take n).toArray := by
  obtain ⟨b1, b2, data, rest, a0, h1, h2, h3, rfl, rfl⟩ := parseUncompressed_spec.1 h
  have := b1.toNat_lt; have := b2.toNat_lt
  refine ⟨data.length, by omega, by omega, ?_, ?_, ?_, ?_, ?_⟩
  · rw [h1, h2]; simp [beVal]
  · rw [h1]; simp; omega
  · rw [h1, show 2 + data.length = data.length + 1 + 1 by omega]
    simp
  · cases resetDict
    · simp at h3 ⊢; rw [h3.2]; simp [Accum.appendBytes]
    · simp only [if_true] at h3 ⊢; rw [h3.2]; simp [Accum.appendBytes]
  · cases resetDict
    · simp at h3 ⊢; rw [h3.2, h1]; simp [Accum.appendBytes]
    · simp only [if_true] at h3 ⊢; rw [h3.2, h1]; simp [Accum.appendBytes]


/-! ### the control byte of a compressed chunk -/

/-- `parse_lzma` succeeds iff bit 7 of the control byte is set, four size
bytes follow, and with `cls = (status >> 5) & 3`:
* `cls = 3` ⇒ the dictionary is reset (`LzAccumBuffer::reset`: history flushed to the sink,
  window emptied) — and only then;
* `cls = 0` ⇒ the decoder state is kept; `cls = 1` ⇒ `reset_state` with the PREVIOUS properties;
  `cls ≥ 2` ⇒ one property byte `b < 225` with `lc + lp ≤ 4` is read and `reset_state` is
  called with the NEW properties `lc = b % 9, lp = b / 9 % 5, pb = b / 45`;
* the target length handed to the symbol loop is `len(window after the reset) + unpacked_size`
  where `unpacked_size = (((status & 0x1F) << 16) | u16) + 1`;
* the payload is decoded from the `Take` of `packed_size = p16 + 1` bytes, after which the
  range decoder must be exhausted; the reader continues right behind those bytes. -/
theorem control_dispatch {d d' : Lzma2Decoder} {a a' : Accum} {rd rd' : Rd} {status : Nat}
    {s s' : Sink} :
    parseLzma d a rd status s = (s', .ok (d', a', rd')) ↔
      status &&& 0x80 ≠ 0 ∧
      ∃ (u1 u2 p1 p2 : UInt8) (rest : Bytes) (s0 : Sink) (a0 : Accum) (st0 : DState) (rd3 : Rd)
        (rc : RC) (tk : Rd) (st1 : DState) (rc1 : RC) (tk1 : Rd),
        rd.rem = u1 :: u2 :: p1 :: p2 :: rest ∧
        (if (status >>> 5) &&& 0x3 = 3 then
            writeAll a.buf s = (s0, .ok ()) ∧ a0 = { a with buf := #[], len := 0 }
          else s0 = s ∧ a0 = a) ∧
        (((status >>> 5) &&& 0x3 = 0 ∧ st0 = d.lzmaState ∧ rd3 = { rd with rem := rest }) ∨
         ((status >>> 5) &&& 0x3 = 1 ∧ d.lzmaState.resetState d.lzmaState.props = .ok st0 ∧
            rd3 = { rd with rem := rest }) ∨
         ((status >>> 5) &&& 0x3 ≥ 2 ∧ ∃ (b : UInt8) (rest' : Bytes), rest = b :: rest' ∧
            b.toNat < 225 ∧ b.toNat % 9 + b.toNat / 9 % 5 ≤ 4 ∧
            d.lzmaState.resetState { lc := b.toNat % 9, lp := b.toNat / 9 % 5, pb := b.toNat / 9 / 5 }
              = .ok st0 ∧ rd3 = { rd with rem := rest' })) ∧
        RC.new (rd3.split (p1.toNat * 256 + p2.toNat + 1)).1 = .ok (rc, tk) ∧
        (st0.setUnpackedSize (some ((((status &&& 0x1F) <<< 16) ||| (u1.toNat * 256 + u2.toNat)) + 1
            + a0.len))).processMode .finish a0 rc tk s0 = (s', .ok (st1, a', rc1, tk1)) ∧
        rc1.code = 0 ∧ tk1.rem = [] ∧ tk1.bad = false ∧
        d' = { lzmaState := st1 } ∧
        rd' = { rd3 with rem := rd3.rem.drop (p1.toNat * 256 + p2.toNat + 1) } := by
  rw [parseLzma_ok_iff]
  simp only [optReset_ok_iff, lzma2PropsStage_ok_iff, lzUnpacked, propsOfByte]

/-- `reset_state` resets everything except `partial_input_buf` and `unpacked_size`: state and
reps to 0, all probabilities to 0x400, literal table re-sized only if `lc + lp` changed -/
theorem resetState_spec {st st' : DState} {p : Props} (h : st.resetState p = .ok st') :
    st'.props = p ∧ st'.state = 0 ∧ st'.rep0 = 0 ∧ st'.rep1 = 0 ∧ st'.rep2 = 0 ∧ st'.rep3 = 0 ∧
    st'.partialBuf = st.partialBuf ∧ st'.unpackedSize = st.unpackedSize ∧
    st'.probs.posSlot = Array.replicate 256 0x400 ∧ st'.probs.isMatch = Array.replicate 192 0x400 ∧
    (∀ i, (h : i < st'.probs.lit.size) → st'.probs.lit[i] = 0x400) := by
  unfold DState.resetState at h
  obtain ⟨_, -, h⟩ := Except.bind_eq_ok'.1 h
  simp [pure, Except.pure] at h
  subst h
  refine ⟨rfl, rfl, rfl, rfl, rfl, rfl, rfl, rfl, rfl, rfl, ?_⟩
  intro i hi
  dsimp only at hi ⊢
  split <;> simp


/-! ### exact decoding of every well-formed sequence of uncompressed chunks -/

/-- encoding of one uncompressed chunk: control 1 (dictionary reset) or 2, big-endian
`size - 1`, the data -/
def encRaw (b : Bool × Bytes) : Bytes :=
  (if b.1 then 1 else 2) :: (beBytes 2 (b.2.length - 1) ++ b.2)

/-- an LZMA2 stream of uncompressed chunks, with its end byte -/
def encRawStream (blocks : List (Bool × Bytes)) : Bytes := blocks.flatMap encRaw ++ [0]

theorem writeAll_perfect_spec {bs : Array UInt8} {s : Sink} (hs : s.script = []) :
    ∃ s', writeAll bs s = (s', .ok ()) ∧ s'.script = [] ∧ s'.out = s.out ++ bs ∧
      s'.flushes = s.flushes := by
  unfold writeAll
  split
  · rename_i h
    have : bs = #[] := by simpa using h
    exact ⟨s, rfl, hs, by simp [this], rfl⟩
  · simp [hs]

/-- running a list of raw chunks on a perfect sink: sink ++ window grows by exactly the data -/
theorem run_raw (d : Lzma2Decoder) : ∀ (blocks : List (Bool × Bytes)) (a : Accum) (s : Sink),
    s.script = [] →
    ∃ a' s', Run (blocks.map fun b => Chunk.raw b.1 b.2) d a s d a' s' ∧ s'.script = [] ∧
      s'.out ++ a'.buf = s.out ++ a.buf ++ (blocks.flatMap (·.2)).toArray ∧
      s'.flushes = s.flushes := by
  intro blocks
  induction blocks with
  | nil => intro a s hs; exact ⟨a, s, Run.nil _ _ _, hs, by simp, rfl⟩
  | cons b blocks ih =>
    intro a s hs
    obtain ⟨r, data⟩ := b
    -- the optional reset
    have hreset : ∃ s1 a0, (if r then a.reset else pure a) s = (s1, .ok a0) ∧ s1.script = [] ∧
        s1.out ++ a0.buf = s.out ++ a.buf ∧ s1.flushes = s.flushes := by
      cases r
      · exact ⟨s, a, rfl, hs, rfl, rfl⟩
      · obtain ⟨s1, h1, h2, h3, h4⟩ := writeAll_perfect_spec (bs := a.buf) hs
        exact ⟨s1, { a with buf := #[], len := 0 }, accum_reset_spec.2 ⟨h1, rfl⟩, h2,
          by simp [h3], h4⟩
    obtain ⟨s1, a0, h1, h2, h3, h4⟩ := hreset
    obtain ⟨a', s', hrun, g1, g2, g3⟩ := ih (a0.appendBytes data) s1 h2
    refine ⟨a', s', Run.cons ⟨rfl, a0, h1, rfl⟩ hrun, g1, ?_, by rw [g3, h4]⟩
    rw [g2]
    simp only [Accum.appendBytes, List.flatMap_cons]
    rw [← Array.append_assoc, h3]
    simp

/-- Uncompressed chunk sequences decode exactly.  For every list of non-empty data blocks
of at most 65536 bytes, each stored with or without a dictionary reset, followed by ANY trailing
bytes, `lzma2_decompress` on a perfect sink returns `Ok`, has appended exactly the
concatenation of the blocks to the sink (then flushed it once), and leaves the reader exactly
at the trailing bytes. -/
theorem uncompressed_sequence_exact (blocks : List (Bool × Bytes))
    (hb : ∀ b ∈ blocks, 1 ≤ b.2.length ∧ b.2.length ≤ 65536) (t : Bytes) (s : Sink)
    (hs : s.script = []) :
    ∃ s', lzma2Decompress (Rd.ofBytes (encRawStream blocks ++ t)) s = (s', .ok (Rd.ofBytes t)) ∧
      s'.out = s.out ++ (blocks.flatMap (·.2)).toArray ∧ s'.script = [] ∧
      s'.flushes = s.flushes + 1 ∧ s'.lastFlush = true := by
  obtain ⟨a', s1, hrun, g1, g2, g3⟩ :=
    run_raw Lzma2Decoder.init blocks (Accum.fromStream USIZE_MAX) s hs
  obtain ⟨s2, k1, k2, k3, k4⟩ := writeAll_perfect_spec (bs := a'.buf) g1
  have hfin : a'.finish s1 = ({ s2 with flushes := s2.flushes + 1, lastFlush := true }, .ok ()) := by
    unfold Accum.finish
    rw [bind_run_ok k1]
    simp [flushSink, k2]
  refine ⟨_, lzma2Decompress_ok_iff.2 ⟨blocks.map fun b => Chunk.raw b.1 b.2, Lzma2Decoder.init,
    a', s1, ?_, ?_, rfl, hrun, hfin⟩, ?_, k2, ?_, rfl⟩
  · intro c hc
    obtain ⟨b, hbm, rfl⟩ := List.mem_map.1 hc
    exact hb b hbm
  · simp only [Rd.ofBytes, encRawStream, List.flatMap_map]
    have : (fun b : Bool × Bytes => (Chunk.raw b.1 b.2).bytes) = encRaw := by
      funext b; cases h : b.1 <;> simp [Chunk.bytes, Chunk.control, Chunk.body, encRaw, h]
    rw [this]; simp
  · show s2.out = _
    rw [k3, g2]; simp [Accum.fromStream]
  · show s2.flushes + 1 = _
    rw [k4, g3]

/-- non-vacuity / sanity: "abc" with a dictionary reset then "de" without, followed by junk -/
example : ∃ s', lzma2Decompress (Rd.ofBytes
      ([1, 0, 2, 0x61, 0x62, 0x63, 2, 0, 1, 0x64, 0x65, 0] ++ [0xFF, 0xFF])) {}
      = (s', .ok (Rd.ofBytes [0xFF, 0xFF])) ∧
    s'.out = #[0x61, 0x62, 0x63, 0x64, 0x65] := by
  obtain ⟨s', h1, h2, -⟩ := uncompressed_sequence_exact
    [(true, [0x61, 0x62, 0x63]), (false, [0x64, 0x65])] (by decide) [0xFF, 0xFF] {} rfl
  exact ⟨s', h1, h2⟩

/-- `"abc"` as one uncompressed chunk, by evaluation of the model in the kernel -/
example : (lzma2Decompress (Rd.ofBytes [1, 0, 2, 0x61, 0x62, 0x63, 0]) {}).1.out
    = #[0x61, 0x62, 0x63] := by decide +kernel

end Lzma.C02
