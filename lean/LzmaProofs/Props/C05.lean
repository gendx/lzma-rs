/-
  C05 — the streaming decoder agrees with the one-shot decoder.

  Feeding an LZMA stream to `Stream` in ANY division into `write` calls (each
  chunk through the re-submitting `feed` loop), followed by `finish`, gives the
  same verdict as `lzma_decompress_with_options` on the concatenated bytes and,
  on success, the identical sink — for every decode option with
  `allow_incomplete = false` and for every (also scripted / faulty) sink.  Only
  exception: zero total input, where the stream finishes successfully with empty
  output while the one-shot decoder reports a too-short header.

  The statements are the unsuffixed theorems (`stream_equals_oneshot`, `stream_veq_oneshot`,
  `stream_equals_oneshot_out`, `stream_chunks_merge`, `stream_zero_input`).  The theorems named
  `…_partial` keep a hypothesis `Need20` (the 20-byte bound) that their proofs do not use; the
  bound is proved as `need20` (`Lemmas/StreamEquivSim.lean`, from the byte count of
  `Lemmas/Need20.lean`, see `Props/C05Need20.lean`: worst path 22 probability bits + 26 direct
  bits).  What the proof rests on, in `Lemmas/StreamEquiv*.lean`: prefix stability of the bit
  decoder (`runDec_ok_app`, `runDec_err_app`, `processNext_cases`), after an end marker nothing
  decodes (`after_marker_continuation_errs`), one `read_data` (`stream_loop_sim`), the header
  state machine (`stream_header_equiv`), any chunk list (`data_run`, `header_run`); the section
  "the layers, restated" repeats these statements under C05 names.
-/
import LzmaProofs.Lemmas.StreamEquivMain
namespace Lzma
namespace C05

open StreamEq DState

/-- the run produced a value (no error) -/
def Ok {α : Type} (r : Sink × Except Err α) : Prop := ∃ a, r.2 = .ok a

/-! ## the property -/

/-- C05, verdict-equivalence form, with the unused hypothesis `Need20`.  `Veq x y` = both runs
fail, or they are equal (same sink, same value). -/
theorem stream_veq_oneshot_partial (hN : Need20) (opts : Options) (hA : opts.allowIncomplete = false)
    (cs : List Bytes) (hne : cs.flatten ≠ []) (snk : Sink) :
    Veq (streamRun opts cs snk) (toUnit (lzmaDecompress (Rd.ofBytes cs.flatten) opts snk)) := by
  have h0 : (Stream.newWithOptions opts).tmp ++ cs.flatten = cs.flatten := rfl
  have := header_run cs (Stream.newWithOptions opts) snk rfl hA (HNone_nil opts)
    (by rw [h0]; exact hne)
  rw [h0] at this
  exact this

/-- C05, with the unused hypothesis `Need20`.  For every option set with
`allow_incomplete = false`, every division `cs` of a non-empty input into chunks
and every sink: the stream run succeeds iff the one-shot decoder succeeds on the
concatenation, and then both leave the identical sink (in particular the same
output bytes). -/
theorem stream_equals_oneshot_partial (hN : Need20) (opts : Options) (hA : opts.allowIncomplete = false)
    (cs : List Bytes) (hne : cs.flatten ≠ []) (snk : Sink) :
    (Ok (streamRun opts cs snk) ↔ Ok (lzmaDecompress (Rd.ofBytes cs.flatten) opts snk)) ∧
    (Ok (streamRun opts cs snk) →
      (streamRun opts cs snk).1 = (lzmaDecompress (Rd.ofBytes cs.flatten) opts snk).1) := by
  have hv := stream_veq_oneshot_partial hN opts hA cs hne snk
  exact ⟨hv.ok_iff.trans toUnit_ok_iff, fun h => congrArg Prod.fst (hv.eq_of_ok h)⟩

/-- the perfect-sink instance: equal output bytes -/
theorem stream_equals_oneshot_out_partial (hN : Need20) (opts : Options)
    (hA : opts.allowIncomplete = false) (cs : List Bytes) (hne : cs.flatten ≠ []) :
    (Ok (streamRun opts cs {}) ↔ Ok (lzmaDecompress (Rd.ofBytes cs.flatten) opts {})) ∧
    (Ok (streamRun opts cs {}) →
      (streamRun opts cs {}).1.out = (lzmaDecompress (Rd.ofBytes cs.flatten) opts {}).1.out) := by
  obtain ⟨h1, h2⟩ := stream_equals_oneshot_partial hN opts hA cs hne {}
  exact ⟨h1, fun h => by rw [h2 h]⟩

/-- the restricted driver "whole input in one chunk" (header write, data write(s)
via re-submission, finish) -/
theorem stream_equals_oneshot_single_chunk_partial (hN : Need20) (opts : Options)
    (hA : opts.allowIncomplete = false) (x : Bytes) (hne : x ≠ []) (snk : Sink) :
    Veq (streamRun opts [x] snk) (toUnit (lzmaDecompress (Rd.ofBytes x) opts snk)) := by
  have := stream_veq_oneshot_partial hN opts hA [x] (by simpa using hne) snk
  simpa using this

/-- resumability: the division into chunks is irrelevant (`a` then `b` = `a ++ b`, etc.) -/
theorem stream_chunks_merge_partial (hN : Need20) (opts : Options) (hA : opts.allowIncomplete = false)
    (cs cs' : List Bytes) (h : cs.flatten = cs'.flatten) (hne : cs.flatten ≠ []) (snk : Sink) :
    Veq (streamRun opts cs snk) (streamRun opts cs' snk) := by
  have h1 := stream_veq_oneshot_partial hN opts hA cs hne snk
  have h2 := stream_veq_oneshot_partial hN opts hA cs' (by rw [← h]; exact hne) snk
  rw [h] at h1
  exact h1.trans h2.symm

/-! ## the property, unconditionally -/

/-- C05.  For every option set with `allow_incomplete = false`, every
division `cs` of a non-empty input into chunks and every sink (perfect, scripted
or faulty): the stream run (`feed` every chunk, then `finish`) succeeds iff
`lzma_decompress_with_options` succeeds on the concatenated bytes, and then both
leave the identical sink — in particular byte-identical output. -/
theorem stream_equals_oneshot (opts : Options) (hA : opts.allowIncomplete = false)
    (cs : List Bytes) (hne : cs.flatten ≠ []) (snk : Sink) :
    (Ok (streamRun opts cs snk) ↔ Ok (lzmaDecompress (Rd.ofBytes cs.flatten) opts snk)) ∧
    (Ok (streamRun opts cs snk) →
      (streamRun opts cs snk).1 = (lzmaDecompress (Rd.ofBytes cs.flatten) opts snk).1) :=
  stream_equals_oneshot_partial need20 opts hA cs hne snk

/-- C05 in verdict-equivalence form: both runs fail, or they are equal -/
theorem stream_veq_oneshot (opts : Options) (hA : opts.allowIncomplete = false)
    (cs : List Bytes) (hne : cs.flatten ≠ []) (snk : Sink) :
    Veq (streamRun opts cs snk) (toUnit (lzmaDecompress (Rd.ofBytes cs.flatten) opts snk)) :=
  stream_veq_oneshot_partial need20 opts hA cs hne snk

/-- C05 on the perfect sink `{}`: same verdict, equal output bytes -/
theorem stream_equals_oneshot_out (opts : Options) (hA : opts.allowIncomplete = false)
    (cs : List Bytes) (hne : cs.flatten ≠ []) :
    (Ok (streamRun opts cs {}) ↔ Ok (lzmaDecompress (Rd.ofBytes cs.flatten) opts {})) ∧
    (Ok (streamRun opts cs {}) →
      (streamRun opts cs {}).1.out = (lzmaDecompress (Rd.ofBytes cs.flatten) opts {}).1.out) :=
  stream_equals_oneshot_out_partial need20 opts hA cs hne

/-- the division into chunks is irrelevant -/
theorem stream_chunks_merge (opts : Options) (hA : opts.allowIncomplete = false)
    (cs cs' : List Bytes) (h : cs.flatten = cs'.flatten) (hne : cs.flatten ≠ []) (snk : Sink) :
    Veq (streamRun opts cs snk) (streamRun opts cs' snk) :=
  stream_chunks_merge_partial need20 opts hA cs cs' h hne snk

/-- the 20-byte bound -/
theorem need20 : Need20 := StreamEq.need20

/-! ## zero total input: the one exception -/

theorem feed_empty (st : Stream) (snk : Sink) : Stream.feed 1 st [] 0 snk = (snk, st, .ok 0) := by
  simp [Stream.feed]

/-- C05, zero input.  If every chunk is empty, the stream run succeeds and
does not touch the sink (no output). -/
theorem stream_zero_input (opts : Options) (cs : List Bytes) (h : ∀ c ∈ cs, c = []) (snk : Sink) :
    streamRun opts cs snk = (snk, .ok ()) := by
  unfold streamRun
  generalize hst : Stream.newWithOptions opts = st
  have hs : st.state = some .header ∧ st.tmp = [] := by subst hst; exact ⟨rfl, rfl⟩
  clear hst
  induction cs with
  | nil =>
    rw [streamRunFrom_nil]
    unfold Stream.finish
    rw [hs.1]
    simp [hs.2]
  | cons c cs ih =>
    have hc : c = [] := h c (List.mem_cons_self ..)
    subst hc
    rw [streamRunFrom_cons_ok (feed_empty st snk)]
    exact ih (fun c hc => h c (List.mem_cons_of_mem _ hc))

/-- the one-shot decoder rejects the empty input (which `stream_zero_input` accepts) -/
theorem oneshot_zero_input_fails (opts : Options) (snk : Sink) :
    ¬ Ok (lzmaDecompress (Rd.ofBytes []) opts snk) := by
  rintro ⟨a, ha⟩
  rcases hr : lzmaDecompress (Rd.ofBytes []) opts snk with ⟨k, r⟩
  rw [hr] at ha
  simp only at ha
  subst ha
  obtain ⟨rs, rd2, h⟩ := oneshot_ok_header hr
  have := srh_some h
  have hb := NN_bounds opts
  simp at this
  omega

/-! ## the layers, restated -/

/-- prefix stability of the bit decoder, success case (`runDec_ok_app`) -/
theorem runDec_prefix_ok {σ ι α : Type} [ProbStore σ ι] (u : Bool) (t : Coder ι α) (s : σ) (rc : RC)
    (a : Bytes) (x : α) (s' : σ) (rc' : RC) (rd' : Rd)
    (h : runDec u t s rc ⟨a, false⟩ = .ok (x, s', rc', rd')) :
    rd'.bad = false ∧ rd'.rem <:+ a ∧
      ∀ b, runDec u t s rc ⟨a ++ b, false⟩ = .ok (x, s', rc', ⟨rd'.rem ++ b, false⟩) :=
  runDec_ok_app u t s rc a x s' rc' rd' h

/-- prefix stability, failure case: any error but `eof` persists (`runDec_err_app`) -/
theorem runDec_prefix_err {σ ι α : Type} [ProbStore σ ι] (u : Bool) (t : Coder ι α) (s : σ) (rc : RC)
    (a : Bytes) (e : Err) (h : runDec u t s rc ⟨a, false⟩ = .error e) :
    e = .eof ∨ ∀ b, runDec u t s rc ⟨a ++ b, false⟩ = .error e :=
  runDec_err_app u t s rc a e h

/-- prefix stability lifted to `process_next` (`processNext_cases`): on the local reader `a` (the
bytes handed to this call) it either runs out of input at the bit level, or fails identically on every extension, or continues
identically on every extension, or — end marker with the LOCAL reader exhausted
and `code = 0` — returns `Finished` while every proper extension is rejected -/
theorem processNext_prefix_cases (s : DState) (w : Circ) (rc : RC) (a : Bytes) (snk : Sink) :
    (dec1 s w rc ⟨a, false⟩ = .error .eof) ∨
    (∃ k e, ∀ b, processNext s w rc ⟨a ++ b, false⟩ snk = (k, .error e)) ∨
    (∃ k s' w' rc' a', a' <:+ a ∧ ∀ b, processNext s w rc ⟨a ++ b, false⟩ snk =
        (k, .ok (.continue, s', w', rc', ⟨a' ++ b, false⟩))) ∨
    (∃ s' rc', processNext s w rc ⟨a, false⟩ snk = (snk, .ok (.finished, s', w, rc', ⟨[], false⟩)) ∧
        rc'.code = 0 ∧ s'.rep0 = 0xFFFFFFFF ∧ 7 ≤ s'.state ∧
        ∀ b, b ≠ [] → processNext s w rc ⟨a ++ b, false⟩ snk = (snk, .error .lzma)) :=
  processNext_cases s w rc a snk

/-- after an end marker nothing decodes any more, dry run or real run -/
theorem after_marker_continuation_errs (u : Bool) (s : DState) (w : Circ) (rc : RC) (rd : Rd)
    (hcode : rc.code = 0) (hrep : s.rep0 = 0xFFFFFFFF) (hstate : 7 ≤ s.state)
    (hdict : w.dictSize < 4294967296) (hrange : 2048 ≤ rc.range)
    (hp : ∀ v, s.probs.get (.isMatch ((s.state <<< 4) + (s.mkCtx w).posState)) = .ok v → 0 < v) :
    ∃ e, runDec u (symTree (s.mkCtx w)) s.probs rc rd = .error e :=
  StreamEq.after_marker_continuation_errs u s w rc rd hcode hrep hstate hdict hrange hp

/-- one `write` in Header state with everything received so far staged in `tmp` -/
theorem stream_header_equiv {st : Stream} (hs : st.state = some .header)
    (hopt : st.options.allowIncomplete = false) (hno : HNone st.options st.tmp)
    {data : Bytes} (hdne : data ≠ []) (snk : Sink) :
    (∃ e, st.write data snk = (snk, .error e) ∧
      ∀ G snk', IsErr (toUnit (lzmaDecompress ⟨st.tmp ++ data ++ G, false⟩ st.options snk'))) ∨
    (∃ st', st.write data snk = (snk, .ok (st', data.length)) ∧ st'.state = some .header ∧
      st'.tmp = st.tmp ++ data ∧ st'.options = st.options ∧ HNone st.options (st.tmp ++ data)) ∨
    (∃ st' n rs, st.write data snk = (snk, .ok (st', n)) ∧ 0 < n ∧ n ≤ data.length ∧
      DataInv st' rs ∧ st'.options = st.options ∧
      ∀ G snk', Veq (toUnit (lzmaDecompress ⟨st.tmp ++ data ++ G, false⟩ st.options snk'))
        (sfin st' rs (data.drop n ++ G) snk')) :=
  StreamEq.stream_header_equiv hs hopt hno hdne snk

/-- from any stream in Data state, any chunk list then `finish` = the one-shot
tail on `tmp ++ partialBuf ++ chunks.flatten` -/
theorem data_phase_partial (hN : Need20) (cs : List Bytes) (st : Stream) (rs : RunState) (snk : Sink)
    (hD : DataInv st rs) (ho : st.options.allowIncomplete = false) :
    Veq (streamRunFrom st cs snk) (sfin st rs cs.flatten snk) :=
  data_run cs st rs snk hD ho

/-! ## non-vacuity -/

example : ({} : Options).allowIncomplete = false ∧ ([[0x5d], [0, 0, 0x80]] : List Bytes).flatten ≠ [] := by
  decide

/-- the empty file with end marker, split `[[0x5d],[0,0,0x80],[…]]` -/
def emptyEosChunks : List Bytes :=
  [[0x5d], [0, 0, 0x80], [0] ++ List.replicate 8 0xff ++ [0, 0x83, 0xff, 0xfb, 0xff, 0xff, 0xc0, 0, 0, 0]]

/-- "aaaa" compressed by liblzma (lc = lp = pb = 0, end marker), in seven chunks
(one of them empty, the header spread over three) -/
def aaaaBytes : Bytes :=
  [0, 0, 16, 0, 0, 255, 255, 255, 255, 255, 255, 255, 255, 0, 48, 233, 119, 239, 255, 255, 255, 225, 0, 0, 0]
def aaaaChunks : List Bytes :=
  [[0], [0, 16, 0], [0, 255, 255, 255, 255, 255, 255, 255, 255], [0, 48], [], [233],
   [119, 239, 255, 255, 255, 225, 0, 0, 0]]

def outIs (exp : Array UInt8) (r : Sink × Except Err Unit) : Bool :=
  match r.2 with
  | .ok _ => r.1.out == exp
  | .error _ => false

example : outIs #[] (streamRun {} emptyEosChunks {}) = true := by decide +kernel
example : outIs #[] (toUnit (lzmaDecompress (Rd.ofBytes emptyEosChunks.flatten) {} {})) = true := by
  decide +kernel
example : aaaaChunks.flatten = aaaaBytes := by decide
example : outIs #[97, 97, 97, 97] (streamRun {} aaaaChunks {}) = true := by decide +kernel
example : outIs #[97, 97, 97, 97] (toUnit (lzmaDecompress (Rd.ofBytes aaaaBytes) {} {})) = true := by
  decide +kernel
/-- a truncated stream fails in both drivers -/
example : outIs #[97, 97, 97, 97] (streamRun {} (aaaaChunks.take 6) {}) = false := by decide +kernel
example : outIs #[97, 97, 97, 97]
    (toUnit (lzmaDecompress (Rd.ofBytes (aaaaChunks.take 6).flatten) {} {})) = false := by decide +kernel
/-- zero input: the stream accepts, the one-shot decoder does not -/
example : outIs #[] (streamRun {} [[], []] {}) = true := by decide +kernel
example : outIs #[] (toUnit (lzmaDecompress (Rd.ofBytes []) {} {})) = false := by decide +kernel

end C05
end Lzma
