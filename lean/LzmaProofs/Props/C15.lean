/-
  C15 — streaming output is always a prefix of the final output: monotonicity.

  Proved here, for EVERY stream state, every option set, every sink script and
  every sequence of `write` / `flush` calls followed by `finish`: each call only
  APPENDS to the bytes the sink holds, so what the sink holds at any moment is a
  prefix of what it holds at any later moment — in particular of what it holds
  after `finish`.  Together with C05 (`finish` after all input delivers the
  one-shot decoder's output) this is "a prefix of what the complete stream
  decodes to".  The quantitative half of the property (output keeps up with the
  input up to a bounded look-ahead of 19 bytes) is in `Props/C15Progress.lean`
  (`stream_progress`, `finish_incomplete_ok`).  The proofs here rest on `OM.streamWrite`,
  `OM.streamFlush`, `OM.streamFinish` of `Lemmas/Sink.lean`; `Call`, `step`, `trace` below are
  this file's own call language (`Stream.Call` of `Lemmas/StreamBasic.lean` is the one of C16).
-/
import LzmaProofs.Lemmas.Sink
namespace Lzma.C15
open Lzma

/-- the calls a user can make on a `Stream` before `finish` -/
inductive Call where
  | write (data : Bytes)
  | flush

/-- one call as a transition of (stream, sink) -/
def step (st : Stream) (snk : Sink) : Call → Stream × Sink
  | .write data => let r := st.writeS data snk; (r.2.1, r.1)
  | .flush => (st, (st.flush snk).1)

/-- the sinks observed after each call of a sequence (the initial one first) -/
def trace : List Call → Stream → Sink → List Sink
  | [], _, snk => [snk]
  | c :: cs, st, snk => snk :: trace cs (step st snk c).1 (step st snk c).2

theorem write_only_appends (st : Stream) (data : Bytes) (snk : Sink) :
    APre snk.out (st.writeS data snk).1.out := by
  have h := (OM.streamWrite st data).mono snk
  unfold Stream.writeS
  split <;> rename_i heq <;> simpa [heq] using h

theorem flush_only_appends (st : Stream) (snk : Sink) : APre snk.out (st.flush snk).1.out :=
  (OM.streamFlush st).mono snk

theorem finish_only_appends (st : Stream) (snk : Sink) : APre snk.out (st.finish snk).1.out :=
  (OM.streamFinish st).mono snk

theorem step_only_appends (st : Stream) (snk : Sink) (c : Call) : APre snk.out (step st snk c).2.out := by
  cases c with
  | write data => exact write_only_appends st data snk
  | flush => exact flush_only_appends st snk

/-- Streaming output is monotone: in the trace of any call sequence, the
bytes held at position `i` are a prefix of the bytes held at every later
position `j`. -/
theorem stream_sink_prefix (cs : List Call) (st : Stream) (snk : Sink) :
    ∀ i j (hi : i < (trace cs st snk).length) (hj : j < (trace cs st snk).length), i ≤ j →
      APre ((trace cs st snk)[i]).out ((trace cs st snk)[j]).out := by
  induction cs generalizing st snk with
  | nil =>
    intro i j hi hj _
    simp only [trace, List.length_singleton] at hi hj
    have : i = 0 := by omega
    have : j = 0 := by omega
    subst_vars
    exact APre.refl _
  | cons c cs ih =>
    intro i j hi hj hij
    simp only [trace] at hi hj ⊢
    -- every later sink extends the first one
    have first : ∀ k (hk : k < (trace cs (step st snk c).1 (step st snk c).2).length),
        APre snk.out ((trace cs (step st snk c).1 (step st snk c).2)[k]).out := by
      intro k hk
      have h0 : 0 < (trace cs (step st snk c).1 (step st snk c).2).length := by omega
      have hk0 := ih (step st snk c).1 (step st snk c).2 0 k h0 hk (Nat.zero_le _)
      have hz : ((trace cs (step st snk c).1 (step st snk c).2)[0]) = (step st snk c).2 := by
        cases cs <;> simp [trace]
      rw [hz] at hk0
      exact (step_only_appends st snk c).trans hk0
    cases i with
    | zero =>
      cases j with
      | zero => exact APre.refl _
      | succ j => simpa using first j (by simpa using hj)
    | succ i =>
      cases j with
      | zero => omega
      | succ j =>
        simpa using ih (step st snk c).1 (step st snk c).2 i j (by simpa using hi) (by simpa using hj) (by omega)

/-- stream and sink after all calls of a sequence -/
def runCalls : List Call → Stream → Sink → Stream × Sink
  | [], st, snk => (st, snk)
  | c :: cs, st, snk => runCalls cs (step st snk c).1 (step st snk c).2

theorem trace_last (cs : List Call) (st : Stream) (snk : Sink) :
    ∃ h : (trace cs st snk).length - 1 < (trace cs st snk).length,
      (trace cs st snk)[(trace cs st snk).length - 1] = (runCalls cs st snk).2 := by
  induction cs generalizing st snk with
  | nil => exact ⟨by simp [trace], by simp [trace, runCalls]⟩
  | cons c cs ih =>
    obtain ⟨h, e⟩ := ih (step st snk c).1 (step st snk c).2
    have hl : 0 < (trace cs (step st snk c).1 (step st snk c).2).length := by omega
    refine ⟨by simp [trace], ?_⟩
    simp only [trace, List.length_cons, runCalls, Nat.add_sub_cancel]
    rw [← e]
    have : (trace cs (step st snk c).1 (step st snk c).2).length =
        ((trace cs (step st snk c).1 (step st snk c).2).length - 1) + 1 := by omega
    rw [List.getElem_cons]
    split
    · omega
    · rfl

/-- Streaming output is a prefix of the final output: what the sink holds after any call of the
sequence is a prefix of what it holds after the remaining calls and `finish`
(whether `finish` succeeds or not). -/
theorem stream_sink_prefix_of_final (cs : List Call) (st : Stream) (snk : Sink) (i : Nat)
    (hi : i < (trace cs st snk).length) :
    APre ((trace cs st snk)[i]).out
      (((runCalls cs st snk).1).finish (runCalls cs st snk).2).1.out := by
  obtain ⟨hl, e⟩ := trace_last cs st snk
  have h1 := stream_sink_prefix cs st snk i ((trace cs st snk).length - 1) hi hl (by omega)
  rw [e] at h1
  exact h1.trans (finish_only_appends _ _)

/-- non-vacuity: a concrete call sequence on a fresh stream -/
example : (trace [.write [0x5d, 0, 0], .flush, .write [0x80, 0]] (Stream.newWithOptions {}) {}).length = 4 := by
  simp [trace]

end Lzma.C15
