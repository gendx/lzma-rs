/-
  Functional specification of `readHeader` (`LzmaParams::read_header`).
-/
import LzmaProofs.Lemmas.Monad
namespace Lzma

/-- number of header bytes `read_header` consumes for a given option form -/
def hdrLen (u : UnpackedSizeOpt) : Nat :=
  match u with
  | .useProvided _ => 5
  | _ => 13

/-- the unpacked size in effect, given the option and the LE value of the 8-byte size field -/
def effSize (u : UnpackedSizeOpt) (field : Nat) : Option Nat :=
  match u with
  | .readFromHeader => if field = 0xFFFFFFFFFFFFFFFF then none else some field
  | .readHeaderButUseProvided x => x
  | .useProvided x => x

/-- the parameters `read_header` returns on a long enough header `b :: rest` with `b < 225` -/
def hdrParams (u : UnpackedSizeOpt) (b : UInt8) (rest : Bytes) : LzmaParams :=
  { props := { lc := b.toNat % 9, lp := b.toNat / 9 % 5, pb := b.toNat / 45 }
    dictSize := max (leVal (rest.take 4)) 4096
    unpackedSize := effSize u (leVal ((rest.drop 4).take 8)) }

theorem leVal_lt : ∀ bs : Bytes, leVal bs < 256 ^ bs.length
  | [] => by simp [leVal]
  | b :: r => by
    have ih := leVal_lt r
    have hb := b.toNat_lt
    simp only [leVal, List.length_cons, Nat.pow_succ]
    omega

theorem hdrErr_readExact (rd : Rd) (n : Nat) (f : Bytes → Nat) :
    hdrErr (do let (bs, r) ← rd.readExact n; pure (f bs, r)) =
      if n ≤ rd.rem.length then .ok (f (rd.rem.take n), { rd with rem := rd.rem.drop n })
      else .error .headerTooShort := by
  unfold Rd.readExact
  split <;> rfl

theorem dictFloor_eq (d : Nat) : (if d < 0x1000 then 0x1000 else d) = max d 4096 := by
  split <;> omega

theorem readHeader_eq (rd : Rd) (opts : Options) :
    readHeader rd opts =
      match rd.rem with
      | [] => .error .headerTooShort
      | b :: rest =>
        if b.toNat ≥ 225 then .error .lzma
        else if rest.length + 1 < hdrLen opts.unpackedSize then .error .headerTooShort
        else .ok (hdrParams opts.unpackedSize b rest,
                  { rd with rem := rd.rem.drop (hdrLen opts.unpackedSize) }) := by
  rcases rd with ⟨_ | ⟨b, rest⟩, bad⟩
  · rfl
  · unfold readHeader
    -- the three reads in closed form; what is left is which of them have enough bytes
    simp only [show hdrErr (Rd.readU8 ⟨b :: rest, bad⟩) = .ok (b, ⟨rest, bad⟩) from rfl,
      show ∀ r : Rd, hdrErr r.readU32LE = _ from fun r => hdrErr_readExact r 4 leVal,
      show ∀ r : Rd, hdrErr r.readU64LE = _ from fun r => hdrErr_readExact r 8 leVal, dictFloor_eq]
    by_cases hb : b.toNat ≥ 225
    · simp [hb, bind, Except.bind, throw, throwThe, MonadExceptOf.throw]
    · rcases opts with ⟨u, ml, ai⟩
      by_cases h4 : 4 ≤ rest.length
      · by_cases h8 : 8 ≤ rest.length - 4
        · cases u <;>
            simp [bind, Except.bind, hb, h4, h8, hdrLen, hdrParams, effSize, pure, Except.pure,
              Nat.div_div_eq_div_mul, show ¬ rest.length + 1 < 13 by omega,
              show ¬ rest.length + 1 < 5 by omega]
        · cases u <;>
            simp [bind, Except.bind, hb, h4, h8, hdrLen, hdrParams, effSize, pure, Except.pure,
              Nat.div_div_eq_div_mul, show rest.length + 1 < 13 by omega,
              show ¬ rest.length + 1 < 5 by omega]
      · cases u <;>
          simp [bind, Except.bind, hb, h4, hdrLen, show rest.length + 1 < 13 by omega,
            show rest.length + 1 < 5 by omega]

theorem readHeader_ok_iff {rd rd' : Rd} {opts : Options} {p : LzmaParams} :
    readHeader rd opts = .ok (p, rd') ↔
      ∃ b rest, rd.rem = b :: rest ∧ b.toNat < 225 ∧ hdrLen opts.unpackedSize ≤ rd.rem.length ∧
        p = hdrParams opts.unpackedSize b rest ∧
        rd' = { rd with rem := rd.rem.drop (hdrLen opts.unpackedSize) } := by
  rw [readHeader_eq]
  rcases rd with ⟨_ | ⟨b, rest⟩, bad⟩
  · simp
  · dsimp only [List.length_cons]
    constructor
    · intro h
      split at h
      · cases h
      · split at h
        · cases h
        · cases h; exact ⟨b, rest, rfl, by omega, by omega, rfl, rfl⟩
    · rintro ⟨b', rest', h0, hb, hl, rfl, rfl⟩
      cases h0
      rw [if_neg (by omega), if_neg (by omega)]

theorem readHeader_error_iff {rd : Rd} {opts : Options} {e : Err} :
    readHeader rd opts = .error e ↔
      (e = .headerTooShort ∧ (rd.rem = [] ∨ ∃ b rest, rd.rem = b :: rest ∧ b.toNat < 225 ∧
        rd.rem.length < hdrLen opts.unpackedSize)) ∨
      (e = .lzma ∧ ∃ b rest, rd.rem = b :: rest ∧ b.toNat ≥ 225) := by
  rw [readHeader_eq]
  rcases rd with ⟨_ | ⟨b, rest⟩, bad⟩
  · simp [eq_comm]
  · by_cases hb : b.toNat ≥ 225 <;> by_cases hl : rest.length + 1 < hdrLen opts.unpackedSize <;>
      simp [hb, hl, eq_comm] <;> omega

theorem readHeader_cons_append (b : UInt8) (d tl : Bytes) (bad : Bool) (opts : Options)
    (hd : d.length = 4) :
    readHeader ⟨b :: d ++ tl, bad⟩ opts =
      if b.toNat ≥ 225 then .error .lzma
      else if tl.length + 5 < hdrLen opts.unpackedSize then .error .headerTooShort
      else .ok ({ props := { lc := b.toNat % 9, lp := b.toNat / 9 % 5, pb := b.toNat / 45 }
                  dictSize := max (leVal d) 4096
                  unpackedSize := effSize opts.unpackedSize (leVal (tl.take 8)) },
                ⟨tl.drop (hdrLen opts.unpackedSize - 5), bad⟩) := by
  have hdrop : (b :: d ++ tl).drop (hdrLen opts.unpackedSize) =
      tl.drop (hdrLen opts.unpackedSize - 5) := by
    cases opts.unpackedSize <;> simp [hdrLen, List.drop_append, hd]
  rw [readHeader_eq]
  simp only [List.cons_append, hdrParams, List.length_append, hd, List.take_left' hd,
    List.drop_left' hd] at hdrop ⊢
  rw [hdrop, show 4 + tl.length + 1 = tl.length + 5 by omega]

theorem lzmaDecompress_congr {rd rd' : Rd} {opts opts' : Options}
    (hh : readHeader rd opts = readHeader rd' opts') (hm : opts.memlimit = opts'.memlimit) :
    lzmaDecompress rd opts = lzmaDecompress rd' opts' := by
  unfold lzmaDecompress
  rw [hh, hm]

end Lzma
