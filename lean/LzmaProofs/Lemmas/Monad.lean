/-
  The `M` monad: how a `do` block runs (`bind_run`), inversion of successful and of failed runs
  through `Except` and `M` blocks, and postconditions of successful runs (`Post`).
-/
import LzmaModel
namespace Lzma

@[simp] theorem M.pure_run (a : α) (s : Sink) : (M.pure a : M α) s = (s, .ok a) := rfl
@[simp] theorem pure_run (a : α) (s : Sink) : (pure a : M α) s = (s, .ok a) := rfl
@[simp] theorem throwM_run (e : Err) (s : Sink) : (throwM e : M α) s = (s, .error e) := rfl
@[simp] theorem liftE_ok (a : α) (s : Sink) : (liftE (.ok a) : M α) s = (s, .ok a) := rfl
@[simp] theorem liftE_error (e : Err) (s : Sink) : (liftE (.error e) : M α) s = (s, .error e) := rfl

theorem bind_run (m : M α) (f : α → M β) (s : Sink) :
    (m >>= f) s = match m s with
      | (s', .ok a) => f a s'
      | (s', .error e) => (s', .error e) := rfl

theorem bind_run_ok {m : M α} {f : α → M β} {s s' : Sink} {a : α} (h : m s = (s', .ok a)) :
    (m >>= f) s = f a s' := by
  simp [bind_run, h]

theorem bind_run_error {m : M α} {f : α → M β} {s s' : Sink} {e : Err} (h : m s = (s', .error e)) :
    (m >>= f) s = (s', .error e) := by
  simp [bind_run, h]

theorem liftE_ok_bind (a : α) (f : α → M β) : (liftE (.ok a) >>= f) = f a := rfl

/-! ## Inversion of successful runs through `Except` and `M` do-blocks -/

theorem Except.bind_eq_ok' {x : Except ε α} {f : α → Except ε β} {b : β} :
    (x >>= f) = .ok b ↔ ∃ a, x = .ok a ∧ f a = .ok b := by
  cases x <;> simp [bind, Except.bind]

theorem Except.throw_bind' {e : ε} {f : α → Except ε β} :
    ((throw e : Except ε α) >>= f) = .error e := rfl
theorem Except.throw_ne_ok {e : ε} {a : α} :
    ((throw e : Except ε α) = .ok a) ↔ False := by
  simp [throw, throwThe, MonadExceptOf.throw]
theorem Except.pure_eq_ok {a b : α} :
    ((pure a : Except ε α) = .ok b) ↔ a = b := by
  simp [pure, Except.pure]

theorem ite_eq_ok {c : Prop} [Decidable c] {x y : Except ε α} {b : α} :
    (if c then x else y) = .ok b ↔ (c ∧ x = .ok b) ∨ (¬ c ∧ y = .ok b) := by
  split <;> simp [*]

theorem mBind_eq_ok {m : M α} {f : α → M β} {s s' : Sink} {b : β} :
    (m >>= f) s = (s', .ok b) ↔ ∃ a s1, m s = (s1, .ok a) ∧ f a s1 = (s', .ok b) := by
  rw [bind_run]
  rcases hm : m s with ⟨s1, e | a⟩
  · simp
  · constructor
    · intro h; exact ⟨a, s1, rfl, h⟩
    · rintro ⟨a', s1', h1, h⟩
      cases h1; exact h

theorem liftE_eq_ok {e : Except Err α} {s s' : Sink} {a : α} :
    (liftE e : M α) s = (s', .ok a) ↔ e = .ok a ∧ s' = s := by
  cases e <;> simp [eq_comm, and_comm]

theorem throwM_bind {e : Err} {f : α → M β} : ((throwM e : M α) >>= f) = throwM e := rfl

theorem throwM_ne_ok {e : Err} {s s' : Sink} {a : α} :
    ((throwM e : M α) s = (s', .ok a)) ↔ False := by simp

theorem mPure_eq_ok {a b : α} {s s' : Sink} :
    ((pure a : M α) s = (s', .ok b)) ↔ a = b ∧ s' = s := by
  simp [eq_comm, and_comm]

theorem mIte_eq {c : Prop} [Decidable c] {x y : M α} {s : Sink} {r : Sink × Except Err α} :
    (if c then x else y) s = r ↔ (c ∧ x s = r) ∨ (¬ c ∧ y s = r) := by
  split <;> simp [*]

/-! ## Inversion of failed runs -/

theorem Except.bind_eq_error {x : Except ε α} {f : α → Except ε β} {e : ε} :
    (x >>= f) = .error e ↔ x = .error e ∨ ∃ a, x = .ok a ∧ f a = .error e := by
  cases x <;> simp [bind, Except.bind]

theorem mBind_eq_error {m : M α} {f : α → M β} {s s' : Sink} {e : Err} :
    (m >>= f) s = (s', .error e) ↔
      m s = (s', .error e) ∨ ∃ a s1, m s = (s1, .ok a) ∧ f a s1 = (s', .error e) := by
  rw [bind_run]
  rcases hm : m s with ⟨s1, e1 | a⟩
  · simp
  · constructor
    · intro h; exact .inr ⟨a, s1, rfl, h⟩
    · rintro (h | ⟨a', s1', h1, h⟩)
      · cases h
      · cases h1; exact h

theorem liftE_eq_error {x : Except Err α} {s s' : Sink} {e : Err} :
    (liftE x : M α) s = (s', .error e) ↔ x = .error e ∧ s' = s := by
  cases x <;> simp [eq_comm, and_comm]

theorem throwM_eq_error {e e' : Err} {s s' : Sink} :
    ((throwM e : M α) s = (s', .error e')) ↔ e = e' ∧ s' = s := by
  simp [eq_comm, and_comm]

theorem mPure_ne_error {a : α} {s s' : Sink} {e : Err} :
    ((pure a : M α) s = (s', .error e)) ↔ False := by simp

/-! ## postconditions of successful runs

`Post m P`: whenever `m` returns `Ok`, the value satisfies `P`.  The rules follow the shape of a
`do` block, so a fact that depends only on the last statements of a long block (or a field that no
statement changes) is proved without ever splitting the block in a hypothesis. -/

def Post (m : M α) (P : α → Prop) : Prop := ∀ ⦃s s' a⦄, m s = (s', .ok a) → P a

theorem Post.bind {m : M α} {f : α → M β} {Q : α → Prop} {P : β → Prop} (hm : Post m Q)
    (hf : ∀ a, Q a → Post (f a) P) : Post (m >>= f) P := fun _ _ _ h =>
  let ⟨a, _, h1, h2⟩ := mBind_eq_ok.1 h
  hf a (hm h1) h2

/-- only the continuation matters -/
theorem Post.bind' {m : M α} {f : α → M β} {P : β → Prop} (hf : ∀ a, Post (f a) P) :
    Post (m >>= f) P :=
  Post.bind (Q := fun _ => True) (fun _ _ _ _ => trivial) fun a _ => hf a

theorem Post.pure {a : α} {P : α → Prop} (h : P a) : Post (pure a) P := fun _ _ _ h' =>
  (mPure_eq_ok.1 h').1 ▸ h

theorem Post.throw {e : Err} {P : α → Prop} : Post (throwM e) P := fun _ _ _ h =>
  (throwM_ne_ok.1 h).elim

theorem Post.liftE {e : Except Err α} {P : α → Prop} (h : ∀ a, e = .ok a → P a) :
    Post (liftE e) P := fun _ _ a h' => h a (liftE_eq_ok.1 h').1

theorem Post.ite {c : Prop} [Decidable c] {x y : M α} {P : α → Prop} (hx : c → Post x P)
    (hy : ¬ c → Post y P) : Post (if c then x else y) P := by
  split <;> simp [*]

/-- a guard `if c then throwM e` in front of the rest `y` of a `do` block -/
theorem Post.guard {c : Prop} [Decidable c] {e : Err} {f : α → M β} {y : M β} {P : β → Prop}
    (h : Post y P) : Post (if c then throwM e >>= f else y) P :=
  .ite (fun _ => .throw) fun _ => h

end Lzma
