/-
  The scripted sink: array prefixes and the specifications of the raw calls
  (`Sink.write1`, `writeAllList`, `writeAll`, `writeBytes`, `flushSink`) under every script, and on a
  sink whose script is exhausted (`Sink.Perfect`).
-/
import LzmaProofs.Lemmas.Monad
namespace Lzma

/-! ## array prefixes -/

def APre (a b : Array UInt8) : Prop := ∃ t : Array UInt8, b = a ++ t

theorem APre.refl (a : Array UInt8) : APre a a := ⟨#[], by simp⟩
theorem APre.trans {a b c : Array UInt8} (h1 : APre a b) (h2 : APre b c) : APre a c := by
  obtain ⟨t1, rfl⟩ := h1; obtain ⟨t2, rfl⟩ := h2
  exact ⟨t1 ++ t2, by simp [Array.append_assoc]⟩
theorem APre.append (a t : Array UInt8) : APre a (a ++ t) := ⟨t, rfl⟩
theorem APre.of_eq {a b : Array UInt8} (h : a = b) : APre a b := h ▸ APre.refl a
theorem APre.toList {a b : Array UInt8} (h : APre a b) : a.toList <+: b.toList := by
  obtain ⟨t, rfl⟩ := h; exact ⟨t.toList, by simp⟩
theorem APre.size_le {a b : Array UInt8} (h : APre a b) : a.size ≤ b.size := by
  obtain ⟨t, rfl⟩ := h; simp

/-! ## the raw calls -/

theorem Sink.write1_script (s : Sink) (bs : Bytes) : (s.write1 bs).1.script = s.script.tail := by
  unfold Sink.write1; split <;> simp_all

theorem Sink.write1_spec (s : Sink) (bs : Bytes) :
    (∃ n, (s.write1 bs).2 = .ok n ∧ n ≤ bs.length ∧
        (s.write1 bs).1.out = s.out ++ (bs.take n).toArray ∧ (s.write1 bs).1.lastFlush = false) ∨
    ((s.write1 bs).2 = .error .io ∧ (s.write1 bs).1.out = s.out ∧
        (s.write1 bs).1.lastFlush = s.lastFlush ∧ ∃ rest, s.script = .fail :: rest) := by
  unfold Sink.write1; split
  · left; exact ⟨bs.length, by simp⟩
  · left; exact ⟨bs.length, by simp⟩
  · rename_i n rest h
    left; refine ⟨min n bs.length, by simp, Nat.min_le_right _ _, ?_, by simp⟩
    have : List.take (min n bs.length) bs = List.take n bs := by
      rw [List.take_eq_take_iff]; omega
    simp [this]
  · right; simp_all

theorem writeAllList_steps {R : Sink → Sink → Prop} (refl : ∀ s, R s s)
    (trans : ∀ {a b c}, R a b → R b c → R a c) (step : ∀ s bs, R s (s.write1 bs).1)
    (bs : Bytes) (s : Sink) : R s (writeAllList bs s).1 := by
  fun_induction writeAllList bs s with
  | case1 bs s h => exact refl s
  | case2 bs s h s' e hw => have := step s bs; rwa [hw] at this
  | case3 bs s h s' hw => have := step s bs; rwa [hw] at this
  | case4 bs s h s' n hw hn hge => have := step s bs; rwa [hw] at this
  | case5 bs s h s' n hw hn hlt ih => have := step s bs; rw [hw] at this; exact trans this ih

theorem writeAllList_spec (bs : Bytes) (s : Sink) :
    (∃ used, s.script = used ++ (writeAllList bs s).1.script) ∧
    (((writeAllList bs s).2 = .ok () ∧ (writeAllList bs s).1.out = s.out ++ bs.toArray) ∨
     ((writeAllList bs s).2 = .error .io ∧
        ∃ k, k < bs.length ∧ (writeAllList bs s).1.out = s.out ++ (bs.take k).toArray)) := by
  refine ⟨writeAllList_steps (R := fun a b => ∃ used, a.script = used ++ b.script) (fun _ => ⟨[], rfl⟩)
    (fun ⟨u, hu⟩ ⟨v, hv⟩ => ⟨u ++ v, by rw [hu, hv, List.append_assoc]⟩)
    (fun s bs => ⟨s.script.take 1, by rw [Sink.write1_script]; cases s.script <;> simp⟩) bs s, ?_⟩
  fun_induction writeAllList bs s with
  | case1 bs s h => simp_all
  | case2 bs s h s' e hw =>
    have h1 := Sink.write1_spec s bs
    rw [hw] at h1
    simp at h1
    refine Or.inr ⟨by simp [h1.1], 0, ?_, by simp [h1.2.1]⟩
    cases bs <;> simp_all
  | case3 bs s h s' hw =>
    have h1 := Sink.write1_spec s bs
    rw [hw] at h1
    simp at h1
    refine Or.inr ⟨rfl, 0, ?_, by simp [h1.1]⟩
    cases bs <;> simp_all
  | case4 bs s h s' n hw hn hge =>
    have h1 := Sink.write1_spec s bs
    rw [hw] at h1
    simp at h1
    obtain ⟨hle, ho, _⟩ := h1
    have : n = bs.length := by omega
    exact Or.inl ⟨rfl, by simp [ho, this]⟩
  | case5 bs s h s' n hw hn hlt ih =>
    have h1 := Sink.write1_spec s bs
    rw [hw] at h1
    simp at h1
    obtain ⟨hle, ho, _⟩ := h1
    rcases ih with ⟨hr, hout⟩ | ⟨hr, k, hk, hout⟩
    · left; refine ⟨hr, ?_⟩
      rw [hout, ho, Array.append_assoc]; congr 1
      simp
    · right; refine ⟨hr, n + k, ?_, ?_⟩
      · simp at hk; omega
      · rw [hout, ho, Array.append_assoc]; congr 1
        simp [List.take_add]

theorem writeAllList_clean (bs : Bytes) (s : Sink) (h : s.script = []) :
    (writeAllList bs s).2 = .ok () ∧ (writeAllList bs s).1.script = [] ∧
    (writeAllList bs s).1.out = s.out ++ bs.toArray := by
  rw [writeAllList.eq_1]
  cases bs with
  | nil => simp [h]
  | cons b bs => simp [Sink.write1, h]

def Benign (script : List SinkBeh) : Prop := ∀ b ∈ script, b ≠ .fail ∧ b ≠ .upto 0

theorem Sink.write1_benign (s : Sink) (bs : Bytes) (hb : Benign s.script) (hne : bs ≠ []) :
    ∃ n, (s.write1 bs).2 = .ok n ∧ 0 < n ∧ Benign (s.write1 bs).1.script := by
  have hlen : 0 < bs.length := List.length_pos_iff.mpr hne
  unfold Sink.write1; split
  · rename_i h; exact ⟨bs.length, rfl, hlen, by simpa [h] using hb⟩
  · rename_i rest h
    refine ⟨bs.length, rfl, hlen, ?_⟩
    intro b hb'; exact hb b (by simp_all)
  · rename_i n rest h
    refine ⟨min n bs.length, rfl, ?_, ?_⟩
    · have := (hb (.upto n) (by simp [h])).2
      have : n ≠ 0 := fun h0 => this (by rw [h0])
      omega
    · intro b hb'; exact hb b (by simp_all)
  · rename_i rest h
    exact absurd rfl (hb .fail (by simp [h])).1

theorem writeAllList_benign (bs : Bytes) (s : Sink) (hb : Benign s.script) :
    (writeAllList bs s).2 = .ok () ∧ (writeAllList bs s).1.out = s.out ++ bs.toArray ∧
    Benign (writeAllList bs s).1.script := by
  have ok : (writeAllList bs s).2 = .ok () := by
    fun_induction writeAllList bs s with
    | case1 bs s h => rfl
    | case2 bs s h s' e hw =>
      obtain ⟨n, h1, _⟩ := Sink.write1_benign s bs hb (by simpa using h)
      simp [hw] at h1
    | case3 bs s h s' hw =>
      obtain ⟨n, h1, h2, _⟩ := Sink.write1_benign s bs hb (by simpa using h)
      simp [hw] at h1; omega
    | case4 bs s h s' n hw hn hge => rfl
    | case5 bs s h s' n hw hn hlt ih =>
      obtain ⟨_, _, _, h3⟩ := Sink.write1_benign s bs hb (by simpa using h)
      rw [hw] at h3
      exact ih h3
  -- bytes and remaining script: from the specification under every script
  obtain ⟨⟨used, hu⟩, h | ⟨h, _⟩⟩ := writeAllList_spec bs s
  · exact ⟨ok, h.2, fun b hb' => hb b (by rw [hu]; exact List.mem_append_right _ hb')⟩
  · rw [ok] at h; cases h

/-- `upto 0` on a non-empty buffer is the `WriteZero` error; nothing is delivered -/
theorem writeAllList_upto_zero (bs : Bytes) (s : Sink) (rest : List SinkBeh)
    (h : s.script = .upto 0 :: rest) (hne : bs ≠ []) :
    (writeAllList bs s).2 = .error .io ∧ (writeAllList bs s).1.out = s.out ∧
    (writeAllList bs s).1.script = rest := by
  rw [writeAllList.eq_1]
  cases bs with
  | nil => exact absurd rfl hne
  | cons b bs => simp [Sink.write1, h]

theorem writeAllList_fail (bs : Bytes) (s : Sink) (rest : List SinkBeh)
    (h : s.script = .fail :: rest) (hne : bs ≠ []) :
    (writeAllList bs s).2 = .error .io ∧ (writeAllList bs s).1.out = s.out ∧
    (writeAllList bs s).1.script = rest := by
  rw [writeAllList.eq_1]
  cases bs with
  | nil => exact absurd rfl hne
  | cons b bs => simp [Sink.write1, h]

theorem take_toArray_eq_extract (bs : Array UInt8) (k : Nat) :
    (bs.toList.take k).toArray = bs.extract 0 k := by
  apply Array.ext' ; simp

theorem writeAll_eq_list (bs : Array UInt8) (s : Sink) :
    ((writeAll bs s).2 = (writeAllList bs.toList s).2) ∧
    ((writeAll bs s).1.out = (writeAllList bs.toList s).1.out) ∧
    ((writeAll bs s).1.script = (writeAllList bs.toList s).1.script) := by
  unfold writeAll
  by_cases h1 : bs.isEmpty
  · have : bs.toList = [] := by simpa using h1
    rw [writeAllList.eq_1]; simp [h1, this]
  · by_cases h2 : s.script.isEmpty
    · have h2' : s.script = [] := by simpa using h2
      have := writeAllList_clean bs.toList s h2'
      simp [h1, this, h2']
    · simp [h1, h2]

theorem writeAll_spec (bs : Array UInt8) (s : Sink) :
    (∃ used, s.script = used ++ (writeAll bs s).1.script) ∧
    (((writeAll bs s).2 = .ok () ∧ (writeAll bs s).1.out = s.out ++ bs) ∨
     ((writeAll bs s).2 = .error .io ∧
        ∃ k, k < bs.size ∧ (writeAll bs s).1.out = s.out ++ bs.extract 0 k)) := by
  obtain ⟨e1, e2, e3⟩ := writeAll_eq_list bs s
  have := writeAllList_spec bs.toList s
  rw [e1, e2, e3]
  simpa [take_toArray_eq_extract] using this

theorem writeAll_clean (bs : Array UInt8) (s : Sink) (h : s.script = []) :
    (writeAll bs s).2 = .ok () ∧ (writeAll bs s).1.script = [] ∧
    (writeAll bs s).1.out = s.out ++ bs := by
  obtain ⟨e1, e2, e3⟩ := writeAll_eq_list bs s
  have := writeAllList_clean bs.toList s h
  rw [e1, e2, e3]; simpa using this

theorem writeAll_benign (bs : Array UInt8) (s : Sink) (hb : Benign s.script) :
    (writeAll bs s).2 = .ok () ∧ (writeAll bs s).1.out = s.out ++ bs ∧
    Benign (writeAll bs s).1.script := by
  obtain ⟨e1, e2, e3⟩ := writeAll_eq_list bs s
  have := writeAllList_benign bs.toList s hb
  rw [e1, e2, e3]; simpa using this

theorem writeBytes_spec (bs : Bytes) (s : Sink) :
    (∃ used, s.script = used ++ (writeBytes bs s).1.script) ∧
    (((writeBytes bs s).2 = .ok () ∧ (writeBytes bs s).1.out = s.out ++ bs.toArray) ∨
     ((writeBytes bs s).2 = .error .io ∧
        ∃ k, k < bs.length ∧ (writeBytes bs s).1.out = s.out ++ (bs.take k).toArray)) := by
  have := writeAll_spec bs.toArray s
  unfold writeBytes
  simpa [← take_toArray_eq_extract] using this

theorem writeBytes_clean (bs : Bytes) (s : Sink) (h : s.script = []) :
    (writeBytes bs s).2 = .ok () ∧ (writeBytes bs s).1.script = [] ∧
    (writeBytes bs s).1.out = s.out ++ bs.toArray := writeAll_clean bs.toArray s h

theorem flushSink_spec (s : Sink) :
    (flushSink s).1.out = s.out ∧ (flushSink s).1.script = s.script.tail ∧
    (flushSink s).1.flushes = s.flushes + 1 ∧
    (((flushSink s).2 = .ok () ∧ (flushSink s).1.lastFlush = true ∧ s.script.head? ≠ some .fail) ∨
     ((flushSink s).2 = .error .io ∧ (flushSink s).1.lastFlush = s.lastFlush ∧
        s.script.head? = some .fail)) := by
  unfold flushSink; split <;> simp_all

/-! ## the sink that accepts everything -/

/-- every raw call on the sink accepts everything -/
def Sink.Perfect (s : Sink) : Prop := s.script = []

instance (s : Sink) : Decidable s.Perfect := inferInstanceAs (Decidable (s.script = []))

theorem Sink.ext' {s t : Sink} (h1 : s.out = t.out) (h2 : s.script = t.script)
    (h3 : s.writes = t.writes) (h4 : s.flushes = t.flushes) (h5 : s.lastFlush = t.lastFlush) :
    s = t := by
  cases s; cases t; simp_all

theorem writeAll_perfect {s : Sink} (hs : s.Perfect) {bs : Array UInt8} (hne : bs.isEmpty = false) :
    writeAll bs s =
      ({ s with out := s.out ++ bs, writes := s.writes + 1, lastFlush := false }, .ok ()) := by
  have hs' : s.script = [] := hs
  simp [writeAll, hne, hs']

theorem flushSink_perfect {s : Sink} (hs : s.Perfect) :
    flushSink s = ({ s with flushes := s.flushes + 1, lastFlush := true }, .ok ()) := by
  have hs' : s.script = [] := hs
  simp [flushSink, hs']

end Lzma
