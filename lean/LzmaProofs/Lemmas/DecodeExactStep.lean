/-
  The coupling invariant `DecEnc` between the decoder state, its window and the reference encoder's
  state.  Under it the decoder's context `mkCtx` is the encoder's `EncSt.ctx`, and `applySym` on
  `sym.toRaw` performs `SpecSt.step`.
-/
import LzmaProofs.Lemmas.DecodeExactWin
import LzmaProofs.Lemmas.RcProbs
import LzmaProofs.Lemmas.SafetyLoop
namespace Lzma
open DState

variable {ω : Type} [LzBuf ω]

/-- Coupling invariant between the decoder (`s`, window `w`, sink `k`) and the reference
encoder / spec state `es`.  Nothing is assumed about where the coder starts: adapted
probabilities, non-zero `state`/`rep` and a non-empty history are all allowed (LZMA2 chunks
continue like that).  `mb`: after a match (`state ≥ 7`) the remembered distance `rep0 + 1` lies
inside the history and the window limit, so the matched-literal read `last_n(rep0 + 1)`
succeeds. -/
structure DecEnc (M : WinModel ω) (s : DState) (w : ω) (k : Sink) (es : EncSt) : Prop where
  probs : s.probs = es.probs
  props : s.props = es.props
  state : s.state = es.spec.state
  rep0 : s.rep0 = es.spec.rep0
  rep1 : s.rep1 = es.spec.rep1
  rep2 : s.rep2 = es.spec.rep2
  rep3 : s.rep3 = es.spec.rep3
  lc : es.props.lc ≤ 8
  litsz : es.probs.lit.size = (1 <<< (es.props.lc + es.props.lp)) * 0x300
  pok : ProbsOk es.probs
  win : M.Rep w es.spec.hist.toList k
  mb : es.spec.state ≥ 7 → es.spec.rep0 + 1 ≤ es.spec.hist.size ∧ es.spec.rep0 + 1 ≤ M.lim

theorem getLast_toNat (hist : Array UInt8) :
    (hist.toList.getLast?.getD 0).toNat =
      if hist.size = 0 then 0 else (hist[hist.size - 1]?.getD 0).toNat := by
  rw [List.getLast?_eq_getElem?, Array.length_toList, Array.getElem?_toList]
  by_cases h : hist.size = 0
  · rw [if_pos h, Array.getElem?_eq_none (by omega)]; rfl
  · rw [if_neg h]

theorem DecEnc.ctx {M : WinModel ω} {s : DState} {w : ω} {k : Sink} {es : EncSt}
    (h : DecEnc M s w k es) (raw : RawSym) : CtxMatch (s.mkCtx w) es.ctx raw := by
  have hlen : LzBuf.len w = es.spec.hist.size := by rw [M.len h.win, Array.length_toList]
  refine ⟨h.state, ?_, fun _ => ?_, fun _ hst => ?_⟩
  · show LzBuf.len w &&& _ = es.spec.hist.size &&& _
    rw [hlen, h.props]
  · have hb := Safety.litRow_bound (len := es.spec.hist.size) (lp := es.props.lp) h.lc
      (es.spec.hist.toList.getLast?.getD 0).toNat_lt
    rw [getLast_toNat] at hb
    have hrow : es.ctx.litRow * 0x300 + 0x300 ≤ es.probs.lit.size := by
      rw [h.litsz, Nat.shiftLeft_eq, Nat.one_mul]
      exact Nat.succ_mul .. ▸ Nat.mul_le_mul_right _ hb
    simp only [mkCtx, M.lastOr 0 h.win, hlen, h.props, h.probs, Safety.subChk_safe h.lc, bind,
      Except.bind, getLast_toNat]
    exact if_pos hrow
  · obtain ⟨h1, h2⟩ := h.mb hst
    have hlt : es.spec.hist.size - (es.spec.rep0 + 1) < es.spec.hist.size := by omega
    simp only [mkCtx, h.rep0, M.lastN h.win (Nat.le_add_left 1 _) h2 (Array.length_toList ▸ h1), bind,
      Except.bind, pure, Except.pure]
    show Except.ok _ = Except.ok (es.spec.hist[es.spec.hist.size - (es.spec.rep0 + 1)]?.getD 0).toNat
    simp [Array.getElem?_eq_getElem hlt]

theorem Sym.toRaw_wf {dict : Nat} {st st' : SpecSt} {sym : Sym} {b : Bool}
    (h : SpecSt.step dict st sym = some (st', b)) : sym.toRaw.WF := by
  rcases SpecSt.step_some h with ⟨x, rfl, -⟩ | ⟨rfl, -⟩ | ⟨r, n, c, hc, -⟩
  · exact x.toNat_lt
  · decide
  · exact (SpecSt.copyOf_bounds hc).2.2

theorem DecEnc.withProbs {M : WinModel ω} {s : DState} {w : ω} {k : Sink} {es : EncSt}
    (h : DecEnc M s w k es) {p : Probs} (hp : ProbsOk p) (hsz : p.lit.size = es.probs.lit.size) :
    DecEnc M { s with probs := p } w k { es with probs := p } :=
  { h with probs := rfl, litsz := hsz.trans h.litsz, pok := hp }

/-- the only place where `applySym` is unfolded on copies -/
theorem DecEnc.applySym_copy {M : WinModel ω} {s : DState} {w : ω} {k : Sink} {es : EncSt}
    (h : DecEnc M s w k es) {sym : Sym} {r : SpecSt} {n : Nat}
    (hc : es.spec.copyOf sym = some (r, n)) (rc : RC) (rd : Rd) :
    applySym s w rc rd sym.toRaw k =
      (LzBuf.appendLz w n (r.rep0 + 1) >>= fun w' =>
        pure (.continue, { s with rep0 := r.rep0, rep1 := r.rep1, rep2 := r.rep2, rep3 := r.rep3,
                                  state := r.state }, w')) k := by
  cases sym with
  | lit x => cases hc
  | eos => cases hc
  | shortRep =>
    cases hc
    simp only [Sym.toRaw, applySym, h.state, h.rep0, h.rep1, h.rep2, h.rep3]
  | mtch dist len =>
    simp only [SpecSt.copyOf] at hc
    split at hc <;> cases hc
    have e1 : n - 2 + 2 = n := by omega
    have e2 : dist - 1 + 1 = dist := by omega
    have e3 : ¬ dist - 1 = 0xFFFFFFFF := by omega
    simp only [Sym.toRaw, applySym, e3, if_false, e1, e2, h.state, h.rep0, h.rep1, h.rep2]
  | rep idx len =>
    simp only [SpecSt.copyOf] at hc
    split at hc <;> cases hc
    have e1 : n - 2 + 2 = n := by omega
    have hidx : idx = 0 ∨ idx = 1 ∨ idx = 2 ∨ idx = 3 := by omega
    rcases hidx with rfl | rfl | rfl | rfl <;>
      simp only [Sym.toRaw, applySym, SpecSt.rotate, e1, h.state, h.rep0, h.rep1, h.rep2, h.rep3]

theorem DecEnc.apply_step {M : WinModel ω} {s : DState} {w : ω} {k : Sink} {es : EncSt}
    (h : DecEnc M s w k es) {dict : Nat} (hdict : dict ≤ M.lim) {sym : Sym} {spec' : SpecSt}
    (hstep : SpecSt.step dict es.spec sym = some (spec', false))
    (hfit : M.Fits spec'.hist.size) (rc : RC) (rd : Rd) :
    ∃ s' w' k', applySym s w rc rd sym.toRaw k = (k', .ok (.continue, s', w')) ∧
      DecEnc M s' w' k' { es with spec := spec' } := by
  rcases SpecSt.step_some hstep with ⟨b, rfl, rfl, -⟩ | ⟨-, -, hb⟩ | ⟨r, n, c, hc, hd, hcopy, rfl, -⟩
  · obtain ⟨w', k', ha, hrep⟩ := M.appendLiteral b h.win (by simpa using hfit)
    refine ⟨{ s with state := if s.state < 4 then 0 else if s.state < 10 then s.state - 3
        else s.state - 6 }, w', k', ?_, ?_⟩
    · simp only [Sym.toRaw, applySym, bind_run, UInt8.ofNat_toNat, ha, pure_run]
    · refine { h with state := ?_, win := by simpa using hrep, mb := fun hge => ?_ }
      · simp only [SpecSt.litState, h.state]
      · obtain ⟨h1, h2⟩ := h.mb (Nat.le_trans hge (SpecSt.litState_le _))
        exact ⟨by simp only [Array.size_push]; omega, h2⟩
  · cases hb
  · have hsz := SpecSt.copy_size hcopy
    obtain ⟨hdist, hc'⟩ := SpecSt.copy_spec _ _ _ _ hcopy
    have hn := (SpecSt.copyOf_bounds hc).1
    have hlen : es.spec.hist.toList.length = es.spec.hist.size := Array.length_toList
    obtain ⟨w', k', ha, hrep⟩ := M.appendLz n (d := r.rep0 + 1) h.win (by omega) (by omega)
      (by omega) (by rw [hlen, ← hsz]; exact hfit)
    refine ⟨_, w', k', by rw [h.applySym_copy hc, bind_run_ok ha]; rfl, ?_⟩
    exact { h with state := rfl, rep0 := rfl, rep1 := rfl, rep2 := rfl, rep3 := rfl,
                   win := by rw [hc']; exact hrep,
                   mb := fun _ => show r.rep0 + 1 ≤ c.size ∧ r.rep0 + 1 ≤ M.lim by omega }

end Lzma
