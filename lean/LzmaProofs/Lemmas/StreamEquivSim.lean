/-
  C05 — the core of the data phase: one run of the `.stream` loop (one `read_data`) is simulated by
  the one-shot `.finish` loop on the concatenated input.  The 20-byte bound `Need20` with
  its proof `need20`; verdict equivalence `Veq`; `stream_iter` relates one iteration of the
  `.stream` loop to one iteration of the one-shot loop; the simulation (`stream_loop_sim`)
  (verdict clause and trace clause of `SimPost`) is one induction over it.
-/
import LzmaProofs.Lemmas.StreamEquivLoop
import LzmaProofs.Lemmas.ProcessMode
namespace Lzma
namespace StreamEq

open DState Safety

/-- The 20-byte bound.  With valid probability tables (`31 ≤ p ≤ 2017`),
a normalised range (`2^24 ≤ range < 2^32`) and at least 20 bytes of input,
decoding one symbol never runs out of input — for every context whose two
precomputed window reads do not themselves report `eof` (they never do: a window
read fails with `lzma` or a panic).  A symbol shrinks `range` by less than 160
bits.  Proved below (`need20`) and used through `not_eof`; the theorems of `Props/C05.lean` named
`…_partial` still take it as a hypothesis, which their proofs do not use. -/
def Need20 : Prop :=
  ∀ (c : Ctx) (p : Probs) (rc : RC) (a : Bytes), c.litRow ≠ .error .eof → c.matchByte ≠ .error .eof →
    ProbsInv p → RCInv rc → 20 ≤ a.length →
    runDec true (symTree c) p rc ⟨a, false⟩ ≠ .error .eof

/-- `CtxNoEnd` of `Lemmas/Need20Sym.lean` also rules out `.io`, which `Need20` does not: a window
read that failed with `.io` might as well have failed with `.lzma` -/
def noIo : Except Err Nat → Except Err Nat
  | .error .io => .error .lzma
  | x => x

theorem noIo_noEnd {x : Except Err Nat} (h : x ≠ .error .eof) :
    ∀ e, noIo x = .error e → Need20.NoEnd e := by
  intro e he
  rcases x with (_ | _) | v <;>
    first | exact absurd rfl h | (cases he; simp [Need20.NoEnd]) | cases he

/-- the symbol tree demands a failed window read as a `.fail` leaf, so a run that ends in `.eof`
does so whatever the error of the read -/
theorem symTree_noIo {c : Ctx} (h1 : c.litRow ≠ .error .eof) (h2 : c.matchByte ≠ .error .eof)
    {p : Probs} {rc : RC} {rd : Rd} (h : runDec true (symTree c) p rc rd = .error .eof) :
    runDec true (symTree { c with litRow := noIo c.litRow, matchByte := noIo c.matchByte }) p rc rd =
      .error .eof := by
  unfold symTree at h ⊢
  simp only [runDec] at h ⊢
  split at h
  · exact h
  · split at h
    · exact h
    · rename_i b _ _ _ _
      cases b
      · simp only [Bool.not_false, if_true] at h ⊢
        rcases hl : c.litRow with e | row
        · rw [hl] at h; cases h; exact absurd hl h1
        · rw [hl] at h
          by_cases h7 : c.state ≥ 7
          · rcases hm : c.matchByte with e | mb
            · simp only [hm, h7, ↓reduceIte, Coder.bind, runDec] at h; cases h; exact absurd hm h2
            · rw [hm] at h; exact h
          · simp only [h7, ↓reduceIte] at h ⊢; exact h
      · exact h

/-- The 20-byte bound holds: the instance `N = 20` of the byte count of
`Lemmas/Need20.lean` for the path bounds of `symTree` (22 probability + 26 direct bits, or 23 + 0). -/
theorem need20 : Need20 := by
  intro c p rc a h1 h2 hp hrc hlen he
  have hc : Need20.CtxNoEnd { c with litRow := noIo c.litRow, matchByte := noIo c.matchByte } :=
    ⟨noIo_noEnd h1, noIo_noEnd h2⟩
  exact (Need20.runDec_bytes_le Need20.probs_storeOk true (Need20.symTree_pathBound hc)
    Need20.symP_dom Need20.need20_num hp hrc (rd := ⟨a, false⟩)).1 hlen (symTree_noIo h1 h2 he)

/-! ## verdict equivalence -/

def IsErr {α : Type} (x : Sink × Except Err α) : Prop := ∃ e, x.2 = .error e

/-- same verdict: both fail, or identical results (sink included) -/
def Veq (x y : Sink × Except Err Unit) : Prop := (IsErr x ∧ IsErr y) ∨ x = y

theorem Veq.refl (x : Sink × Except Err Unit) : Veq x x := .inr (Eq.refl x)
theorem Veq.of_eq {x y : Sink × Except Err Unit} (h : x = y) : Veq x y := .inr h
theorem Veq.symm {x y : Sink × Except Err Unit} (h : Veq x y) : Veq y x := by
  rcases h with ⟨h1, h2⟩ | h
  · exact .inl ⟨h2, h1⟩
  · exact .inr h.symm
theorem Veq.trans {x y z : Sink × Except Err Unit} (h1 : Veq x y) (h2 : Veq y z) : Veq x z := by
  rcases h1 with ⟨a, b⟩ | rfl
  · rcases h2 with ⟨_, d⟩ | rfl
    · exact .inl ⟨a, d⟩
    · exact .inl ⟨a, b⟩
  · exact h2
theorem Veq.isErr {x y : Sink × Except Err Unit} (h : Veq x y) (hy : IsErr y) : IsErr x := by
  rcases h with ⟨a, _⟩ | rfl
  · exact a
  · exact hy
theorem Veq.isErr' {x y : Sink × Except Err Unit} (h : Veq x y) (hx : IsErr x) : IsErr y :=
  h.symm.isErr hx

theorem Veq.ok_iff {x y : Sink × Except Err Unit} (h : Veq x y) :
    (∃ a, x.2 = .ok a) ↔ ∃ a, y.2 = .ok a := by
  rcases h with ⟨⟨e1, h1⟩, ⟨e2, h2⟩⟩ | rfl
  · rw [h1, h2]; simp
  · exact Iff.rfl

theorem Veq.eq_of_ok {x y : Sink × Except Err Unit} (h : Veq x y) (hx : ∃ a, x.2 = .ok a) : x = y := by
  rcases h with ⟨⟨e1, h1⟩, _⟩ | h
  · rw [h1] at hx; simp at hx
  · exact h

theorem isErr_mk {α : Type} (k : Sink) (e : Err) : IsErr ((k, .error e) : Sink × Except Err α) := ⟨e, rfl⟩

def clr (s : DState) : DState := { s with partialBuf := [] }

/-- the unpacked size is known and reached: every loop stops at once -/
def StopNow (s : DState) (w : Circ) : Prop := ∃ n, s.unpackedSize = some n ∧ n ≤ w.len

theorem clr_inv {s : DState} {w : Circ} {rc : RC} (h : Inv s w rc) : Inv (clr s) w rc :=
  ⟨h.ds.of_eq rfl h.ds.state rfl (by simp [clr]), h.cw, h.dict, h.rc⟩

theorem setpb_inv {s : DState} {w : Circ} {rc : RC} (h : Inv s w rc) {x : Bytes} (hx : x.length ≤ 20) :
    Inv { s with partialBuf := x } w rc :=
  ⟨h.ds.of_eq rfl h.ds.state rfl hx, h.cw, h.dict, h.rc⟩

theorem stopB_finish_nil {s : DState} (hpb : s.partialBuf = []) (w : Circ) (rc : RC) (R : Bytes) :
    stopB .finish s w rc R =
      match s.unpackedSize with
      | some n => decide (w.len ≥ n)
      | none => (rc.code == 0 && R.isEmpty) := by
  unfold stopB
  cases s.unpackedSize <;> simp [hpb]

theorem stopB_finish_clr (s : DState) (w : Circ) (rc : RC) (R : Bytes) :
    stopB .finish (clr s) w rc R =
      match s.unpackedSize with
      | some n => decide (w.len ≥ n)
      | none => (rc.code == 0 && R.isEmpty) :=
  stopB_finish_nil (s := clr s) rfl w rc R

theorem stop_rel {s : DState} {w : Circ} {rc : RC} {a : Bytes}
    (h : stopB .stream s w rc a = false) (F : Bytes) :
    stopB .finish (clr s) w rc (s.partialBuf ++ a ++ F) = false := by
  rw [stopB_finish_clr]
  unfold stopB at h
  cases hu : s.unpackedSize with
  | some n => rw [hu] at h; exact h
  | none =>
    rw [hu] at h
    simp only at h ⊢
    have : (s.partialBuf ++ a ++ F).isEmpty = false := by
      cases hp : s.partialBuf with
      | cons x r => rfl
      | nil =>
        cases ha : a with
        | cons x r => rfl
        | nil => simp [hp, ha] at h
    rw [this, Bool.and_false]

theorem stopNow_stop {mode : Mode} {s : DState} {w : Circ} (rc : RC) (a : Bytes) (h : StopNow s w) :
    stopB mode s w rc a = true := by
  obtain ⟨n, h1, h2⟩ := h
  unfold stopB
  rw [h1]
  simp [h2]

theorem processNext_clr (s : DState) (w : Circ) (rc : RC) (rd : Rd) (snk : Sink) :
    processNext (clr s) w rc rd snk = setPB [] (processNext s w rc rd snk) :=
  processNext_pbuf s [] w rc rd snk

/-! ## after the marker -/

theorem processNext_doomed_err {s : DState} {w : Circ} {rc : RC} (hI : Inv s w rc)
    (hcode : rc.code = 0) (hrep : s.rep0 = 0xFFFFFFFF) (hstate : 7 ≤ s.state) (rd : Rd) (snk : Sink) :
    ∃ e, processNext s w rc rd snk = (snk, .error e) := by
  have hr := hI.rc.1
  obtain ⟨e, he⟩ := after_marker_continuation_errs true s w rc rd hcode hrep hstate hI.dict
    (by omega) (fun v hg => by have := (Need20.probs_storeOk.get_ok _ _ v hI.ds.probs hg).1; omega)
  exact ⟨e, by rw [processNext_eq, he]⟩

/-! ## the one-shot side of a symbol -/

theorem setPB_ok (x : Bytes) (k : Sink) (st : Status) (s' : DState) (w' : Circ) (rc' : RC) (rd' : Rd) :
    setPB x (k, .ok (st, s', w', rc', rd')) = (k, .ok (st, { s' with partialBuf := x }, w', rc', rd')) := rfl

theorem setPB_err {β : Type} (x : Bytes) (k : Sink) (e : Err) :
    setPB (β := β) x (k, .error e) = (k, .error e) := rfl

theorem clr_of_nil {s : DState} (h : s.partialBuf = []) : clr s = s := by
  cases s
  simp only [clr] at h ⊢
  subst h
  rfl

/-- the end marker decoded from exactly `X` (nothing staged): with more input `Y` behind it both
one-shot tails fail, with none both end in the size check -/
theorem fin_marker {s s' : DState} {w : Circ} {rc rc' : RC} {X Y : Bytes} {snk : Sink}
    (hI : Inv s w rc) (hpb : s.partialBuf = []) (hstop : stopB .finish s w rc (X ++ Y) = false)
    (h : processNext s w rc ⟨X, false⟩ snk = (snk, .ok (.finished, s', w, rc', ⟨[], false⟩)))
    (hcode : rc'.code = 0) (hrep : s'.rep0 = 0xFFFFFFFF) (hstate : 7 ≤ s'.state)
    (hb : ∀ b, b ≠ [] → processNext s w rc ⟨X ++ b, false⟩ snk = (snk, .error .lzma)) :
    Veq (fin s w rc (X ++ Y) snk) (fin s' w rc' Y snk) := by
  obtain ⟨hI', _, _, _, hpb', hus⟩ := processNext_inv hI h
  have hpb2 : s'.partialBuf = [] := hpb'.trans hpb
  have hdoom : ∀ R, stopB .finish s' w rc' R = false → IsErr (fin s' w rc' R snk) := by
    intro R hst
    obtain ⟨e, he⟩ := processNext_doomed_err hI' hcode hrep hstate ⟨R, false⟩ snk
    rw [fin_next_err hI' hpb2 hst he]
    exact isErr_mk _ _
  by_cases hY : Y = []
  · subst hY
    rw [List.append_nil] at hstop ⊢
    rw [fin_next_fin hI hpb hstop h]
    cases hst : stopB .finish s' w rc' [] with
    | true => rw [fin_stop snk hI' hst]; exact .inr rfl
    | false =>
      refine .inl ⟨?_, hdoom [] hst⟩
      rw [stopB_finish_nil hpb2] at hst
      cases hu : s'.unpackedSize with
      | none => rw [hu] at hst; simp [hcode] at hst
      | some n =>
        rw [hu] at hst
        have : n ≠ w.len := by simp at hst; omega
        exact ⟨.lzma, by simp [postOf, this]⟩
  · refine .inl ⟨?_, hdoom Y ?_⟩
    · rw [fin_next_err hI hpb hstop (hb Y hY)]
      exact isErr_mk _ _
    · rw [stopB_finish_nil hpb] at hstop
      rw [stopB_finish_nil hpb2, hus]
      cases hu : s.unpackedSize with
      | some n => rw [hu] at hstop; exact hstop
      | none =>
        have : Y.isEmpty = false := by cases Y <;> simp_all
        simp [this]

/-! ## one-shot configurations and steps -/

/-- the one-shot configuration with decoder state `s` (nothing staged), remaining input `R` -/
def cfg (s : DState) (w : Circ) (rc : RC) (R : Bytes) (snk : Sink) : Cfg Circ :=
  ⟨clr s, w, rc, ⟨R, false⟩, snk⟩

def NoStep (c : Cfg Circ) : Prop := ∀ c', ¬ FinishSteps c 1 c'

theorem steps_trans {a b c : Cfg Circ} {i j : Nat} (h1 : FinishSteps a i b) (h2 : FinishSteps b j c) :
    FinishSteps a (i + j) c := by
  induction h1 with
  | refl _ => simpa using h2
  | @step _ _ _ _ _ _ k _ hstop hfill hn _ ih =>
    have := FinishSteps.step hstop hfill hn (ih h2)
    rwa [show k + 1 + j = k + j + 1 by omega]

theorem steps_one {s s1 : DState} {w w1 : Circ} {rc rc1 : RC} {R R1 : Bytes} {snk k : Sink}
    (hstop : stopB .finish (clr s) w rc R = false)
    (h : processNext (clr s) w rc ⟨R, false⟩ snk = (k, .ok (.continue, clr s1, w1, rc1, ⟨R1, false⟩))) :
    FinishSteps (cfg s w rc R snk) 1 (cfg s1 w1 rc1 R1 k) := by
  refine .step ?_ (by simp [cfg, Rd.fillBuf]) h (.refl _)
  show stopTest .finish (clr s) w rc ⟨R, false⟩ = .ok false
  rw [stop_eq, hstop]

theorem nostep_stop {s : DState} {w : Circ} {rc : RC} {R : Bytes} (snk : Sink)
    (h : stopB .finish (clr s) w rc R = true) : NoStep (cfg s w rc R snk) := by
  intro c' hs
  cases hs with
  | step hstop _ _ _ =>
    have : stopTest .finish (clr s) w rc ⟨R, false⟩ = .ok false := hstop
    rw [stop_eq, h] at this
    cases this

theorem nostep_next {s : DState} {w : Circ} {rc : RC} {R : Bytes} {snk : Sink}
    (h : ∀ k s1 w1 rc1 rd1, processNext (clr s) w rc ⟨R, false⟩ snk ≠ (k, .ok (.continue, s1, w1, rc1, rd1))) :
    NoStep (cfg s w rc R snk) := by
  intro c' hs
  cases hs with
  | step _ _ hn _ => exact h _ _ _ _ _ hn

theorem nostep_stopNow {s : DState} {w : Circ} (rc : RC) (R : Bytes) (snk : Sink) (h : StopNow s w) :
    NoStep (cfg s w rc R snk) :=
  nostep_stop snk (stopNow_stop (s := clr s) rc R h)

/-- how far a `.stream` run that started with staged bytes can leave its input `a` unread:
at least what `read_partial_input_buf` moved to the stage is gone -/
def Absorbed (s : DState) (a a' : Bytes) : Prop :=
  s.partialBuf ≠ [] ∧ a'.length + min (20 - s.partialBuf.length) a.length ≤ a.length

/-- what a `.stream` run leaves unread (`a'`) of its input `a`: nothing, or the
size is reached (everything after is ignored), or the run started with staged bytes -/
def Tail (s : DState) (a : Bytes) (s' : DState) (w' : Circ) (a' : Bytes) : Prop :=
  a' = [] ∨ StopNow s' w' ∨ Absorbed s a a'

/-- the simulation statement for a result of the `.stream` loop started in `(s, w, rc)` on the
local input `a` with sink `snk`; `F` is any future input.  On success the one-shot tail from the
returned state has the verdict of the one-shot tail from the start, and unless that verdict is an
error the returned state is a configuration of the one-shot loop reached from the start
configuration by `j` full iterations — or the end marker was decoded at the very end of the input. -/
def SimPost (s : DState) (w : Circ) (rc : RC) (a : Bytes) (snk : Sink)
    (res : Sink × Except Err (DState × Circ × RC × Rd)) : Prop :=
  match res with
  | (_, Except.error _) => ∀ F, IsErr (fin (clr s) w rc (s.partialBuf ++ a ++ F) snk)
  | (snk', Except.ok (s', w', rc', rd')) =>
    rd'.bad = false ∧ Inv s' w' rc' ∧ s'.unpackedSize = s.unpackedSize ∧ rd'.rem <:+ a ∧
    Tail s a s' w' rd'.rem ∧ (s'.partialBuf.length < 20 ∨ StopNow s' w') ∧
    ∀ F, Veq (fin (clr s) w rc (s.partialBuf ++ a ++ F) snk)
             (fin (clr s') w' rc' (s'.partialBuf ++ rd'.rem ++ F) snk') ∧
      (¬ IsErr (fin (clr s) w rc (s.partialBuf ++ a ++ F) snk) →
        ∃ j c, FinishSteps (cfg s w rc (s.partialBuf ++ a ++ F) snk) j c ∧ c.w = w' ∧ c.snk = snk' ∧
          (c = cfg s' w' rc' (s'.partialBuf ++ rd'.rem ++ F) snk' ∨
           (NoStep c ∧ s'.partialBuf = [] ∧ rd'.rem ++ F = [])))

/-- a first iteration that decodes a symbol, whatever follows, in front of a run -/
theorem SimPost_step {s : DState} {w : Circ} {rc : RC} {a : Bytes} {snk : Sink}
    {s2 : DState} {w2 : Circ} {rc2 : RC} {a2 : Bytes} {k : Sink}
    (res : Sink × Except Err (DState × Circ × RC × Rd))
    (hus : s2.unpackedSize = s.unpackedSize) (hsuf : a2 <:+ a)
    (heq : ∀ F, fin (clr s) w rc (s.partialBuf ++ a ++ F) snk =
      fin (clr s2) w2 rc2 (s2.partialBuf ++ a2 ++ F) k)
    (hst : ∀ F, FinishSteps (cfg s w rc (s.partialBuf ++ a ++ F) snk) 1
      (cfg s2 w2 rc2 (s2.partialBuf ++ a2 ++ F) k))
    (htail : ∀ s' w' a', Tail s2 a2 s' w' a' → a' <:+ a2 → Tail s a s' w' a')
    (h : SimPost s2 w2 rc2 a2 k res) : SimPost s w rc a snk res := by
  rcases res with ⟨k2, r⟩
  cases r with
  | error e =>
    intro F
    rw [heq F]
    exact h F
  | ok y =>
    obtain ⟨s', w', rc', rd'⟩ := y
    obtain ⟨h1, h2, h3, h4, h5, h6, h7⟩ := h
    refine ⟨h1, h2, h3.trans hus, h4.trans hsuf, htail _ _ _ h5 h4, h6, fun F => ?_⟩
    rw [heq F]
    refine ⟨(h7 F).1, fun hok => ?_⟩
    obtain ⟨j, c, t1, t2⟩ := (h7 F).2 hok
    exact ⟨1 + j, c, steps_trans (hst F) t1, t2⟩

/-- dry-run fidelity: `try_process_next` succeeds exactly when the real bit-level
decoding of the next symbol succeeds -/
theorem try_iff {s : DState} (w : Circ) (buf : Bytes) (rc : RC) (hp : ProbsInv s.probs) :
    tryProcessNext s w buf rc = true ↔ ∃ r, dec1 s w rc ⟨buf, false⟩ = .ok r := by
  have h := runDec_update_irrelevant_aux (symTree (s.mkCtx w)) (fun _ => False)
    (symTree_nodup_lemma _) s.probs s.probs
    (fun i v hg => by have := (Need20.probs_storeOk.get_ok _ i v hp hg).2; omega) (fun _ _ => rfl) rc ⟨buf, false⟩
  unfold tryProcessNext dec1
  show (match runDec false (symTree (s.mkCtx w)) s.probs rc ⟨buf, false⟩ with
    | .ok _ => true | .error _ => false) = true ↔ _
  cases hF : runDec false (symTree (s.mkCtx w)) s.probs rc ⟨buf, false⟩ with
  | error e =>
    cases hT : runDec true (symTree (s.mkCtx w)) s.probs rc ⟨buf, false⟩ with
    | error e' => simp
    | ok r => rw [hF, hT] at h; simp [Except.map] at h
  | ok r =>
    cases hT : runDec true (symTree (s.mkCtx w)) s.probs rc ⟨buf, false⟩ with
    | error e' => rw [hF, hT] at h; simp [Except.map] at h
    | ok r' => simp

theorem not_eof {s : DState} {w : Circ} {rc : RC} (hI : Inv s w rc) (X : Bytes)
    (hc : ¬ (X.length < 20 ∧ tryProcessNext s w X rc = false)) :
    dec1 s w rc ⟨X, false⟩ ≠ .error .eof := by
  intro he
  by_cases hl : X.length < 20
  · have ht : tryProcessNext s w X rc = true := by
      cases h : tryProcessNext s w X rc
      · exact absurd ⟨hl, h⟩ hc
      · rfl
    obtain ⟨r, hr⟩ := (try_iff w X rc hI.ds.probs).mp ht
    rw [hr] at he
    cases he
  · have hc := Need20.mkCtx_noEnd_circ s w
    exact need20 _ _ _ _ (fun h => (hc.litRow _ h).1 rfl) (fun h => (hc.matchByte _ h).1 rfl)
      hI.ds.probs hI.rc (by omega) he

theorem stop_true_cases {s : DState} {w : Circ} {rc : RC} {a : Bytes}
    (h : stopB .stream s w rc a = true) : StopNow s w ∨ (a = [] ∧ s.partialBuf = []) := by
  unfold stopB at h
  cases hu : s.unpackedSize with
  | some n =>
    rw [hu] at h
    left
    exact ⟨n, hu, by simpa using h⟩
  | none =>
    rw [hu] at h
    right
    simpa using h

/-- One iteration of the `.stream` loop body (continuation `K`) in state `s` on the local input
`a`, told in terms of the one-shot iteration: `process_next` from `clr s` on the logical input
`L = s.partialBuf ++ a` followed by any future input `F`. -/
inductive Iter (K : DState → Circ → RC → Rd → M (DState × Circ × RC × Rd))
    (s : DState) (w : Circ) (rc : RC) (a : Bytes) (snk : Sink) :
    Sink × Except Err (DState × Circ × RC × Rd) → Prop
  /-- no symbol is decoded: the bytes are only moved to the stage -/
  | ret {s1 : DState} {a1 : Bytes} : clr s1 = clr s → s1.partialBuf ++ a1 = s.partialBuf ++ a →
      Inv s1 w rc → a1 <:+ a → (a1 = [] ∨ StopNow s1 w) → (s1.partialBuf.length < 20 ∨ StopNow s1 w) →
      Iter K s w rc a snk (snk, .ok (s1, w, rc, ⟨a1, false⟩))
  /-- the symbol fails, whatever follows -/
  | err {k : Sink} {e : Err} : (∀ F, stopB .finish (clr s) w rc (s.partialBuf ++ a ++ F) = false) →
      (∀ F, processNext (clr s) w rc ⟨s.partialBuf ++ a ++ F, false⟩ snk = (k, .error e)) →
      Iter K s w rc a snk (k, .error e)
  /-- a symbol is decoded, whatever follows, and the loop goes on -/
  | cont {k : Sink} {s2 : DState} {w2 : Circ} {rc2 : RC} {a2 : Bytes} :
      (∀ F, stopB .finish (clr s) w rc (s.partialBuf ++ a ++ F) = false) →
      (∀ F, processNext (clr s) w rc ⟨s.partialBuf ++ a ++ F, false⟩ snk =
        (k, .ok (.continue, clr s2, w2, rc2, ⟨s2.partialBuf ++ a2 ++ F, false⟩))) →
      Inv s2 w2 rc2 → s2.unpackedSize = s.unpackedSize → a2 <:+ a → lmu s2 rc2 a2 < lmu s rc a →
      (s2.partialBuf = [] ∨ Absorbed s a a2) →
      Iter K s w rc a snk (K s2 w2 rc2 ⟨a2, false⟩ k)
  /-- the end marker is decoded from exactly `X`; anything after it would be an error -/
  | marker {s2 : DState} {rc2 : RC} {X a2 : Bytes} : s.partialBuf ++ a = X ++ a2 →
      (∀ F, stopB .finish (clr s) w rc (s.partialBuf ++ a ++ F) = false) →
      processNext (clr s) w rc ⟨X, false⟩ snk = (snk, .ok (.finished, s2, w, rc2, ⟨[], false⟩)) →
      (∀ b, b ≠ [] → processNext (clr s) w rc ⟨X ++ b, false⟩ snk = (snk, .error .lzma)) →
      rc2.code = 0 → s2.rep0 = 0xFFFFFFFF → 7 ≤ s2.state → s2.partialBuf = [] →
      Inv s2 w rc2 → s2.unpackedSize = s.unpackedSize → a2 <:+ a → (a2 = [] ∨ Absorbed s a a2) →
      Iter K s w rc a snk (snk, .ok (s2, w, rc2, ⟨a2, false⟩))

theorem stream_iter (K) {s : DState} {w : Circ} {rc : RC} (a : Bytes) (snk : Sink) (hI : Inv s w rc) :
    Iter K s w rc a snk (loopBody .stream K s w rc ⟨a, false⟩ snk) := by
  cases hs : stopB .stream s w rc a with
  | true =>
    rw [LB_stop snk hs]
    rcases stop_true_cases hs with h | ⟨h1, h2⟩
    · exact .ret rfl rfl hI (List.suffix_refl a) (.inr h) (.inr h)
    · exact .ret rfl rfl hI (List.suffix_refl a) (.inl h1) (.inl (by rw [h2]; decide))
  | false =>
    have hstopF : ∀ F, stopB .finish (clr s) w rc (s.partialBuf ++ a ++ F) = false := stop_rel hs
    obtain ⟨pb1, a1, hr, hcat, hl20, ha1, hI1, hsuf1, _, hne1, hlen⟩ := readPartial_facts a hI
    have hpl := hI.ds.pbuf
    by_cases hpb : s.partialBuf = []
    · -- direct input: `process_next` reads from `a` itself
      have hL : ∀ F, s.partialBuf ++ a ++ F = a ++ F := fun F => by rw [hpb, List.nil_append]
      by_cases hc : (Mode.stream = Mode.stream ∧ a.length < 20 ∧ tryProcessNext s w a rc = false)
      · rw [LB_direct_ret snk hs hpb hc]
        exact .ret rfl (by simp [hpb]) (setpb_inv hI (by omega)) List.nil_suffix (.inl rfl) (.inl hc.2.1)
      · rw [LB_direct_next snk hs hpb hc]
        rcases processNext_cases s w rc a snk with h | ⟨k, e, h⟩ | ⟨k, s', w', rc', a', hsuf, h⟩ |
          ⟨s', rc', h, hc0, hr0, hs7, hb⟩
        · exact absurd h (not_eof hI a (fun h => hc ⟨rfl, h⟩))
        · have h0 := h []
          rw [List.append_nil] at h0
          rw [h0, pnTail_err]
          exact .err hstopF fun F => by rw [hL, processNext_clr, h F, setPB_err]
        · have h0 := h []
          rw [List.append_nil, List.append_nil] at h0
          rw [h0, pnTail_cont]
          obtain ⟨hI', _, _, hmu, hpb', hus⟩ := processNext_inv hI h0
          have hpb2 : s'.partialBuf = [] := hpb'.trans hpb
          refine .cont hstopF (fun F => ?_) hI' hus hsuf ?_ (.inl hpb2)
          · rw [hL, hpb2, List.nil_append, processNext_clr, h F, setPB_ok]; rfl
          · simp only [lmu, hpb2, hpb, List.length_nil, Nat.add_zero]
            exact hmu
        · rw [h, pnTail_fin]
          obtain ⟨hI', _, _, _, hpb', hus⟩ := processNext_inv hI h
          have hpb2 : s'.partialBuf = [] := hpb'.trans hpb
          refine .marker (X := a) (by rw [hpb, List.append_nil, List.nil_append])
            hstopF ?_ (fun b hb' => ?_) hc0 hr0 hs7 hpb2 hI' hus
            List.nil_suffix (.inl rfl)
          · rw [processNext_clr, h, setPB_ok, ← hpb2]
          · rw [processNext_clr, hb b hb', setPB_err]
    · -- staged input: `process_next` reads from the stage `pb1`, `a1` stays in the local reader
      have hL : ∀ F, s.partialBuf ++ a ++ F = pb1 ++ (a1 ++ F) := fun F => by
        rw [hcat, List.append_assoc]
      have habs : Absorbed s a a1 := ⟨hpb, by
        have := hsuf1.length_le
        by_cases h : pb1.length < 20
        · rw [ha1 h]; simp only [List.length_nil]; omega
        · omega⟩
      by_cases hc : (Mode.stream = Mode.stream ∧
          ({ s with partialBuf := pb1 } : DState).partialBuf.length < 20 ∧
          tryProcessNext { s with partialBuf := pb1 } w ({ s with partialBuf := pb1 } : DState).partialBuf rc = false)
      · rw [LB_buf_ret snk hs hpb hr hc]
        exact .ret rfl hcat.symm hI1 hsuf1 (.inl (ha1 hc.2.1)) (.inl hc.2.1)
      · rw [LB_buf_next snk hs hpb hr hc]
        show Iter K s w rc a snk (pnTail K ⟨a1, false⟩ true
          (processNext { s with partialBuf := pb1 } w rc ⟨pb1, false⟩ snk))
        rcases processNext_cases { s with partialBuf := pb1 } w rc pb1 snk with h | ⟨k, e, h⟩ |
          ⟨k, s', w', rc', l, hsuf, h⟩ | ⟨s', rc', h, hc0, hr0, hs7, hb⟩
        · exact absurd h (not_eof hI1 pb1 (fun h => hc ⟨rfl, h⟩))
        · have h0 := h []
          rw [List.append_nil] at h0
          rw [h0, pnTail_err]
          refine .err hstopF fun F => ?_
          rw [hL]
          show processNext (clr { s with partialBuf := pb1 }) w rc _ snk = _
          rw [processNext_clr, h, setPB_err]
        · have h0 := h []
          rw [List.append_nil, List.append_nil] at h0
          rw [h0, pnTail_cont_buf]
          obtain ⟨hI', _, _, hmu, _, hus⟩ := processNext_inv hI1 h0
          have hle : l.length ≤ pb1.length := hsuf.length_le
          refine .cont (s2 := { s' with partialBuf := l }) hstopF (fun F => ?_) (setpb_inv hI' (by omega))
            hus hsuf1 (mu_step hlen hmu) (.inr habs)
          rw [hL]
          show processNext (clr { s with partialBuf := pb1 }) w rc _ snk =
            (k, .ok (.continue, clr s', w', rc', ⟨l ++ a1 ++ F, false⟩))
          rw [processNext_clr, h, setPB_ok, List.append_assoc]; rfl
        · rw [h, pnTail_fin_buf]
          obtain ⟨hI', _, _, _, _, hus⟩ := processNext_inv hI1 h
          refine .marker (s2 := { s' with partialBuf := [] }) (X := pb1) hcat
            hstopF ?_ (fun b hb' => ?_) hc0 hr0 hs7 rfl
            (setpb_inv hI' (by simp)) hus hsuf1 (.inr habs)
          · show processNext (clr { s with partialBuf := pb1 }) w rc _ snk = _
            rw [processNext_clr, h, setPB_ok]
          · show processNext (clr { s with partialBuf := pb1 }) w rc _ snk = _
            rw [processNext_clr, hb b hb', setPB_err]

theorem stream_loop_sim : ∀ (n : Nat) (s : DState) (w : Circ) (rc : RC) (a : Bytes)
    (snk : Sink), Inv s w rc → lmu s rc a < n →
    SimPost s w rc a snk (processLoop .stream n s w rc ⟨a, false⟩ snk) := by
  intro n
  induction n with
  | zero => intro s w rc a snk _ h; omega
  | succ n ih =>
    intro s w rc a snk hI hn
    rw [processLoop_succ]
    have hit := stream_iter (processLoop .stream n) a snk hI
    generalize loopBody .stream (processLoop .stream n) s w rc ⟨a, false⟩ snk = res at hit
    cases hit with
    | ret hclr hcat hI1 hsuf ht hp =>
      have hus : (clr _).unpackedSize = (clr s).unpackedSize := congrArg DState.unpackedSize hclr
      refine ⟨rfl, hI1, hus, hsuf, ht.elim .inl (.inr ∘ .inl), hp, fun F =>
        ⟨Veq.of_eq (by rw [hclr, hcat]), fun _ => ⟨0, _, .refl _, rfl, rfl, .inl ?_⟩⟩⟩
      unfold cfg
      rw [hclr, hcat]
    | err hstop h =>
      intro F
      rw [fin_next_err (clr_inv hI) rfl (hstop F) (h F)]
      exact isErr_mk _ _
    | cont hstop h hI2 hus hsuf hmu hab =>
      refine SimPost_step _ hus hsuf (fun F => fin_next_cont (clr_inv hI) rfl (hstop F) (h F))
        (fun F => steps_one (hstop F) (h F)) ?_ (ih _ _ _ _ _ hI2 (by omega))
      rintro s' w' a' (ht | ht | ht) hsuf'
      · exact .inl ht
      · exact .inr (.inl ht)
      · refine .inr (.inr ?_)
        rcases hab with hab | hab
        · exact absurd hab ht.1
        · exact ⟨hab.1, by have := hsuf'.length_le; have := hab.2; omega⟩
    | @marker s2 rc2 X a2 hcat hstop h hb hc0 hr0 hs7 hpb2 hI2 hus hsuf hab =>
      refine ⟨rfl, hI2, hus, hsuf, hab.elim .inl (.inr ∘ .inr), .inl (by rw [hpb2]; decide), fun F => ?_⟩
      have hst := hstop F
      rw [hcat, List.append_assoc] at hst ⊢
      refine ⟨?_, fun hok => ?_⟩
      · rw [hpb2, List.nil_append, clr_of_nil hpb2]
        exact fin_marker (clr_inv hI) rfl hst h hc0 hr0 hs7 hb
      · -- anything behind the marker would make the one-shot tail fail
        have hF : a2 ++ F = [] := by
          refine Classical.byContradiction fun hF => hok ?_
          rw [fin_next_err (clr_inv hI) rfl hst (hb _ hF)]
          exact isErr_mk _ _
        refine ⟨0, _, .refl _, rfl, rfl, .inr ⟨?_, hpb2, hF⟩⟩
        rw [hF, List.append_nil]
        refine nostep_next fun k s1 w1 rc1 rd1 hcon => ?_
        rw [h] at hcon
        cases hcon

end StreamEq
end Lzma
