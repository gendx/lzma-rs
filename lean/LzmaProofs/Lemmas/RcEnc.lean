/-
  The range encoder as pure functions (`wl` = `write_low`, `norm1`, `stepBit`, `stepDirect`, `fin`)
  that agree with the monadic model on an all-accepting sink (`Emits m a bs`: `m` returns `a` and
  appends `bs`).  An encoder state denotes an unbounded integer `EV e out`: the bytes emitted, the
  pending `cache, FF, …, FF`, then `low` with its carry bit.  `EInv` is what makes the carry safe;
  `wl_spec`: one `write_low` multiplies `EV` by 256 exactly.  `EN e out` counts the bytes emitted or
  pending (the decoder is four bytes ahead of it, see `RcSim`), `EOk` is the state between two
  events, `Upd e m δ` one interval narrowing before normalisation.
-/
import LzmaProofs.Lemmas.SinkCalls
import LzmaProofs.Lemmas.RcProbs
import LzmaSpec.Sym
namespace Lzma

namespace RcArith

/-! ## `beVal` -/

theorem beVal_foldl (bs : Bytes) (acc : Nat) :
    bs.foldl (fun acc b => acc * 256 + b.toNat) acc = acc * 256 ^ bs.length + beVal bs := by
  induction bs generalizing acc with
  | nil => simp [beVal]
  | cons b r ih =>
    simp only [List.foldl_cons, List.length_cons, beVal]
    rw [ih, ih (0 * 256 + b.toNat)]
    simp [Nat.pow_succ, Nat.add_mul, Nat.mul_assoc, Nat.mul_comm 256, Nat.add_assoc]

@[simp] theorem beVal_nil : beVal [] = 0 := rfl

theorem beVal_cons (b : UInt8) (r : Bytes) : beVal (b :: r) = b.toNat * 256 ^ r.length + beVal r := by
  simp only [beVal, List.foldl_cons]
  rw [beVal_foldl]; simp [beVal]

theorem beVal_append (a b : Bytes) : beVal (a ++ b) = beVal a * 256 ^ b.length + beVal b := by
  simp only [beVal, List.foldl_append]
  rw [beVal_foldl]; simp [beVal]

theorem beVal_snoc (a : Bytes) (b : UInt8) : beVal (a ++ [b]) = beVal a * 256 + b.toNat := by
  rw [beVal_append]; simp [beVal]

theorem beVal_replicate_ff (k : Nat) : beVal (List.replicate k (0xFF : UInt8)) + 1 = 256 ^ k := by
  induction k with
  | zero => simp
  | succ k ih =>
    rw [List.replicate_succ', beVal_snoc, Nat.pow_succ]
    have : (0xFF : UInt8).toNat = 255 := rfl
    omega

theorem beVal_replicate_zero (k : Nat) : beVal (List.replicate k (0 : UInt8)) = 0 := by
  induction k with
  | zero => simp
  | succ k ih =>
    rw [List.replicate_succ', beVal_snoc, ih]; rfl

theorem beVal_lt (bs : Bytes) : beVal bs < 256 ^ bs.length := by
  induction bs with
  | nil => simp
  | cons b r ih =>
    rw [beVal_cons, List.length_cons, Nat.pow_succ]
    have h1 : b.toNat * 256 ^ r.length ≤ 255 * 256 ^ r.length :=
      Nat.mul_le_mul_right _ (by have := b.toNat_lt; omega)
    omega

theorem toNat_ofNat_lt {c : Nat} (h : c < 256) : (UInt8.ofNat c).toNat = c := by
  simp [UInt8.toNat_ofNat']; omega

theorem beVal_carry (out : Bytes) (c k : Nat) (hc : c + 1 < 256) :
    beVal (out ++ UInt8.ofNat (c + 1) :: List.replicate k 0) =
      beVal (out ++ UInt8.ofNat c :: List.replicate k 0xFF) + 1 := by
  rw [beVal_append, beVal_append, beVal_cons, beVal_cons, beVal_replicate_zero,
    toNat_ofNat_lt hc, toNat_ofNat_lt (by omega : c < 256)]
  have := beVal_replicate_ff k
  simp only [List.length_cons, List.length_replicate] at *
  rw [Nat.add_mul]
  omega

theorem beVal_take_succ (B : Bytes) (n : Nat) (h : n < B.length) :
    beVal (B.take (n + 1)) = beVal (B.take n) * 256 + (B[n]).toNat := by
  rw [List.take_succ_eq_append_getElem h, beVal_snoc]

/-! ## shifts and xor -/

theorem shlU32_eq (x : Nat) (h : x < 0x01000000) : shlU32 x 8 = x * 256 := by
  unfold shlU32 U32
  rw [Nat.shiftLeft_eq]
  omega

theorem xor_byte (x b : Nat) (hb : b < 256) : (x * 256) ^^^ b = x * 256 + b := by
  have h : x * 256 = x <<< 8 := by rw [Nat.shiftLeft_eq]
  rw [h, Nat.shiftLeft_add_eq_or_of_lt (by simpa using hb)]
  apply Nat.eq_of_testBit_eq
  intro i
  simp only [Nat.testBit_xor, Nat.testBit_or, Nat.testBit_shiftLeft]
  by_cases hi : 8 ≤ i
  · have : b.testBit i = false := Nat.testBit_lt_two_pow (Nat.lt_of_lt_of_le hb (by
      calc 256 = 2 ^ 8 := rfl
        _ ≤ 2 ^ i := Nat.pow_le_pow_right (by decide) hi))
    simp [this]
  · simp [hi]

end RcArith

open RcArith

/-! ## sinks that accept everything -/

def SinkExt (snk snk' : Sink) (bs : Bytes) : Prop :=
  snk'.script = [] ∧ snk'.out.toList = snk.out.toList ++ bs

theorem SinkExt.refl {snk : Sink} (h : snk.script = []) : SinkExt snk snk [] := by
  simp [SinkExt, h]

theorem SinkExt.trans {a b c : Sink} {x y : Bytes} (h1 : SinkExt a b x) (h2 : SinkExt b c y) :
    SinkExt a c (x ++ y) := by
  simp [SinkExt, h1.2, h2.1, h2.2]

def Emits {α : Type} (m : M α) (a : α) (bs : Bytes) : Prop :=
  ∀ snk : Sink, snk.script = [] → ∃ snk', m snk = (snk', .ok a) ∧ SinkExt snk snk' bs

theorem Emits.pure {α : Type} (a : α) : Emits (pure a) a [] := fun snk h => ⟨snk, rfl, SinkExt.refl h⟩

theorem Emits.bind {α β : Type} {m : M α} {f : α → M β} {a : α} {b : β} {x y : Bytes}
    (h1 : Emits m a x) (h2 : Emits (f a) b y) : Emits (m >>= f) b (x ++ y) := by
  intro snk hs
  obtain ⟨s1, r1, x1⟩ := h1 snk hs
  obtain ⟨s2, r2, x2⟩ := h2 s1 x1.1
  exact ⟨s2, by rw [bind_run_ok r1]; exact r2, x1.trans x2⟩

theorem Emits.mono {α : Type} {m : M α} {a : α} {x y : Bytes} (h : Emits m a x) (e : x = y) :
    Emits m a y := e ▸ h

theorem emits_writeBytes (bs : Bytes) : Emits (writeBytes bs) () bs := fun snk h =>
  have ⟨h1, h2, h3⟩ := writeAll_clean bs.toArray snk h
  ⟨_, Prod.ext rfl h1, h2, (congrArg Array.toList h3).trans (by simp)⟩

namespace REnc

/-! ## pure `write_low` -/

/-- bytes written by `emitLoop` -/
def emitBytes (carry : Nat) : Nat → Nat → Bytes
  | 0, _ => []
  | n+1, tmp => UInt8.ofNat ((tmp + carry) % 256) :: emitBytes carry n 0xFF

theorem emits_emitLoop (carry : Nat) : ∀ (n tmp : Nat),
    Emits (emitLoop carry n tmp) () (emitBytes carry n tmp)
  | 0, _ => Emits.pure ()
  | n+1, _ => (emits_writeBytes _).bind (emits_emitLoop carry n 0xFF)

/-- the pending `0xFF` bytes stay `0xFF` without a carry and become `0x00` with one -/
theorem emitBytes_ff (c k : Nat) :
    emitBytes c k 0xFF = List.replicate k (UInt8.ofNat ((0xFF + c) % 256)) := by
  induction k with
  | zero => rfl
  | succ k ih => simp [emitBytes, ih, List.replicate_succ]

theorem emitBytes_zero (c : Nat) (hc : c < 256) (k : Nat) :
    emitBytes 0 (k + 1) c = UInt8.ofNat c :: List.replicate k 0xFF := by
  simp [emitBytes, emitBytes_ff, Nat.mod_eq_of_lt hc]

theorem emitBytes_one (c : Nat) (hc : c + 1 < 256) (k : Nat) :
    emitBytes 1 (k + 1) c = UInt8.ofNat (c + 1) :: List.replicate k 0 := by
  simp [emitBytes, emitBytes_ff, Nat.mod_eq_of_lt hc]

/-- does `write_low` flush the pending bytes? -/
def flushes (e : REnc) : Prop := e.low < 0xFF000000 ∨ e.low > 0xFFFFFFFF

instance (e : REnc) : Decidable e.flushes := by unfold flushes; infer_instance

/-- `write_low` as a pure function: new state and emitted bytes -/
def wl (e : REnc) : REnc × Bytes :=
  if e.flushes then
    ({ e with cachesz := 1, cache := (e.low >>> 24) % 256, low := (e.low <<< 8) &&& 0xFFFFFFFF },
      emitBytes ((e.low >>> 32) % 256) e.cachesz e.cache)
  else ({ e with cachesz := e.cachesz + 1, low := (e.low <<< 8) &&& 0xFFFFFFFF }, [])

theorem emits_writeLow {e : REnc} (hc : 1 ≤ e.cachesz) : Emits e.writeLow (wl e).1 (wl e).2 := by
  intro snk hs
  unfold writeLow wl
  by_cases hf : e.flushes
  · obtain ⟨s1, h1, e1⟩ := emits_emitLoop ((e.low >>> 32) % 256) e.cachesz e.cache snk hs
    have hf' : e.low < 0xFF000000 ∨ e.low > 0xFFFFFFFF := hf
    have hne : ¬ e.cachesz = 0 := by omega
    refine ⟨s1, ?_, by simpa [hf] using e1⟩
    simp only [hf', hf, if_true, hne, if_false]
    simp only [Bind.bind, M.bind, Pure.pure, M.pure, h1]
  · have hf' : ¬ (e.low < 0xFF000000 ∨ e.low > 0xFFFFFFFF) := hf
    refine ⟨snk, ?_, by simpa [hf] using SinkExt.refl hs⟩
    simp only [hf', hf, if_false]
    rfl

/-! ## the denoted integer and the carry invariant -/

def pend (e : REnc) : Bytes := UInt8.ofNat e.cache :: List.replicate (e.cachesz - 1) 0xFF

/-- the unbounded `low`: emitted bytes, pending bytes, then `low` (bit 32 of `low` is a carry) -/
def EV (e : REnc) (out : Bytes) : Nat := beVal (out ++ pend e) * 4294967296 + e.low

def EN (e : REnc) (out : Bytes) : Nat := out.length + e.cachesz

/-- carry safety: `r` is (a lower bound of) the width of the interval still to be narrowed -/
structure EInv (e : REnc) (r : Nat) : Prop where
  cs : 1 ≤ e.cachesz
  cache : e.cache < 256
  rpos : 1 ≤ r
  low : e.low + r ≤ 8589934592
  ff : e.cache = 255 → e.low + r ≤ 4294967296

theorem EInv.mono {e : REnc} {r r' : Nat} (h : EInv e r) (h1 : 1 ≤ r') (h2 : r' ≤ r) : EInv e r' := by
  obtain ⟨a, b, c, d, f⟩ := h
  exact ⟨a, b, h1, by omega, fun h => by have := f h; omega⟩

theorem wl_low (e : REnc) : (wl e).1.low = e.low * 256 % 4294967296 := by
  unfold wl
  have : (e.low <<< 8) &&& 0xFFFFFFFF = e.low * 256 % 4294967296 := by
    rw [Nat.shiftLeft_eq, show (0xFFFFFFFF : Nat) = 2 ^ 32 - 1 from rfl, Nat.and_two_pow_sub_one_eq_mod]
  split <;> simp [this]

theorem wl_range (e : REnc) : (wl e).1.range = e.range := by
  unfold wl; split <;> rfl

theorem wl_flush_cachesz (e : REnc) (h : e.flushes) : (wl e).1.cachesz = 1 := by
  unfold wl; rw [if_pos h]

theorem wl_flush_cache (e : REnc) (h : e.flushes) : (wl e).1.cache = e.low / 16777216 % 256 := by
  unfold wl; rw [if_pos h]; exact congrArg (· % 256) (Nat.shiftRight_eq_div_pow _ 24)

theorem wl_flush_bytes (e : REnc) (h : e.flushes) :
    (wl e).2 = emitBytes (e.low / 4294967296 % 256) e.cachesz e.cache := by
  unfold wl; rw [if_pos h]; exact congrArg (emitBytes · _ _) (congrArg (· % 256) (Nat.shiftRight_eq_div_pow _ 32))

/-- a flush emits the pending bytes, plus the carry `c` out of `low` -/
theorem beVal_emitBytes (out : Bytes) {c cache : Nat} (k : Nat) (hc : c ≤ 1) (h : cache + c < 256) :
    beVal (out ++ emitBytes c (k + 1) cache) =
      beVal (out ++ UInt8.ofNat cache :: List.replicate k 0xFF) + c ∧
    (emitBytes c (k + 1) cache).length = k + 1 := by
  obtain rfl | rfl : c = 0 ∨ c = 1 := by omega
  · rw [emitBytes_zero _ (by omega)]; simp
  · rw [emitBytes_one _ h, beVal_carry _ _ _ h]; simp

/-- One `write_low`: the denoted integer is multiplied by 256 exactly, one more
byte is pending, and the carry invariant holds for the scaled width. -/
theorem wl_spec (e : REnc) (out : Bytes) (r : Nat) (h : EInv e r) (hr : r ≤ 16777216) :
    EInv (wl e).1 (256 * r) ∧ EV (wl e).1 (out ++ (wl e).2) = 256 * EV e out ∧
      EN (wl e).1 (out ++ (wl e).2) = EN e out + 1 := by
  obtain ⟨hcs, hcache, hrpos, hlow, hff⟩ := h
  have hl := wl_low e
  obtain ⟨k, hk⟩ : ∃ k, e.cachesz = k + 1 := ⟨e.cachesz - 1, by omega⟩
  have hpe : pend e = UInt8.ofNat e.cache :: List.replicate k 0xFF := by simp [pend, hk]
  unfold EV EN
  by_cases hf : e.flushes
  · -- flush: the pending bytes go out with the carry `c`; the top byte of `low` is pending
    have hcz := wl_flush_cachesz e hf
    have hca := wl_flush_cache e hf
    have hfl : e.low < 0xFF000000 ∨ e.low > 0xFFFFFFFF := hf
    have hc : e.cache + e.low / 4294967296 % 256 < 256 := by
      by_cases h255 : e.cache = 255
      · have := hff h255; omega
      · omega
    obtain ⟨hv, hn⟩ := beVal_emitBytes out k (by omega) hc
    have hb : (UInt8.ofNat (e.low / 16777216 % 256)).toNat = e.low / 16777216 % 256 :=
      toNat_ofNat_lt (by omega)
    have hp' : pend (wl e).1 = [UInt8.ofNat (e.low / 16777216 % 256)] := by simp [pend, hcz, hca]
    rw [hp', beVal_snoc, hb, wl_flush_bytes e hf, hk, hv, ← hpe, hl, hcz,
      List.length_append, hn]
    generalize beVal (out ++ pend e) = X
    refine ⟨⟨by omega, by omega, by omega, by omega, fun h => by omega⟩, by omega, by omega⟩
  · -- no flush: one more 0xFF pending
    have hfl : ¬ (e.low < 0xFF000000 ∨ e.low > 0xFFFFFFFF) := hf
    have hw : wl e = ({ e with cachesz := e.cachesz + 1, low := (e.low <<< 8) &&& 0xFFFFFFFF }, []) :=
      if_neg hf
    have hcz : (wl e).1.cachesz = e.cachesz + 1 := by rw [hw]
    have hca : (wl e).1.cache = e.cache := by rw [hw]
    have hp' : pend (wl e).1 = pend e ++ [0xFF] := by
      simp [pend, hcz, hca, hk, List.replicate_succ']
    have h255 : (0xFF : UInt8).toNat = 255 := rfl
    rw [show (wl e).2 = [] from congrArg Prod.snd hw, List.append_nil, hp', ← List.append_assoc,
      beVal_snoc, h255, hl, hcz]
    generalize beVal (out ++ pend e) = X
    refine ⟨⟨by omega, by omega, by omega, by omega, fun h => ?_⟩, by omega, by omega⟩
    have := hff (hca.symm.trans h); omega

/-- `write_low` on a state whose interval is exhausted (`r = 1`, as in `finish`) -/
theorem wl_spec1 (e : REnc) (out : Bytes) (h : EInv e 1) :
    EInv (wl e).1 1 ∧ EV (wl e).1 (out ++ (wl e).2) = 256 * EV e out ∧
      EN (wl e).1 (out ++ (wl e).2) = EN e out + 1 :=
  let ⟨i, v, n⟩ := wl_spec e out 1 h (by omega)
  ⟨i.mono (Nat.le_refl 1) (by omega), v, n⟩

theorem wl_of_low_zero (e : REnc) (h : e.low = 0) :
    (wl e).1.cachesz = 1 ∧ (wl e).1.cache = 0 ∧ (wl e).1.low = 0 := by
  have hf : e.flushes := by unfold flushes; omega
  exact ⟨wl_flush_cachesz e hf, by rw [wl_flush_cache e hf, h], by rw [wl_low, h]⟩

/-- consistent encoder state (between two events) -/
structure EOk (e : REnc) : Prop where
  inv : EInv e e.range
  lo : 16777216 ≤ e.range
  hi : e.range < 4294967296

theorem eok_fresh : EOk ({} : REnc) := by
  refine ⟨⟨?_, ?_, ?_, ?_, ?_⟩, ?_, ?_⟩ <;> simp

/-- `m` is `e` after narrowing the interval: `low += δ`, new width `m.range`,
nested in the old one; the width stays at least `2^16` (one shift renormalises) -/
structure Upd (e m : REnc) (δ : Nat) : Prop where
  cache : m.cache = e.cache
  cachesz : m.cachesz = e.cachesz
  low : m.low = e.low + δ
  nest : δ + m.range ≤ e.range
  lo : 65536 ≤ m.range

theorem Upd.einv {e m : REnc} {δ : Nat} (he : EOk e) (h : Upd e m δ) : EInv m m.range := by
  obtain ⟨⟨a, b, c, d, f⟩, _, _⟩ := he
  obtain ⟨h1, h2, h3, h4, h5⟩ := h
  refine ⟨by omega, by omega, by omega, by omega, fun h => ?_⟩
  have := f (by omega); omega

theorem Upd.hi {e m : REnc} {δ : Nat} (he : EOk e) (h : Upd e m δ) : m.range < 4294967296 := by
  have := h.nest; have := he.hi; omega

theorem Upd.ev {e m : REnc} {δ : Nat} (h : Upd e m δ) (out : Bytes) :
    EV m out = EV e out + δ ∧ EN m out = EN e out := by
  obtain ⟨h1, h2, h3, h4, h5⟩ := h
  simp [EV, EN, pend, h1, h2, h3]; omega

/-! ## normalisation (a single shift suffices) -/

/-- `normalize` when the width is at least `2^16`: at most one `write_low` -/
def norm1 (m : REnc) : REnc × Bytes :=
  if m.range < 0x01000000 then wl { m with range := m.range * 256 } else (m, [])

theorem emits_normalize {m : REnc} (hc : 1 ≤ m.cachesz) (hlo : 65536 ≤ m.range) :
    Emits (normalize 4 m) (norm1 m).1 (norm1 m).2 := by
  intro snk hs
  unfold norm1
  by_cases h : m.range < 0x01000000
  · obtain ⟨s1, h1, e1⟩ := emits_writeLow (e := { m with range := m.range * 256 }) hc snk hs
    refine ⟨s1, ?_, by simpa [h] using e1⟩
    have hr : (wl { m with range := m.range * 256 }).1.range = m.range * 256 := wl_range _
    have h3 : ¬ (wl { m with range := m.range * 256 }).1.range < 0x01000000 := by
      rw [hr]; omega
    simp only [h, if_true]
    unfold normalize
    simp only [h, if_true, shlU32_eq _ h]
    rw [bind_run_ok h1]
    unfold normalize
    simp only [h3, if_false]
    rfl
  · refine ⟨snk, ?_, by simpa [h] using SinkExt.refl hs⟩
    unfold normalize
    simp only [h, if_false]
    rfl

theorem norm1_spec (m : REnc) (out : Bytes) (hi : EInv m m.range) (hlo : 65536 ≤ m.range)
    (hhi : m.range < 4294967296) :
    EOk (norm1 m).1 ∧
      (m.range < 16777216 ∧
        EV (norm1 m).1 (out ++ (norm1 m).2) = 256 * EV m out ∧
        EN (norm1 m).1 (out ++ (norm1 m).2) = EN m out + 1 ∧
        (norm1 m).1.range = 256 * m.range
      ∨ 16777216 ≤ m.range ∧ (norm1 m).1 = m ∧ (norm1 m).2 = []) := by
  unfold norm1
  by_cases h : m.range < 16777216
  · have hi' : EInv { m with range := m.range * 256 } m.range :=
      ⟨hi.cs, hi.cache, hi.rpos, hi.low, hi.ff⟩
    obtain ⟨h1, h2, h3⟩ := wl_spec { m with range := m.range * 256 } out m.range hi' (by omega)
    have hr : (wl { m with range := m.range * 256 }).1.range = 256 * m.range := by
      rw [wl_range, Nat.mul_comm]
    rw [if_pos h]
    refine ⟨⟨?_, by omega, by omega⟩, .inl ⟨h, ?_, h3, hr⟩⟩
    · rw [hr]; exact h1
    · rw [h2]
      simp [EV, pend]
  · rw [if_neg h]
    exact ⟨⟨hi, Nat.le_of_not_lt h, hhi⟩, .inr ⟨Nat.le_of_not_lt h, rfl, rfl⟩⟩

/-! ## `encode_bit` -/

/-- state after the interval update of `encode_bit`, before normalisation -/
def midBit (e : REnc) (p : Nat) (b : Bool) : REnc :=
  if b then { e with low := e.low + (e.range >>> 11) * p, range := e.range - (e.range >>> 11) * p }
  else { e with range := (e.range >>> 11) * p }

def stepBit (e : REnc) (p : Nat) (b : Bool) : REnc × Bytes := norm1 (midBit e p b)

theorem bound_facts {range p : Nat} (hlo : 16777216 ≤ range) (hhi : range < 4294967296) (hp : ProbOk p) :
    65536 ≤ (range >>> 11) * p ∧ (range >>> 11) * p + 65536 ≤ range := by
  rw [Nat.shiftRight_eq_div_pow]
  obtain ⟨h1, h2⟩ := hp
  have hq : 8192 ≤ range / 2 ^ 11 := by omega
  have hq2 : range / 2 ^ 11 * 2048 ≤ range := by omega
  have a1 : range / 2 ^ 11 * 31 ≤ range / 2 ^ 11 * p := Nat.mul_le_mul_left _ h1
  have a2 : range / 2 ^ 11 * p ≤ range / 2 ^ 11 * 2017 := Nat.mul_le_mul_left _ h2
  omega

theorem midBit_upd (e : REnc) (p : Nat) (b : Bool) (he : EOk e) (hp : ProbOk p) :
    Upd e (midBit e p b) (if b then (e.range >>> 11) * p else 0) := by
  obtain ⟨h1, h2⟩ := bound_facts he.lo he.hi hp
  cases b
  · exact ⟨rfl, rfl, rfl, by simp [midBit]; omega, by simpa [midBit] using h1⟩
  · refine ⟨rfl, rfl, rfl, ?_, ?_⟩ <;> simp [midBit] <;> omega

theorem emits_encodeBit {e : REnc} {p : Nat} (b : Bool) (he : EOk e) (hp : ProbOk p) :
    Emits (e.encodeBit p b) ((stepBit e p b).1, updP p b) (stepBit e p b).2 := by
  intro snk hs
  obtain ⟨h1, h2⟩ := bound_facts he.lo he.hi hp
  have hu := midBit_upd e p b he hp
  obtain ⟨s1, hn, e1⟩ := emits_normalize (by rw [hu.cachesz]; exact he.inv.cs) hu.lo snk hs
  refine ⟨s1, ?_, e1⟩
  have hm : mulChk U32 "encode_bit: bound overflow" (e.range >>> 11) p = .ok ((e.range >>> 11) * p) := by
    have : (e.range >>> 11) * p < U32 := by have := he.hi; unfold U32; omega
    simp [mulChk, this]
  have hsub : subChk "encode_bit: range -= bound" e.range ((e.range >>> 11) * p)
      = .ok (e.range - (e.range >>> 11) * p) := by
    simp [subChk]; omega
  have hsub2 : subChk "encode_bit: 0x800 - prob" 0x800 p = .ok (0x800 - p) := by
    have := hp.2; simp [subChk]; omega
  unfold encodeBit
  rw [hm]
  cases b
  · have hn' := hn
    simp only [midBit, Bool.false_eq_true, if_false] at hn'
    rw [liftE_ok_bind]
    simp only [Bool.false_eq_true, if_false, hsub2]
    rw [liftE_ok_bind, bind_run_ok hn']
    rfl
  · have hn' := hn
    simp only [midBit, if_true] at hn'
    rw [liftE_ok_bind]
    simp only [if_true, hsub]
    rw [liftE_ok_bind, bind_run_ok hn']
    rfl

/-! ## direct bits -/

def midDirect (e : REnc) (b : Bool) : REnc :=
  { e with range := e.range >>> 1, low := if b then e.low + (e.range >>> 1) else e.low }

def stepDirect (e : REnc) (b : Bool) : REnc × Bytes := norm1 (midDirect e b)

theorem midDirect_upd (e : REnc) (b : Bool) (he : EOk e) :
    Upd e (midDirect e b) (if b then e.range >>> 1 else 0) := by
  have h1 := he.lo
  have hs : e.range >>> 1 = e.range / 2 := by rw [Nat.shiftRight_eq_div_pow]
  cases b
  · refine ⟨rfl, rfl, by simp [midDirect], ?_, ?_⟩ <;> simp [midDirect] <;> omega
  · refine ⟨rfl, rfl, by simp [midDirect], ?_, ?_⟩ <;> simp [midDirect] <;> omega

theorem emits_encodeDirect {e : REnc} (b : Bool) (he : EOk e) :
    Emits (e.encodeDirect b) (stepDirect e b).1 (stepDirect e b).2 :=
  have hu := midDirect_upd e b he
  emits_normalize (m := midDirect e b) (by rw [hu.cachesz]; exact he.inv.cs) hu.lo

/-! ## after a step -/

theorem norm1_ok {e m : REnc} {δ : Nat} (he : EOk e) (hu : Upd e m δ) : EOk (norm1 m).1 :=
  (norm1_spec m [] (hu.einv he) hu.lo (hu.hi he)).1

theorem stepBit_ok {e : REnc} {p : Nat} (b : Bool) (he : EOk e) (hp : ProbOk p) :
    EOk (stepBit e p b).1 := norm1_ok he (midBit_upd e p b he hp)

theorem stepDirect_ok {e : REnc} (b : Bool) (he : EOk e) : EOk (stepDirect e b).1 :=
  norm1_ok he (midDirect_upd e b he)

theorem en_step {e m : REnc} {δ : Nat} (out : Bytes) (he : EOk e) (hu : Upd e m δ) :
    EN (norm1 m).1 (out ++ (norm1 m).2) = EN e out + (if m.range < 16777216 then 1 else 0) := by
  obtain ⟨_, hn⟩ := hu.ev out
  obtain ⟨_, ⟨h, _, h2, _⟩ | ⟨h, h1, h2⟩⟩ := norm1_spec m out (hu.einv he) hu.lo (hu.hi he)
  · rw [if_pos h, h2, hn]
  · rw [if_neg (Nat.not_lt.2 h), h1, h2, List.append_nil, hn]; rfl

/-! ## `finish` -/

/-- `finish` as a pure function -/
def fin (e : REnc) : REnc × Bytes :=
  let a := wl e; let b := wl a.1; let c := wl b.1; let d := wl c.1; let f := wl d.1
  (f.1, a.2 ++ b.2 ++ c.2 ++ d.2 ++ f.2)

/-- `finish` pushes out all of `low`: after four shifts `low = 0`, so the fifth `write_low`
flushes and leaves a single pending `0`; what was emitted denotes `EV` exactly. -/
theorem finish_run (e : REnc) (snk : Sink) (hs : snk.script = []) (he : EOk e) :
    ∃ snk', e.finish snk = (snk', .ok (fin e).1) ∧ SinkExt snk snk' (fin e).2 ∧
      (fin e).2.length = e.cachesz + 4 ∧
      beVal (snk.out.toList ++ (fin e).2) = EV e snk.out.toList := by
  have i0 : EInv e 1 := he.inv.mono (by omega) (by have := he.lo; omega)
  simp only [fin, finish]
  generalize snk.out.toList = out
  -- five times: run `write_low`, record its effect, and name the new state
  obtain ⟨s1, r1, x1⟩ := emits_writeLow i0.cs snk hs
  obtain ⟨i1, v1, n1⟩ := wl_spec1 e out i0
  have l1 := wl_low e
  rw [bind_run_ok r1]
  generalize wl e = w1 at *
  obtain ⟨s2, r2, x2⟩ := emits_writeLow i1.cs s1 x1.1
  obtain ⟨i2, v2, n2⟩ := wl_spec1 w1.1 (out ++ w1.2) i1
  have l2 := wl_low w1.1
  rw [bind_run_ok r2]
  generalize wl w1.1 = w2 at *
  obtain ⟨s3, r3, x3⟩ := emits_writeLow i2.cs s2 x2.1
  obtain ⟨i3, v3, n3⟩ := wl_spec1 w2.1 (out ++ w1.2 ++ w2.2) i2
  have l3 := wl_low w2.1
  rw [bind_run_ok r3]
  generalize wl w2.1 = w3 at *
  obtain ⟨s4, r4, x4⟩ := emits_writeLow i3.cs s3 x3.1
  obtain ⟨i4, v4, n4⟩ := wl_spec1 w3.1 (out ++ w1.2 ++ w2.2 ++ w3.2) i3
  have l4 := wl_low w3.1
  rw [bind_run_ok r4]
  generalize wl w3.1 = w4 at *
  obtain ⟨s5, r5, x5⟩ := emits_writeLow i4.cs s4 x4.1
  obtain ⟨_, v5, n5⟩ := wl_spec1 w4.1 (out ++ w1.2 ++ w2.2 ++ w3.2 ++ w4.2) i4
  obtain ⟨c5, a5, l5⟩ := wl_of_low_zero w4.1 (by omega)
  generalize wl w4.1 = w5 at *
  refine ⟨s5, r5, by simpa using (((x1.trans x2).trans x3).trans x4).trans x5, ?_⟩
  have hp5 : pend w5.1 = [UInt8.ofNat 0] := by simp [pend, c5, a5]
  have hz : (UInt8.ofNat 0).toNat = 0 := rfl
  rw [v4, v3, v2, v1] at v5
  simp only [EV, EN, hp5, c5, l5, beVal_snoc, hz, List.length_append, ← List.append_assoc]
    at v5 n1 n2 n3 n4 n5 ⊢
  generalize beVal (out ++ pend e) = X at v5 ⊢
  generalize beVal (out ++ w1.2 ++ w2.2 ++ w3.2 ++ w4.2 ++ w5.2) = Y at v5 ⊢
  constructor <;> omega

theorem emits_finish {e : REnc} (he : EOk e) : Emits e.finish (fin e).1 (fin e).2 := fun snk hs =>
  let ⟨s, h1, h2, _⟩ := finish_run e snk hs he
  ⟨s, h1, h2⟩

end REnc
end Lzma
