/-
  The simulation invariant between range encoder and range decoder, and the
  one-event simulation lemmas.

  `B` is the complete byte string the encoder will have produced after its
  final flush, `T` arbitrary trailing bytes.  `Fut B e out` ("the future of the
  encoder state `e`, having emitted `out`, is `B`") says that `B`, cut where the
  decoder stands, lies in the encoder's current interval.
-/
import LzmaProofs.Lemmas.RcDec
namespace Lzma
open RcArith
open REnc

/-- The first `N + 4` bytes of `B` denote a value in the interval `[V, V + r)`.  `N` counts the
bytes the encoder has emitted or holds pending (`EN`); the decoder has read four more, because
`V` and `r` are scaled to the 32-bit `low`/`range` window that follows those `N` bytes. -/
def FutN (B : Bytes) (V N r : Nat) : Prop :=
  N + 4 ≤ B.length ∧ V ≤ beVal (B.take (N + 4)) ∧ beVal (B.take (N + 4)) < V + r

theorem FutN.shift {B : Bytes} {V N r : Nat} (h : FutN B (256 * V) (N + 1) (256 * r)) :
    FutN B V N r := by
  obtain ⟨h1, h2, h3⟩ := h
  have ht := beVal_take_succ B (N + 4) (by omega)
  have hb := (B[N + 4]'(by omega)).toNat_lt
  rw [show N + 1 + 4 = N + 4 + 1 by omega] at h2 h3
  exact ⟨by omega, by omega, by omega⟩

theorem FutN.upd {B : Bytes} {V N r δ r' : Nat} (h : FutN B (V + δ) N r') (hn : δ + r' ≤ r) :
    FutN B V N r := by
  obtain ⟨h1, h2, h3⟩ := h
  exact ⟨h1, by omega, by omega⟩

/-- `B` is a possible final output of the encoder in state `e` after emitting `out`: cut after
the bytes the decoder has read, it lies in `[low, low + range)` -/
def Fut (B : Bytes) (e : REnc) (out : Bytes) : Prop := FutN B (EV e out) (EN e out) e.range

/-- The simulation invariant: the decoder holds the same `range`, has consumed
exactly four bytes more than the encoder has produced (emitted or pending),
and its `code` is the distance of the consumed value from the encoder's `low`. -/
structure RcSim (B T : Bytes) (e : REnc) (out : Bytes) (rc : RC) (rd : Rd) : Prop where
  ok : EOk e
  range : rc.range = e.range
  len : EN e out + 4 ≤ B.length
  rem : rd.rem = B.drop (EN e out + 4) ++ T
  code : beVal (B.take (EN e out + 4)) = EV e out + rc.code

theorem fut_norm1 {B : Bytes} (m : REnc) (out : Bytes) (hi : EInv m m.range) (hlo : 65536 ≤ m.range)
    (hhi : m.range < 4294967296)
    (hfut : Fut B (norm1 m).1 (out ++ (norm1 m).2)) :
    Fut B m out := by
  unfold Fut at hfut ⊢
  obtain ⟨_, ⟨_, a, b, c⟩ | ⟨_, a, b⟩⟩ := norm1_spec m out hi hlo hhi
  · rw [a, b, c] at hfut
    exact hfut.shift
  · rw [a, b, List.append_nil] at hfut
    exact hfut

theorem fut_step {B : Bytes} {e m : REnc} {δ : Nat} (out : Bytes) (he : EOk e) (hu : Upd e m δ)
    (hfut : Fut B (norm1 m).1 (out ++ (norm1 m).2)) :
    Fut B e out := by
  have hm : FutN _ _ _ _ := fut_norm1 m out (hu.einv he) hu.lo (hu.hi he) hfut
  obtain ⟨hv, hn⟩ := hu.ev out
  rw [hv, hn] at hm
  exact hm.upd hu.nest

theorem sim_norm {B T : Bytes} (m : REnc) (out : Bytes) (c : Nat) (rd : Rd)
    (hi : EInv m m.range) (hlo : 65536 ≤ m.range) (hhi : m.range < 4294967296)
    (hlen : EN m out + 4 ≤ B.length) (hrem : rd.rem = B.drop (EN m out + 4) ++ T)
    (hcode : beVal (B.take (EN m out + 4)) = EV m out + c)
    (hfut : Fut B (norm1 m).1 (out ++ (norm1 m).2)) :
    ∃ rc' rd', RC.normalize { range := m.range, code := c } rd = .ok (rc', rd') ∧
      rd'.bad = rd.bad ∧ RcSim B T (norm1 m).1 (out ++ (norm1 m).2) rc' rd' := by
  have hfm := fut_norm1 m out hi hlo hhi hfut
  obtain ⟨hok, ⟨h, a, b, r⟩ | ⟨h, a, b⟩⟩ := norm1_spec m out hi hlo hhi
  · have hl5 : EN m out + 4 < B.length := by
      have := hfut.1; omega
    have hc : c < 16777216 := by
      have := hfm.2.2; omega
    have hrem' : rd.rem = B[EN m out + 4] :: (B.drop (EN m out + 4 + 1) ++ T) := by
      rw [hrem, List.drop_eq_getElem_cons hl5]; rfl
    refine ⟨_, _, RC.normalize_lt { range := m.range, code := c } rd _ _ h hc hrem', rfl, ?_⟩
    refine ⟨hok, by simp [r]; omega, by omega, ?_, ?_⟩
    · simp [b]
    · rw [a, b, beVal_take_succ B _ hl5, hcode]
      simp; omega
  · refine ⟨_, _, RC.normalize_ge { range := m.range, code := c } rd h, rfl, ?_⟩
    rw [b, List.append_nil, a]
    rw [a] at hok
    exact ⟨hok, rfl, hlen, hrem, hcode⟩

/-- generic one-event simulation: the encoder narrows to `m` (adding `δ` to `low`)
and normalises; a decoder that subtracts `δ` from `code`, takes `m.range` and
normalises stays in simulation.  Also: `δ ≤ code < δ + m.range`, which decides
the decoder's comparison. -/
theorem sim_upd {B T : Bytes} {e m : REnc} {out : Bytes} {rc : RC} {rd : Rd} {δ : Nat}
    (h : RcSim B T e out rc rd) (hu : Upd e m δ)
    (hfut : Fut B (norm1 m).1 (out ++ (norm1 m).2)) :
    δ ≤ rc.code ∧ rc.code < δ + m.range ∧
    ∃ rc' rd', RC.normalize { range := m.range, code := rc.code - δ } rd = .ok (rc', rd') ∧
      rd'.bad = rd.bad ∧ RcSim B T (norm1 m).1 (out ++ (norm1 m).2) rc' rd' := by
  have hi := hu.einv h.ok
  have hhi := hu.hi h.ok
  obtain ⟨hv, hn⟩ := hu.ev out
  have hfm := fut_norm1 m out hi hu.lo hhi hfut
  obtain ⟨_, f2, f3⟩ := hfm
  have hcode := h.code
  rw [hn, hv] at f2 f3
  rw [hcode] at f2 f3
  refine ⟨by omega, by omega, ?_⟩
  apply sim_norm m out (rc.code - δ) rd hi hu.lo hhi
  · rw [hn]; exact h.len
  · rw [hn]; exact h.rem
  · rw [hn, hv, hcode]; omega
  · exact hfut

theorem sim_pbit {B T : Bytes} {e : REnc} {out : Bytes} {rc : RC} {rd : Rd} (p : Nat) (b : Bool)
    (h : RcSim B T e out rc rd) (hp : ProbOk p)
    (hfut : Fut B (stepBit e p b).1 (out ++ (stepBit e p b).2)) :
    ∃ rc' rd', RC.decodeBit true p rc rd = .ok (b, updP p b, rc', rd') ∧ rd'.bad = rd.bad ∧
      RcSim B T (stepBit e p b).1 (out ++ (stepBit e p b).2) rc' rd' := by
  obtain ⟨h1, h2, rc', rd', hn, hbad, hsim⟩ := sim_upd h (midBit_upd e p b h.ok hp) hfut
  refine ⟨rc', rd', ?_, hbad, hsim⟩
  have hr := h.range
  rw [RC.decodeBit_spec true p rc rd (by have := hp.2; omega)
    (RC.bound_lt (by have := hp.2; omega) (hr ▸ h.ok.hi))]
  cases b
  · simp only [midBit, Bool.false_eq_true, if_false, Nat.sub_zero, Nat.zero_add] at hn h2
    rw [← hr] at hn h2
    rw [if_pos h2, hn, decide_eq_false (Nat.not_le.2 h2)]
    rfl
  · simp only [midBit, if_true] at hn h1
    rw [← hr] at hn h1
    rw [if_neg (Nat.not_lt.2 h1), hn, decide_eq_true h1]
    rfl

theorem sim_dbit {B T : Bytes} {e : REnc} {out : Bytes} {rc : RC} {rd : Rd} (b : Bool)
    (h : RcSim B T e out rc rd)
    (hfut : Fut B (stepDirect e b).1 (out ++ (stepDirect e b).2)) :
    ∃ rc' rd', RC.getBit rc rd = .ok (b, rc', rd') ∧ rd'.bad = rd.bad ∧
      RcSim B T (stepDirect e b).1 (out ++ (stepDirect e b).2) rc' rd' := by
  have hu := midDirect_upd e b h.ok
  obtain ⟨h1, h2, rc', rd', hn, hbad, hsim⟩ := sim_upd h hu hfut
  refine ⟨rc', rd', ?_, hbad, hsim⟩
  have hr := h.range
  rw [RC.getBit_eq]
  cases b
  · simp only [midDirect, Bool.false_eq_true, if_false] at hn h1 h2
    rw [← hr] at hn h2
    simp only [Nat.sub_zero, Nat.zero_add] at hn h2
    have hlt : ¬ rc.range >>> 1 ≤ rc.code := by omega
    simp only [hlt, if_false, hn]
    simp [Except.map]
  · simp only [midDirect, if_true] at hn h1 h2
    rw [← hr] at hn h1
    simp only [h1, if_true, hn]
    simp [Except.map]

end Lzma
