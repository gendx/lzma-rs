/-
  `read_header` on the headers the encoder writes, for the option kinds besides
  `UnpackedSize::ReadFromHeader`: `UseProvided(x)` on the 5-byte header, and
  `ReadHeaderButUseProvided(x)` on the 13-byte header whose size field is ignored.  The end-to-end
  exactness theorems of `Lemmas/DecodeExactTop.lean` take any such header.
-/
import LzmaProofs.Lemmas.DecodeExactTop
namespace Lzma.EncRT
open Lzma DState REnc

/-- 5-byte header (no size field), `UseProvided(x)`: the size in effect is `x` -/
theorem headerReads_provided {props : Props} (hp : Safety.PropsOk props) {D : Nat} (hD : D < 2 ^ 32)
    {opts : Options} {x : Option Nat} (hopt : opts.unpackedSize = .useProvided x) :
    HdrReads (lzmaHeader props D none) opts props (max D 4096) x := by
  have := hdrReads_built hp hD [] (opts := opts) (by rw [hopt]; rfl)
  rwa [hopt] at this

/-- 13-byte header, `ReadHeaderButUseProvided(x)`: the size field (any value) is skipped and the
size in effect is `x` -/
theorem headerReads_ignored {props : Props} (hp : Safety.PropsOk props) {D : Nat} (hD : D < 2 ^ 32)
    (field : Nat) {opts : Options} {x : Option Nat}
    (hopt : opts.unpackedSize = .readHeaderButUseProvided x) :
    HdrReads (lzmaHeader props D (some field)) opts props (max D 4096) x := by
  have := hdrReads_built hp hD (leBytes 8 field) (opts := opts) (by rw [hopt, leBytes_length]; rfl)
  rwa [hopt] at this

end Lzma.EncRT
