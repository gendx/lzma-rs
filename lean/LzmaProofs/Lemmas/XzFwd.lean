/-
  The XZ container read forwards: the specification `buildXz` of well-formed files, the run of
  `xzDecompress` on such a file (C03), and the LZMA2 / XZ writers as compositions of `Writes` steps
  whose total output is an `lzma2Frame` resp. a `buildXz` file (C04).
-/
import LzmaProofs.Lemmas.XzInv
namespace Lzma

/-! ## perfect sinks -/

/-- the effect of one `write_all` on a sink whose script is exhausted -/
def Sink.put (s : Sink) (bs : Bytes) : Sink :=
  if bs = [] then s
  else { s with out := s.out ++ bs.toArray, writes := s.writes + 1, lastFlush := false }

@[simp] theorem Sink.put_script (s : Sink) (bs : Bytes) : (s.put bs).script = s.script := by
  unfold Sink.put; split <;> rfl
@[simp] theorem Sink.put_flushes (s : Sink) (bs : Bytes) : (s.put bs).flushes = s.flushes := by
  unfold Sink.put; split <;> rfl
@[simp] theorem Sink.put_out (s : Sink) (bs : Bytes) : (s.put bs).out = s.out ++ bs.toArray := by
  unfold Sink.put; split
  · rename_i h; subst h; simp
  · rfl
@[simp] theorem Sink.put_nil (s : Sink) : s.put [] = s := by simp [Sink.put]

theorem Fwd.writeAll_perfect (s : Sink) (h : s.script = []) (bs : Array UInt8) :
    writeAll bs s = (s.put bs.toList, .ok ()) := by
  unfold writeAll Sink.put
  by_cases hb : bs.isEmpty
  · have : bs.toList = [] := by simpa using hb
    simp [hb, this]
  · have : bs.toList ≠ [] := by simpa using hb
    simp [hb, h, this]

theorem Fwd.writeBytes_perfect (s : Sink) (h : s.script = []) (bs : Bytes) :
    writeBytes bs s = (s.put bs, .ok ()) := by
  unfold writeBytes; rw [Fwd.writeAll_perfect s h]

theorem Fwd.M_bind_ok {m : M α} {f : α → M β} {s s' : Sink} {a : α} (h : m s = (s', .ok a)) :
    (m >>= f) s = f a s' := bind_run_ok h

@[simp] theorem Fwd.liftE_ok_bind (a : α) (f : α → M β) (s : Sink) :
    (liftE (.ok a) >>= f) s = f a s := rfl
@[simp] theorem Fwd.liftE_error_bind (e : Err) (f : α → M β) (s : Sink) :
    ((liftE (.error e) : M α) >>= f) s = (s, .error e) := rfl

theorem Fwd.M_bind_apply (m : M α) (f : α → M β) (s : Sink) :
    m.bind f s = match m s with
      | (s', .ok a) => f a s'
      | (s', .error e) => (s', .error e) := rfl

/-! ## byte order -/

theorem Fwd.beVal_beBytes2 (n : Nat) (h : n < 65536) : beVal (beBytes 2 n) = n := by
  simp [beBytes, leBytes, beVal, UInt8.toNat_ofNat']
  omega

@[simp] theorem Fwd.beBytes_length (k n : Nat) : (beBytes k n).length = k := by simp [beBytes]

/-! ## LZMA2: frames of uncompressed chunks -/

/-- the LZMA2 stream made of one "uncompressed, dictionary reset" chunk per element of the
list, followed by the end marker -/
def lzma2Frame : List Bytes → Bytes
  | [] => [0]
  | c :: cs => 1 :: (beBytes 2 (c.length - 1) ++ (c ++ lzma2Frame cs))

def ChunksOk (cs : List Bytes) : Prop := ∀ c ∈ cs, 1 ≤ c.length ∧ c.length ≤ 65536

theorem lzma2Frame_length (cs : List Bytes) :
    (lzma2Frame cs).length = cs.flatten.length + 3 * cs.length + 1 := by
  induction cs with
  | nil => simp [lzma2Frame]
  | cons c cs ih => simp [lzma2Frame, ih]; omega

open L2 in
theorem lzma2Frame_eq (cs : List Bytes) :
    lzma2Frame cs = (cs.map (Chunk.raw true)).flatMap Chunk.bytes ++ [0] := by
  induction cs with
  | nil => rfl
  | cons c cs ih => simp [lzma2Frame, Chunk.bytes, Chunk.control, Chunk.body, ih]

open L2 in
/-- on a sink that accepts everything each such chunk flushes the window and refills it -/
theorem run_frame : ∀ (cs : List Bytes) (d : Lzma2Decoder) (a : Accum) (s : Sink), s.script = [] →
    ∃ s' a', Run (cs.map (Chunk.raw true)) d a s d a' s' ∧ s'.script = [] ∧ s'.flushes = s.flushes ∧
      s'.out ++ a'.buf = s.out ++ a.buf ++ cs.flatten.toArray
  | [], d, a, s, hs => ⟨s, a, .nil d a s, hs, rfl, by simp⟩
  | c :: cs, d, a, s, hs => by
    obtain ⟨s', a', hrun, hs', hfl, hout⟩ := run_frame cs d
      (({ a with buf := #[], len := 0 } : Accum).appendBytes c) (s.put a.buf.toList) (by simpa using hs)
    refine ⟨s', a', .cons ⟨rfl, _, Accum.reset_ok_iff.2 ⟨Fwd.writeAll_perfect s hs _, rfl⟩, rfl⟩ hrun,
      hs', by simpa using hfl, ?_⟩
    rw [hout]; simp [Accum.appendBytes, Array.append_assoc]

theorem frame_wf {cs : List Bytes} (hc : ChunksOk cs) : ∀ c ∈ cs.map (L2.Chunk.raw true), c.WF := by
  intro c hcm
  obtain ⟨x, hx, rfl⟩ := List.mem_map.1 hcm
  exact hc x hx

theorem lzma2Decompress_frame (cs : List Bytes) (t : Bytes) (b : Bool) (s : Sink)
    (hs : s.script = []) (hc : ChunksOk cs) :
    ∃ s', lzma2Decompress { rem := lzma2Frame cs ++ t, bad := b } s = (s', .ok { rem := t, bad := b })
      ∧ s'.script = [] ∧ s'.out = s.out ++ cs.flatten.toArray
      ∧ s'.flushes = s.flushes + 1 ∧ s'.lastFlush = true := by
  obtain ⟨s1, a', hrun, hs1, hfl, hout⟩ := run_frame cs L2.Lzma2Decoder.init (Accum.fromStream USIZE_MAX) s hs
  refine ⟨{ (s1.put a'.buf.toList) with flushes := s1.flushes + 1, lastFlush := true },
    L2.lzma2Decompress_ok_iff.2 ⟨_, _, a', s1, frame_wf hc, by simp [lzma2Frame_eq], rfl, hrun, ?_⟩,
    by simpa using hs1, by simpa [Accum.fromStream] using hout, by simp [hfl], rfl⟩
  rw [Accum.finish, bind_run_ok (Fwd.writeAll_perfect s1 hs1 _), flushSink_perfect (show Sink.script _ = [] by simpa using hs1)]
  simp

theorem decodeFilter_frame (cs : List Bytes) (t : Bytes) (x : UInt8) (hc : ChunksOk cs) :
    decodeFilter (Rd.ofBytes (lzma2Frame cs ++ t)) { props := [x] } = .ok (cs.flatten, { rem := t }) := by
  obtain ⟨s1, a', hrun, hs1, -, hout⟩ := run_frame cs L2.Lzma2Decoder.init (Accum.fromStream USIZE_MAX) {} rfl
  have hdec := L2.decompress_ok_iff.2 ⟨_, a', s1, frame_wf hc,
    show (Rd.ofBytes (lzma2Frame cs ++ t)).rem = _ ++ 0 :: (⟨t, false⟩ : Rd).rem by simp [Rd.ofBytes, lzma2Frame_eq],
    rfl, hrun, show a'.finish s1 = (_, .ok ()) by
      rw [Accum.finish, bind_run_ok (Fwd.writeAll_perfect s1 hs1 _),
        flushSink_perfect (show Sink.script _ = [] by simpa using hs1)]⟩
  simp only [decodeFilter, L2.Lzma2Decoder.new_eq, hdec, Except.ok_bind, List.length_singleton, ne_eq,
    not_true_eq_false, if_false]
  have : (s1.out ++ a'.buf).toList = cs.flatten := by rw [hout]; simp [Accum.fromStream]
  simpa [pure, Except.pure] using this
/-! ## the LZMA2 encoder -/

theorem ERd.read_spec (rd : ERd) (hb : rd.bad = false) :
    ∃ buf rd', rd.read 0x10000 = .ok (buf, rd') ∧ rd'.bad = false ∧ buf ++ rd'.rem = rd.rem
      ∧ buf.length ≤ 65536 ∧ (rd.rem ≠ [] → buf ≠ []) := by
  unfold ERd.read
  by_cases he : rd.rem = []
  · exact ⟨[], rd, by simp [he, hb], hb, by simp, by simp, fun h => absurd he h⟩
  · have hne : rd.rem.length ≠ 0 := by simpa using he
    rcases rd with ⟨rem, bad, frags⟩
    simp only at he hb hne
    simp only [List.isEmpty_iff, he, if_false]
    rcases frags with _ | ⟨f, fs⟩
    · refine ⟨_, _, rfl, hb, by simp, ?_, ?_⟩
      · simp only [List.length_take]; omega
      · intro _
        simp only [ne_eq, List.take_eq_nil_iff, he, or_false]; omega
    · refine ⟨_, _, rfl, hb, by simp, ?_, ?_⟩
      · simp only [List.length_take]; split <;> omega
      · intro _
        simp only [ne_eq, List.take_eq_nil_iff, he, or_false]; split <;> omega

/-- on every sink that accepts everything, `m` succeeds with `a`, having appended exactly `bs`
without a flush, and leaves a sink that still accepts everything -/
def Writes (m : M α) (bs : Bytes) (a : α) : Prop :=
  ∀ s : Sink, s.script = [] → ∃ s', m s = (s', .ok a) ∧
    s'.script = [] ∧ s'.flushes = s.flushes ∧ s'.out = s.out ++ bs.toArray

theorem Writes.pure (a : α) : Writes (pure a) [] a := fun s hs => ⟨s, rfl, hs, rfl, by simp⟩

theorem Writes.liftE {e : Except Err α} {a : α} (h : e = .ok a) : Writes (liftE e) [] a :=
  h ▸ .pure a

theorem Writes.bind {m : M α} {f : α → M β} {b1 b2 : Bytes} {a : α} {c : β} (h1 : Writes m b1 a)
    (h2 : Writes (f a) b2 c) : Writes (m >>= f) (b1 ++ b2) c := fun s hs =>
  let ⟨s1, e1, w1⟩ := h1 s hs
  let ⟨s2, e2, w2⟩ := h2 s1 w1.1
  ⟨s2, by rw [bind_run_ok e1]; exact e2, w2.1, w2.2.1.trans w1.2.1,
    by rw [w2.2.2, w1.2.2]; simp [Array.append_assoc]⟩

theorem Writes.writeBytes (bs : Bytes) : Writes (writeBytes bs) bs () := fun s hs =>
  ⟨s.put bs, Fwd.writeBytes_perfect s hs bs, by simpa using hs, by simp, by simp⟩

theorem Writes.writeAll (bs : Array UInt8) : Writes (writeAll bs) bs.toList () := fun s hs =>
  ⟨_, Fwd.writeAll_perfect s hs bs, by simpa using hs, by simp, by simp⟩

theorem Writes.cast {m : M α} {bs bs' : Bytes} {a : α} (h : Writes m bs a) (e : bs = bs') :
    Writes m bs' a := e ▸ h

theorem lzma2EncodeLoop_writes : ∀ (fuel : Nat) (rd : ERd), rd.bad = false →
    rd.rem.length + 1 ≤ fuel →
    ∃ cs rd', Writes (lzma2EncodeLoop fuel rd) (lzma2Frame cs) rd' ∧ rd'.rem = [] ∧ rd'.bad = false ∧
      ChunksOk cs ∧ cs.flatten = rd.rem
  | 0, _, _, hf => by omega
  | fuel+1, rd, hb, hf => by
    obtain ⟨buf, rd', hread, hb', happ, hlen, hne⟩ := ERd.read_spec rd hb
    unfold lzma2EncodeLoop
    by_cases he : buf = []
    · subst he
      have hrem : rd.rem = [] := Decidable.by_contra fun h => hne h rfl
      exact ⟨[], rd', .bind (.liftE hread) (.bind (.writeBytes _) (.pure _)), by simpa [hrem] using happ,
        hb', fun c hc => by simp at hc, by simp [hrem]⟩
    · have hpos : 1 ≤ buf.length := List.length_pos_iff.2 he
      obtain ⟨cs, rd'', hrun, h1, h2, h6, h7⟩ := lzma2EncodeLoop_writes fuel rd' hb'
        (by have : rd.rem.length = buf.length + rd'.rem.length := by rw [← happ]; simp
            omega)
      have hsub : subChk "lzma2 encode: n - 1" buf.length 1 = .ok (buf.length - 1) := by
        simp [subChk, hpos]
      have hmod : (buf.length - 1) % U16 = buf.length - 1 := by
        apply Nat.mod_eq_of_lt; simp [U16]; omega
      refine ⟨buf :: cs, rd'', ?_, h1, h2, ?_, by simp [h7, happ]⟩
      · refine (Writes.bind (b2 := lzma2Frame (buf :: cs)) (.liftE hread) ?_).cast rfl
        dsimp only
        rw [if_neg (by simpa using he)]
        exact (Writes.bind (.writeBytes [1]) (.bind (.liftE hsub) (.bind (.writeBytes _)
          (.bind (.writeAll _) hrun)))).cast (by simp [hmod, lzma2Frame])
      · intro c hc
        rcases List.mem_cons.mp hc with rfl | hc
        · exact ⟨hpos, hlen⟩
        · exact h6 c hc

/-! ## the specification of well-formed `.xz` files -/

/-- bytes to the next multiple of four -/
def pad4 (n : Nat) : Nat := (4 - n % 4) % 4

/-- a multibyte field of requested width `w`: the actual width is `max w (minimal width)`,
so `w = 0` asks for the minimal encoding and every legal longer encoding is expressible -/
def mbW (w v : Nat) : Nat := max w (mbWidth v)
def mbField (w v : Nat) : Bytes := encodeMb (mbW w v) v

def checkSize : CheckMethod → Nat
  | .none => 0 | .crc32 => 4 | .crc64 => 8 | .sha256 => 32

def checkBytes (check : CheckMethod) (out : Bytes) : Bytes :=
  match check with
  | .none => []
  | .crc32 => leBytes 4 (crc32 out)
  | .crc64 => leBytes 8 (crc64 out)
  | .sha256 => []

structure XzBlockSpec where
  /-- the compressed data: an LZMA2 stream -/
  payload : Bytes
  /-- its meaning -/
  out : Bytes
  /-- the block header carries the compressed size -/
  declPacked : Bool := false
  /-- the block header carries the uncompressed size -/
  declUnpacked : Bool := false
  /-- the LZMA2 dictionary-size byte (ignored by lzma-rs) -/
  dictByte : UInt8 := 22
  /-- extra four-byte zero words of header padding -/
  extraPadWords : Nat := 0
  /-- requested widths of the multibyte fields (`0` = minimal) -/
  wPacked : Nat := 0
  wUnpacked : Nat := 0
  wFilterId : Nat := 0
  wPropsSize : Nat := 0
  wIdxUnpadded : Nat := 0
  wIdxUnpacked : Nat := 0

namespace XzBlockSpec

def flagsNat (b : XzBlockSpec) : Nat :=
  (if b.declPacked then 0x40 else 0) + (if b.declUnpacked then 0x80 else 0)

/-- the header fields between the size byte and the padding -/
def fields (b : XzBlockSpec) : Bytes :=
  [UInt8.ofNat b.flagsNat]
    ++ ((if b.declPacked then mbField b.wPacked b.payload.length else [])
    ++ ((if b.declUnpacked then mbField b.wUnpacked b.out.length else [])
    ++ (mbField b.wFilterId 0x21 ++ (mbField b.wPropsSize 1 ++ [b.dictByte]))))

def hdrPad (b : XzBlockSpec) : Nat := pad4 (1 + b.fields.length) + 4 * b.extraPadWords

/-- the header without its size byte and CRC -/
def hdrBody (b : XzBlockSpec) : Bytes := b.fields ++ List.replicate b.hdrPad 0

/-- the value of the header-size byte: the real header size is `(hdrWords + 1) * 4` -/
def hdrWords (b : XzBlockSpec) : Nat := (1 + b.hdrBody.length) / 4

def sizeByte (b : XzBlockSpec) : UInt8 := UInt8.ofNat b.hdrWords

/-- everything of the block after the header-size byte -/
def rest (check : CheckMethod) (b : XzBlockSpec) : Bytes :=
  b.hdrBody ++ (leBytes 4 (crc32 (b.sizeByte :: b.hdrBody)) ++ (b.payload
    ++ (List.replicate (pad4 b.payload.length) 0 ++ checkBytes check b.out)))

def bytes (check : CheckMethod) (b : XzBlockSpec) : Bytes := b.sizeByte :: b.rest check

/-- the "unpadded size" of the index record -/
def unpadded (check : CheckMethod) (b : XzBlockSpec) : Nat :=
  1 + b.hdrBody.length + 4 + b.payload.length + checkSize check

def record (check : CheckMethod) (b : XzBlockSpec) : Bytes :=
  mbField b.wIdxUnpadded (b.unpadded check) ++ mbField b.wIdxUnpacked b.out.length

/-- legality of the sizes -/
structure WF (check : CheckMethod) (b : XzBlockSpec) : Prop where
  hdr : b.hdrWords ≤ 255
  packed : b.declPacked = true → mbW b.wPacked b.payload.length ≤ 9
  unpacked : b.declUnpacked = true → mbW b.wUnpacked b.out.length ≤ 9
  filterId : b.wFilterId ≤ 9
  propsSize : b.wPropsSize ≤ 9
  idxUnpadded : mbW b.wIdxUnpadded (b.unpadded check) ≤ 9
  idxUnpacked : mbW b.wIdxUnpacked b.out.length ≤ 9

end XzBlockSpec

def xzIndexBody (check : CheckMethod) (blocks : List XzBlockSpec) (wCount : Nat) : Bytes :=
  [0] ++ (mbField wCount blocks.length ++ (blocks.map (·.record check)).flatten)

def xzIndex (check : CheckMethod) (blocks : List XzBlockSpec) (wCount : Nat) : Bytes :=
  let body := xzIndexBody check blocks wCount
  let padded := body ++ List.replicate (pad4 body.length) 0
  padded ++ leBytes 4 (crc32 padded)

def xzStreamHeader (check : CheckMethod) : Bytes :=
  [0xFD, 0x37, 0x7A, 0x58, 0x5A, 0x00] ++ ([0, UInt8.ofNat check.id]
    ++ leBytes 4 (crc32 [0, UInt8.ofNat check.id]))

def xzFooter (check : CheckMethod) (indexLen : Nat) : Bytes :=
  let f := leBytes 4 (indexLen / 4 - 1) ++ [0, UInt8.ofNat check.id]
  leBytes 4 (crc32 f) ++ (f ++ [0x59, 0x5A])

/-- the `.xz` file with the given integrity check and blocks; `wCount` is the requested width
of the record count in the index -/
def buildXz (check : CheckMethod) (blocks : List XzBlockSpec) (wCount : Nat := 0) : Bytes :=
  xzStreamHeader check ++ ((blocks.map (·.bytes check)).flatten
    ++ (xzIndex check blocks wCount ++ xzFooter check (xzIndex check blocks wCount).length))

/-! ## reader lemmas -/

theorem mbW_pos (w v : Nat) : 1 ≤ mbW w v := by
  have := mbWidth_pos v; unfold mbW; omega

theorem getMultibyte_mbField (w v : Nat) (r : Bytes) (b : Bool) (h : mbW w v ≤ 9) :
    getMultibyte { rem := mbField w v ++ r, bad := b } = .ok (v, mbField w v, { rem := r, bad := b }) :=
  multibyte_roundtrip _ v r b (mbW_pos w v) h (lt_of_mbWidth_le _ v (by unfold mbW; omega))

theorem mbField_mbInt {w v : Nat} (h : mbW w v ≤ 9) : MbInt (mbField w v) v :=
  ⟨.encodeMb _ v (mbW_pos w v) (lt_of_mbWidth_le _ v (by unfold mbW; omega)), by simpa [mbField] using h⟩

theorem Fwd.flushZeroPadding_zeros (n : Nat) :
    Rd.flushZeroPadding { rem := List.replicate n 0, bad := false }
      = .ok (true, { rem := [], bad := false }) := by
  unfold Rd.flushZeroPadding
  rcases n with _ | n
  · simp
  · simp [List.replicate_succ]


namespace XzBlockSpec

def blockHeader (b : XzBlockSpec) : BlockHeader :=
  { filters := [{ props := [b.dictByte] }]
    packedSize := if b.declPacked then some b.payload.length else none
    unpackedSize := if b.declUnpacked then some b.out.length else none }

theorem readFilters_one (b : XzBlockSpec) (hs : Nat) (h1 : 1 ≤ hs) (n : Nat)
    (hf : b.wFilterId ≤ 9) (hp : b.wPropsSize ≤ 9) :
    readFilters 1 hs [] { rem := mbField b.wFilterId 0x21 ++ (mbField b.wPropsSize 1
        ++ b.dictByte :: List.replicate n 0), bad := false }
      = .ok ([{ props := [b.dictByte] }], { rem := List.replicate n 0, bad := false }) := by
  have e1 : mbWidth 0x21 = 1 := mbWidth_of_lt (by omega)
  have e2 : mbWidth 1 = 1 := mbWidth_of_lt (by omega)
  have w1 : mbW b.wFilterId 0x21 ≤ 9 := by unfold mbW; omega
  have w2 : mbW b.wPropsSize 1 ≤ 9 := by unfold mbW; omega
  have hn : ¬ (1 > hs) := by omega
  simp [readFilters, getMultibyte_mbField _ _ _ _ w1, getMultibyte_mbField _ _ _ _ w2, bind, Except.bind,
    pure, Except.pure, hn, Rd.readExact]

theorem readBlockHeader_spec (b : XzBlockSpec) (check : CheckMethod) (hwf : b.WF check) (hs : Nat)
    (h1 : 1 ≤ hs) :
    readBlockHeader { rem := b.hdrBody, bad := false } hs
      = .ok (b.blockHeader, { rem := [], bad := false }) := by
  have hrf := fun n => readFilters_one b hs h1 n hwf.filterId hwf.propsSize
  unfold readBlockHeader hdrBody fields blockHeader flagsNat
  rcases hp : b.declPacked <;> rcases hu : b.declUnpacked
  · simp [Rd.readU8, bind, Except.bind, pure, Except.pure, hrf, Fwd.flushZeroPadding_zeros]
  · have := hwf.unpacked hu
    simp [Rd.readU8, bind, Except.bind, pure, Except.pure, hrf, Fwd.flushZeroPadding_zeros,
      getMultibyte_mbField _ _ _ _ this]
  · have := hwf.packed hp
    simp [Rd.readU8, bind, Except.bind, pure, Except.pure, hrf, Fwd.flushZeroPadding_zeros,
      getMultibyte_mbField _ _ _ _ this]
  · have h1 := hwf.unpacked hu
    have h2 := hwf.packed hp
    simp [Rd.readU8, bind, Except.bind, pure, Except.pure, hrf, Fwd.flushZeroPadding_zeros,
      getMultibyte_mbField _ _ _ _ h1, getMultibyte_mbField _ _ _ _ h2]

end XzBlockSpec

theorem pad4_lt (n : Nat) : pad4 n < 4 := by unfold pad4; omega
theorem add_pad4_mod (n : Nat) : (n + pad4 n) % 4 = 0 := by unfold pad4; omega
theorem paddingSize_eq_pad4 (n : Nat) : paddingSize n = pad4 n := padding_formula n

theorem Fwd.Rd_split_append (l r : Bytes) (b : Bool) :
    Rd.split { rem := l ++ r, bad := b } l.length = ({ rem := l, bad := false }, r) := by
  simp [Rd.split]

namespace XzBlockSpec

theorem hdr_len (b : XzBlockSpec) : 1 + b.hdrBody.length = 4 * b.hdrWords := by
  have : (1 + b.hdrBody.length) % 4 = 0 := by
    have := add_pad4_mod (1 + b.fields.length)
    simp only [hdrBody, hdrPad, List.length_append, List.length_replicate]
    omega
  unfold hdrWords; omega

theorem hdrWords_pos (b : XzBlockSpec) : 1 ≤ b.hdrWords := by
  have := b.hdr_len
  have : 1 ≤ b.fields.length := by simp [fields]
  have : b.fields.length ≤ b.hdrBody.length := by simp [hdrBody]
  omega

/-- Sizes below `2^62`, requested field widths of at most nine bytes and at most 240 extra padding
words make a legal block, whatever the check: the header then has at most 1002 bytes before its
CRC (1006 with it, below the format's limit of 1024), and the unpadded size stays below `2^63`. -/
theorem WF.of_lt (check : CheckMethod) (b : XzBlockSpec)
    (hp : b.payload.length < 2 ^ 62) (ho : b.out.length < 2 ^ 62)
    (hw : b.wPacked ≤ 9 ∧ b.wUnpacked ≤ 9 ∧ b.wFilterId ≤ 9 ∧ b.wPropsSize ≤ 9 ∧
      b.wIdxUnpadded ≤ 9 ∧ b.wIdxUnpacked ≤ 9)
    (hx : b.extraPadWords ≤ 240) : b.WF check := by
  have h9 : ∀ {w v : Nat}, w ≤ 9 → v < 2 ^ 63 → mbW w v ≤ 9 := fun hw hv => by
    have := mbWidth_le_nine _ hv; unfold mbW; omega
  have k1 := h9 hw.1 (v := b.payload.length) (by omega)
  have k2 := h9 hw.2.1 (v := b.out.length) (by omega)
  have k3 := h9 hw.2.2.1 (v := 0x21) (by omega)
  have k4 := h9 hw.2.2.2.1 (v := 1) (by omega)
  have hf : b.fields.length ≤ 38 := by
    simp only [fields, mbField, List.length_append, List.length_cons, List.length_nil,
      encodeMb_length]
    split <;> split <;> simp only [encodeMb_length, List.length_nil] <;> omega
  have hb : b.hdrBody.length ≤ 1001 := by
    have := pad4_lt (1 + b.fields.length)
    simp only [hdrBody, hdrPad, List.length_append, List.length_replicate]; omega
  have hc : checkSize check ≤ 32 := by cases check <;> simp [checkSize]
  exact ⟨by unfold hdrWords; omega, fun _ => k1, fun _ => k2, hw.2.2.1, hw.2.2.2.1,
    h9 hw.2.2.2.2.1 (by unfold unpadded; omega), h9 hw.2.2.2.2.2 (by omega)⟩

theorem sizeByte_toNat (b : XzBlockSpec) (h : b.hdrWords ≤ 255) : b.sizeByte.toNat = b.hdrWords := by
  simp [sizeByte, UInt8.toNat_ofNat']; omega

theorem sizeByte_ne_zero (b : XzBlockSpec) (h : b.hdrWords ≤ 255) : b.sizeByte ≠ 0 := by
  intro hc
  have := b.sizeByte_toNat h
  have := b.hdrWords_pos
  rw [hc] at *
  simp at *
  omega

theorem _root_.Lzma.checkBytes_eq : checkBytes = xzCheckBytes := by
  funext check out; cases check <;> rfl

theorem checkBytes_length (check : CheckMethod) (hck : check ≠ .sha256) (out : Bytes) :
    (checkBytes check out).length = checkSize check := by
  cases check <;> simp [checkBytes, checkSize] at *

theorem readBlock_spec (check : CheckMethod) (b : XzBlockSpec) (t : Bytes) (s : Sink)
    (hs : s.script = []) (hwf : b.WF check) (hck : check ≠ .sha256)
    (hdec : ∀ t, decodeFilter (Rd.ofBytes (b.payload ++ t)) { props := [b.dictByte] }
      = .ok (b.out, { rem := t })) :
    readBlock ((b.rest check ++ t).length + 1) { rem := b.rest check ++ t, bad := false } check b.sizeByte s
      = (s.put b.out, .ok ({ unpaddedSize := b.unpadded check, unpackedSize := b.out.length },
          { rem := t, bad := false })) := by
  have hlen := b.hdr_len
  have hpos := b.hdrWords_pos
  have hsz : subChk "read_block: (header_size << 2) - 1" (b.sizeByte.toNat <<< 2) 1
      = .ok b.hdrBody.length := by
    rw [b.sizeByte_toNat hwf.hdr, Nat.shiftLeft_eq]
    simp [subChk]
    rw [if_pos (by omega)]
    congr 1; omega
  have hbh := b.readBlockHeader_spec check hwf b.hdrBody.length (by omega)
  have hcl := checkBytes_length check hck b.out
  have hpadeq : paddingSize (1 + b.hdrBody.length + 4 + b.payload.length) = pad4 b.payload.length := by
    rw [paddingSize_eq_pad4]; unfold pad4; omega
  refine readBlock_ok_iff.2 ⟨b.blockHeader, b.out,
    ⟨List.replicate (pad4 b.payload.length) 0 ++ (checkBytes check b.out ++ t), false⟩,
    blockDataStage_ok_iff.2 ⟨_, ⟨[], false⟩, crc32 (b.sizeByte :: b.hdrBody),
      ⟨b.payload ++ (List.replicate (pad4 b.payload.length) 0 ++ (checkBytes check b.out ++ t)), false⟩,
      hsz, ?_, ?_, ?_, ?_⟩, ?_, ?_⟩
  · simp only [rest, List.append_assoc, Fwd.Rd_split_append]; exact hbh
  · simp only [rest, List.append_assoc, Fwd.Rd_split_append, Rd.unsplit, List.nil_append]
    exact (Rd.readU32LE_eq_iff (crc32_lt _)).2 ⟨rfl, rfl⟩
  · simp only [rest, List.append_assoc, Fwd.Rd_split_append]
  · have := hdec (List.replicate (pad4 b.payload.length) 0 ++ (checkBytes check b.out ++ t))
    simp only [Rd.ofBytes] at this
    simp only [readBlockFilters, blockHeader, this, Except.ok_bind, laterFilters]
    cases b.declPacked <;> simp [pure, Except.pure] <;> rfl
  · cases b.declUnpacked <;> simp [blockHeader]
  · have hN1 : (b.rest check ++ t).length + 1
          - (List.replicate (pad4 b.payload.length) (0:UInt8) ++ (checkBytes check b.out ++ t)).length
        = 1 + b.hdrBody.length + 4 + b.payload.length := by
      simp [rest]; omega
    have hN2 : (b.rest check ++ t).length + 1 - t.length
        = 1 + b.hdrBody.length + 4 + b.payload.length + pad4 b.payload.length + checkSize check := by
      simp [rest]; omega
    rw [readBlockTail_ok_iff]
    dsimp only
    rw [hN1, hN2, hpadeq, ← checkBytes_eq]
    exact ⟨hck, by simp, rfl, Fwd.writeAll_perfect _ hs _, by omega, by unfold unpadded; congr 1; omega⟩
end XzBlockSpec

/-! ## the decoder on `buildXz` -/

/-- the index record the decoder computes for a block -/
def XzBlockSpec.toRecord (check : CheckMethod) (b : XzBlockSpec) : Record :=
  { unpaddedSize := b.unpadded check, unpackedSize := b.out.length }

/-- the LZMA2 decoder, run on the payload followed by anything, decodes exactly the payload
to `out` (this is property C02 for the payload) -/
def XzBlockSpec.Decodes (b : XzBlockSpec) : Prop :=
  ∀ t, decodeFilter (Rd.ofBytes (b.payload ++ t)) { props := [b.dictByte] } = .ok (b.out, { rem := t })

/-- the sink after one `write_all` per block with non-empty output -/
def Sink.putBlocks (s : Sink) (blocks : List XzBlockSpec) : Sink :=
  blocks.foldl (fun s b => s.put b.out) s

def blocksBytes (check : CheckMethod) (blocks : List XzBlockSpec) : Bytes :=
  (blocks.map (·.bytes check)).flatten

def recordsBytes (check : CheckMethod) (blocks : List XzBlockSpec) : Bytes :=
  (blocks.map (·.record check)).flatten

theorem recordsBytes_mbPairs (check : CheckMethod) : ∀ (blocks : List XzBlockSpec),
    (∀ b ∈ blocks, b.WF check) →
    MbPairs (recordsBytes check blocks)
      ((blocks.map (·.toRecord check)).map fun x => (x.unpaddedSize, x.unpackedSize))
  | [], _ => .nil
  | b :: bs, h => by
    have hb := h b (by simp)
    have := MbPairs.cons (mbField_mbInt hb.idxUnpadded) (mbField_mbInt hb.idxUnpacked)
      (recordsBytes_mbPairs check bs fun x hx => h x (by simp [hx]))
    simpa [recordsBytes, XzBlockSpec.record, XzBlockSpec.toRecord] using this

/-- the index after its indicator byte -/
def xzIndexTail (check : CheckMethod) (blocks : List XzBlockSpec) (wCount : Nat) : Bytes :=
  let body := xzIndexBody check blocks wCount
  mbField wCount blocks.length ++ (recordsBytes check blocks
    ++ (List.replicate (pad4 body.length) 0
    ++ leBytes 4 (crc32 (body ++ List.replicate (pad4 body.length) 0))))

theorem xzIndex_eq (check : CheckMethod) (blocks : List XzBlockSpec) (wCount : Nat) :
    xzIndex check blocks wCount = 0 :: xzIndexTail check blocks wCount := by
  simp [xzIndex, xzIndexTail, xzIndexBody, recordsBytes]

theorem xzIndex_length_mod (check : CheckMethod) (blocks : List XzBlockSpec) (wCount : Nat) :
    (xzIndex check blocks wCount).length % 4 = 0 ∧ 8 ≤ (xzIndex check blocks wCount).length := by
  have h := add_pad4_mod (xzIndexBody check blocks wCount).length
  have h1 : 2 ≤ (xzIndexBody check blocks wCount).length := by
    have := mbW_pos wCount blocks.length
    simp [xzIndexBody, mbField]; omega
  simp only [xzIndex, List.length_append, List.length_replicate, leBytes_length]
  omega

theorem checkIndex_spec (check : CheckMethod) (blocks : List XzBlockSpec) (wCount : Nat) (t : Bytes)
    (hw : ∀ b ∈ blocks, b.WF check) (hc : mbW wCount blocks.length ≤ 9) :
    checkIndex ((xzIndexTail check blocks wCount ++ t).length + 1) (blocks.map (·.toRecord check))
        { rem := xzIndexTail check blocks wCount ++ t, bad := false }
      = .ok { rem := t, bad := false } := by
  refine (checkIndex_ok_iff rfl).2 ⟨mbField wCount blocks.length, recordsBytes check blocks,
    by simpa using mbField_mbInt hc, recordsBytes_mbPairs check blocks hw, ?_, rfl⟩
  have hb : xzIndexBody check blocks wCount
      = 0 :: (mbField wCount blocks.length ++ recordsBytes check blocks) := rfl
  simp only [xzIndexTail, hb, paddingSize_eq_pad4, List.length_cons, List.length_append,
    List.append_assoc, List.cons_append, Nat.add_comm 1, Nat.add_assoc]

theorem blocksBytes_length_ge (check : CheckMethod) (blocks : List XzBlockSpec) :
    blocks.length ≤ (blocksBytes check blocks).length := by
  induction blocks with
  | nil => simp
  | cons b bs ih => simp [blocksBytes, XzBlockSpec.bytes] at ih ⊢; omega

theorem blockLoop_spec (check : CheckMethod) (hck : check ≠ .sha256) (idx t : Bytes) :
    ∀ (blocks : List XzBlockSpec) (fuel : Nat) (recs : List Record) (s : Sink),
    s.script = [] → (∀ b ∈ blocks, b.WF check ∧ b.Decodes) → blocks.length + 1 ≤ fuel →
    checkIndex ((idx ++ t).length + 1) (recs ++ blocks.map (·.toRecord check)) { rem := idx ++ t, bad := false }
      = .ok { rem := t, bad := false } →
    blockLoop check fuel recs { rem := blocksBytes check blocks ++ (0 :: (idx ++ t)), bad := false } s
      = (s.putBlocks blocks, .ok (idx.length + 1, { rem := t, bad := false }))
  | [], fuel, recs, s, hs, _, hf, hidx => by
    obtain ⟨fuel, rfl⟩ : ∃ f, fuel = f + 1 := ⟨fuel - 1, by simp at hf; omega⟩
    unfold blockLoop
    simp at hidx
    simp [blocksBytes, Rd.readU8, bind, Fwd.M_bind_apply, liftE, M.pure, pure, hidx, Sink.putBlocks]
    omega
  | b :: bs, fuel, recs, s, hs, hb, hf, hidx => by
    obtain ⟨fuel, rfl⟩ : ∃ f, fuel = f + 1 := ⟨fuel - 1, by simp at hf; omega⟩
    obtain ⟨hwf, hdec⟩ := hb b (by simp)
    have ih := blockLoop_spec check hck idx t bs fuel (recs ++ [b.toRecord check]) (s.put b.out)
      (by simpa using hs) (fun x hx => hb x (by simp [hx])) (by simp at hf; omega)
      (by simpa using hidx)
    have hrb := b.readBlock_spec check (blocksBytes check bs ++ (0 :: (idx ++ t))) s hs hwf hck hdec
    have hne := b.sizeByte_ne_zero hwf.hdr
    unfold blockLoop
    have hcons : blocksBytes check (b :: bs) ++ (0 :: (idx ++ t))
        = b.sizeByte :: (b.rest check ++ (blocksBytes check bs ++ (0 :: (idx ++ t)))) := by
      simp [blocksBytes, XzBlockSpec.bytes]
    rw [hcons]
    simp only [Rd.readU8, bind, Fwd.M_bind_apply, liftE, M.pure, pure, hne, if_false, List.length_cons, hrb]
    simpa [XzBlockSpec.toRecord, Sink.putBlocks] using ih

theorem Fwd.readExact_cons4 (a b c d : UInt8) (r : Bytes) (bad : Bool) :
    Rd.readExact { rem := a :: b :: c :: d :: r, bad := bad } 4
      = .ok ([a, b, c, d], { rem := r, bad := bad }) :=
  Rd.readExact_ok.2 ⟨rfl, rfl, rfl⟩

theorem parseStreamHeader_spec (check : CheckMethod) (r : Bytes) :
    parseStreamHeader { rem := xzStreamHeader check ++ r, bad := false }
      = .ok (check, { rem := r, bad := false }) :=
  parseStreamHeader_ok_iff.2 ⟨by simp [xzStreamHeader, XZ_MAGIC], rfl⟩

theorem Sink.putBlocks_cons (s : Sink) (b : XzBlockSpec) (bs : List XzBlockSpec) :
    s.putBlocks (b :: bs) = (s.put b.out).putBlocks bs := rfl

theorem Sink.putBlocks_out (s : Sink) (blocks : List XzBlockSpec) :
    (s.putBlocks blocks).out = s.out ++ (blocks.map (·.out)).flatten.toArray := by
  induction blocks generalizing s with
  | nil => simp [Sink.putBlocks]
  | cons b bs ih => rw [Sink.putBlocks_cons, ih]; simp [Array.append_assoc]

theorem Sink.putBlocks_script (s : Sink) (blocks : List XzBlockSpec) :
    (s.putBlocks blocks).script = s.script := by
  induction blocks generalizing s with
  | nil => rfl
  | cons b bs ih => rw [Sink.putBlocks_cons, ih, Sink.put_script]

theorem Sink.putBlocks_flushes (s : Sink) (blocks : List XzBlockSpec) :
    (s.putBlocks blocks).flushes = s.flushes := by
  induction blocks generalizing s with
  | nil => rfl
  | cons b bs ih => rw [Sink.putBlocks_cons, ih, Sink.put_flushes]

theorem xzDecompress_buildXz (check : CheckMethod) (blocks : List XzBlockSpec) (wCount : Nat) (s : Sink)
    (hck : check ≠ .sha256) (hs : s.script = [])
    (hb : ∀ b ∈ blocks, b.WF check ∧ b.Decodes)
    (hc : mbW wCount blocks.length ≤ 9)
    (hidx : (xzIndex check blocks wCount).length / 4 - 1 < 2 ^ 32) :
    xzDecompress (Rd.ofBytes (buildXz check blocks wCount)) s
      = (s.putBlocks blocks, .ok { rem := [] }) := by
  obtain ⟨hmod, hge⟩ := xzIndex_length_mod check blocks wCount
  have hlen : (xzIndex check blocks wCount).length = (xzIndexTail check blocks wCount).length + 1 := by
    rw [xzIndex_eq]; simp
  have hci := checkIndex_spec check blocks wCount
    (xzFooter check (xzIndex check blocks wCount).length) (fun b h => (hb b h).1) hc
  have hbl := blockLoop_spec check hck (xzIndexTail check blocks wCount)
    (xzFooter check (xzIndex check blocks wCount).length) blocks
    ((blocksBytes check blocks ++ (0 :: (xzIndexTail check blocks wCount ++
      xzFooter check (xzIndex check blocks wCount).length))).length + 1) [] s hs hb
    (by have := blocksBytes_length_ge check blocks; simp; omega) (by simpa using hci)
  have hbuild : buildXz check blocks wCount = xzStreamHeader check ++ (blocksBytes check blocks
      ++ (0 :: (xzIndexTail check blocks wCount ++ xzFooter check (xzIndex check blocks wCount).length))) := by
    simp [buildXz, blocksBytes, xzIndex_eq]
  have hshift : (xzIndexTail check blocks wCount).length + 1
      = (leVal (leBytes 4 ((xzIndex check blocks wCount).length / 4 - 1)) + 1) <<< 2 := by
    rw [leVal_leBytes 4 _ (by simpa using hidx), Nat.shiftLeft_eq, ← hlen]; omega
  refine xzDecompress_ok_iff.2 ⟨check, ⟨_, false⟩, _, ⟨_, false⟩, ?_, hck, hbl, ?_⟩
  · rw [hbuild]; exact parseStreamHeader_spec check _
  · exact Except.bind_eq_ok'.2 ⟨⟨[], false⟩, xzFooterStage_ok_iff.2 ⟨_, leBytes_length 4 _, hshift,
      by simp [xzFooter, XZ_MAGIC_FOOTER], rfl⟩, xzEndStage_ok_iff.2 ⟨rfl, rfl, rfl⟩⟩

/-! ## the XZ writer -/

theorem xzWriteHeader_writes (check : CheckMethod) :
    Writes (xzWriteHeader check) (xzStreamHeader check) () :=
  (Writes.bind (.writeAll _) (.bind (.writeAll _) (.writeBytes _))).cast
    (by simp [xzStreamHeader, XZ_MAGIC])

/-- the block written by `xz_compress` for the LZMA2 chunks `cs` -/
def encBlock (cs : List Bytes) : XzBlockSpec := { payload := lzma2Frame cs, out := cs.flatten }

theorem mbField_zero_small (v : Nat) (h : v < 128) : mbField 0 v = [UInt8.ofNat v] := by
  simp [mbField, mbW, mbWidth_of_lt h, encodeMb, Nat.mod_eq_of_lt h]

theorem encBlock_hdrBody (cs : List Bytes) : (encBlock cs).hdrBody = [0x00, 0x21, 1, 22, 0, 0, 0] := by
  have h1 := mbField_zero_small 0x21 (by omega)
  have h2 := mbField_zero_small 1 (by omega)
  have hf : (encBlock cs).fields = [0x00, 0x21, 1, 22] := by
    simp [XzBlockSpec.fields, encBlock, XzBlockSpec.flagsNat, h1, h2]
  simp [XzBlockSpec.hdrBody, XzBlockSpec.hdrPad, hf, pad4]; rfl

theorem encBlock_sizeByte (cs : List Bytes) : (encBlock cs).sizeByte = 2 := by
  simp [XzBlockSpec.sizeByte, XzBlockSpec.hdrWords, encBlock_hdrBody]

theorem Fwd.M_bind_apply_fun (g : Sink → Sink × Except Err α) (f : α → M β) (s : Sink) :
    M.bind g f s = match g s with
      | (s', .ok a) => f a s'
      | (s', .error e) => (s', .error e) := rfl

theorem forM_writes : ∀ body : Bytes, Writes (body.forM fun b => writeBytes [b]) body ⟨⟩
  | [] => .pure _
  | b :: body => by
    show Writes (writeBytes [b] >>= fun _ => body.forM fun b => writeBytes [b]) ([b] ++ body) ⟨⟩
    exact .bind (.writeBytes [b]) (forM_writes body)

theorem mbField_zero (v : Nat) (h : v < 2 ^ 63) : mbField 0 v = multibyteBytes v := by
  rw [multibyteBytes_eq v h]; simp [mbField, mbW]

theorem xzWriteIndex_writes (b : XzBlockSpec) (hu : b.unpadded .none < 2 ^ 63)
    (ho : b.out.length < 2 ^ 63) (hw1 : b.wIdxUnpadded = 0) (hw2 : b.wIdxUnpacked = 0) :
    Writes (xzWriteIndex (b.unpadded .none) b.out.length) (xzIndex .none [b] 0)
      (xzIndex .none [b] 0).length := by
  have hbody : [0] ++ multibyteBytes 1 ++ multibyteBytes (b.unpadded .none) ++ multibyteBytes b.out.length
      = xzIndexBody .none [b] 0 := by
    simp [xzIndexBody, XzBlockSpec.record, hw1, hw2, mbField_zero _ hu, mbField_zero _ ho,
      mbField_zero 1 (by omega)]
  have hl : (xzIndex .none [b] 0).length = (xzIndexBody .none [b] 0).length
      + paddingSize (xzIndexBody .none [b] 0).length + 4 := by
    simp [xzIndex, paddingSize_eq_pad4]; omega
  unfold xzWriteIndex
  rw [hbody, hl]
  exact (Writes.bind (forM_writes _) (.bind (.writeAll _)
    (.bind (f := fun _ => pure _) (.writeBytes _) (.pure _)))).cast (by simp [xzIndex, paddingSize_eq_pad4])

theorem xzWriteFooter_writes (check : CheckMethod) (L : Nat) (hL : 4 ≤ L) (hLb : L / 4 - 1 < 2 ^ 32) :
    Writes (xzWriteFooter check L) (xzFooter check L) () := by
  have hmod : (L / 4 - 1) % U32 = L / 4 - 1 := Nat.mod_eq_of_lt (by simpa [U32] using hLb)
  have hsub : subChk "write_footer: (index_size >> 2) - 1" (L >>> 2) 1 = .ok (L / 4 - 1) := by
    rw [Nat.shiftRight_eq_div_pow]; unfold subChk; rw [if_pos (by omega)]
  exact (Writes.bind (.liftE hsub) (.bind (.writeBytes _) (.bind (.writeAll _) (.writeAll _)))).cast
    (by simp [xzFooter, hmod, XZ_MAGIC_FOOTER])

theorem ChunksOk.length_le {cs : List Bytes} (h : ChunksOk cs) : cs.length ≤ cs.flatten.length := by
  induction cs with
  | nil => simp
  | cons c cs ih =>
    have := h c (by simp)
    have := ih (fun x hx => h x (by simp [hx]))
    simp only [List.flatten_cons, List.length_append, List.length_cons]; omega

theorem decodes_of_frame (b : XzBlockSpec) (cs : List Bytes) (hp : b.payload = lzma2Frame cs)
    (ho : b.out = cs.flatten) (hok : ChunksOk cs) : b.Decodes := by
  intro t
  rw [hp, ho]
  exact decodeFilter_frame cs t b.dictByte hok

theorem encBlock_facts (cs : List Bytes) (hok : ChunksOk cs) (hlen : cs.flatten.length < 2 ^ 60) :
    (encBlock cs).unpadded .none < 2 ^ 63 ∧ (encBlock cs).out.length < 2 ^ 63
      ∧ (xzIndex .none [encBlock cs] 0).length / 4 - 1 < 2 ^ 32
      ∧ (encBlock cs).WF .none ∧ (encBlock cs).Decodes := by
  have hfr := lzma2Frame_length cs
  have hcl := hok.length_le
  have hu : (encBlock cs).unpadded .none < 2 ^ 63 := by
    simp [XzBlockSpec.unpadded, encBlock_hdrBody, checkSize]; simp [encBlock]; omega
  have ho : (encBlock cs).out.length < 2 ^ 63 := by
    show cs.flatten.length < 2 ^ 63
    omega
  have h9a : mbW 0 (encBlock cs).out.length ≤ 9 := by
    have := mbWidth_le_nine _ ho; simpa [mbW] using this
  have h9b : mbW 0 ((encBlock cs).unpadded .none) ≤ 9 := by
    have := mbWidth_le_nine _ hu; simpa [mbW] using this
  have e2 : (encBlock cs).wIdxUnpadded = 0 := rfl
  have e3 : (encBlock cs).wIdxUnpacked = 0 := rfl
  refine ⟨hu, ho, ?_, ?_, decodes_of_frame _ cs rfl rfl hok⟩
  · have : (xzIndex .none [encBlock cs] 0).length ≤ 27 := by
      have := pad4_lt (xzIndexBody .none [encBlock cs] 0).length
      have e1 : mbW 0 1 = 1 := by simp [mbW, mbWidth_of_lt]
      have hb : (xzIndexBody .none [encBlock cs] 0).length ≤ 20 := by
        simp only [xzIndexBody, XzBlockSpec.record, mbField, List.length_append, encodeMb_length, e1, e2, e3,
          List.map_cons, List.map_nil, List.flatten_cons, List.flatten_nil, List.length_cons, List.length_nil]
        omega
      simp only [xzIndex, List.length_append, List.length_replicate, leBytes_length]
      omega
    omega
  · refine ⟨?_, fun h => by simp [encBlock] at h, fun h => by simp [encBlock] at h, by simp [encBlock],
      by simp [encBlock], by rw [e2]; exact h9b, by rw [e3]; exact h9a⟩
    simp [XzBlockSpec.hdrWords, encBlock_hdrBody]

theorem xzWriteBlock_writes (rd : ERd) (hb : rd.bad = false) :
    ∃ cs, Writes (xzWriteBlock rd) ((encBlock cs).bytes .none)
        ((encBlock cs).unpadded .none, rd.rem.length) ∧ ChunksOk cs ∧ cs.flatten = rd.rem := by
  obtain ⟨cs, rd', hrun, hrem, -, hok, hfl⟩ :=
    lzma2EncodeLoop_writes (rd.rem.length + 1) rd hb (Nat.le_refl _)
  refine ⟨cs, fun s hs => ?_, hok, hfl⟩
  let s1 := ((((((s.put [2]).put [0]).put [0x21]).put [1]).put [22]).put [0, 0, 0]).put
    (leBytes 4 (crc32 [2, 0x00, 0x21, 1, 22, 0, 0, 0]))
  obtain ⟨s2, hrun', hs2, hf2, hout2⟩ := hrun s1 (by simp [s1, hs])
  have hsz : s2.out.size - s.out.size = 12 + (lzma2Frame cs).length := by
    rw [hout2]; simp [s1]; omega
  have hpad : paddingSize (12 + (lzma2Frame cs).length) = pad4 (lzma2Frame cs).length := by
    rw [paddingSize_eq_pad4]; unfold pad4; omega
  have hunp : (encBlock cs).unpadded .none = 12 + (lzma2Frame cs).length := by
    simp [XzBlockSpec.unpadded, encBlock_hdrBody, checkSize]; simp [encBlock]
  refine ⟨s2.put (List.replicate (pad4 (lzma2Frame cs).length) 0), ?_, by simpa using hs2,
    by simp [hf2, s1], ?_⟩
  · unfold xzWriteBlock
    simp [bind, Fwd.M_bind_apply, Fwd.M_bind_apply_fun, M.pure, pure, Fwd.writeBytes_perfect, hs]
    rw [show lzma2Compress rd (((((((s.put [2]).put [0]).put [33]).put [1]).put [22]).put [0, 0, 0]).put
          (leBytes 4 (crc32 [2, 0, 33, 1, 22, 0, 0, 0]))) = (s2, Except.ok rd') from hrun']
    simp [hsz, hpad, Fwd.writeAll_perfect, hs2, hrem, hunp]
  · simp [Sink.put_out, hout2, s1, XzBlockSpec.bytes, XzBlockSpec.rest, encBlock_hdrBody,
      encBlock_sizeByte, checkBytes, Array.append_assoc]
    simp [encBlock]
    exact congrArg _ (Array.ext' (by simp))

theorem xzCompress_writes (rd : ERd) (hb : rd.bad = false) (hlen : rd.rem.length < 2 ^ 60) :
    ∃ cs, Writes (xzCompress rd) (buildXz .none [encBlock cs]) () ∧ ChunksOk cs ∧
      cs.flatten = rd.rem := by
  obtain ⟨cs, h2, hok, hfl⟩ := xzWriteBlock_writes rd hb
  obtain ⟨hu, ho, hLb, -, -⟩ := encBlock_facts cs hok (by rw [hfl]; exact hlen)
  obtain ⟨hmod, hge⟩ := xzIndex_length_mod .none [encBlock cs] 0
  have h3 := xzWriteIndex_writes (encBlock cs) hu ho rfl rfl
  rw [show (encBlock cs).out.length = rd.rem.length by simp [encBlock, hfl]] at h3
  exact ⟨cs, (Writes.bind (xzWriteHeader_writes .none) (.bind h2 (.bind h3
    (xzWriteFooter_writes .none _ (by omega) hLb)))).cast (by simp [buildXz]), hok, hfl⟩

end Lzma
