/-
  Exactness of LZMA2 (C02), chunk by chunk: one chunk of the reference LZMA2 encoder of
  `Lemmas/Lzma2Exact.lean` (`encChunk`) is one `L2.Chunk` (`ChunkOk`, `chunk_ok`) that the
  decoder executes (`Chunk.Exec`) keeping the invariant `Inv` between decoder state / window /
  sink and the encoder state; a whole chunk list is a `L2.Run` (`run_chunks`); the syntactic
  well-formedness `WF2s` implies `WF2` (`wf2s_imp`).
-/
import LzmaProofs.Lemmas.Lzma2Exact
namespace Lzma
namespace L2E
open DState REnc L2

theorem run_hist_split {dict : Nat} {prog : List Sym} {st st' : SpecSt}
    (h : SpecSt.run dict st prog = some (st', false)) :
    st'.hist.toList = st.hist.toList ++ st'.hist.toList.drop st.hist.size := by
  obtain ⟨ext, he⟩ : ∃ ext, st'.hist.toList = st.hist.toList ++ ext :=
    SpecSt.run_ind (P := fun st _ r => ∃ ext, r.1.hist.toList = st.hist.toList ++ ext)
      (fun _ => ⟨[], by simp⟩) (fun _ => ⟨[], by simp⟩)
      (fun hs _ ⟨e2, h2⟩ =>
        let ⟨e1, _, h1⟩ := SpecSt.step_hist hs
        ⟨e1 ++ e2, by rw [h2, h1, List.append_assoc]⟩) prog h
  rw [he, ← Array.length_toList, List.drop_left]

theorem resetState_init {st : DState} (hs : Safety.DStateInv st) {np : Props}
    (hp : Safety.PropsOk np) :
    st.resetState np = .ok { st with
      props := np
      probs := Probs.init (1 <<< (np.lc + np.lp))
      state := 0, rep0 := 0, rep1 := 0, rep2 := 0, rep3 := 0 } := by
  unfold DState.resetState
  rw [Safety.validate_ok hp]
  simp only [Safety.ok_bind]
  by_cases h : st.props.lc + st.props.lp = np.lc + np.lp
  · have h1 : st.probs.lit.size = (1 <<< (np.lc + np.lp)) * 0x300 := by
      rw [hs.probs.lit.1, hs.rows, h]
    have h2 : st.probs.litRows = 1 <<< (np.lc + np.lp) := by rw [hs.rows, h]
    simp only [h, if_true, h1, h2]
    rfl
  · simp only [h, if_false]
    rfl

theorem reset_stage {s0 : Sink} {F H : Bytes} {a : Accum} {k : Sink} (c : Prop) [Decidable c]
    (ha : AccumInv a H) (hk : k.script = []) (ho : k.out = s0.out ++ F.toArray) :
    ∃ k0 a0, (if c then a.reset else pure a) k = (k0, .ok a0) ∧ k0.script = [] ∧
      k0.out = s0.out ++ (F ++ if c then H else []).toArray ∧
      AccumInv a0 (if c then [] else H) ∧ a0.memlimit = a.memlimit := by
  by_cases hc : c
  · obtain ⟨s', h1, h2, h3, h4⟩ := Accum.reset_spec ha hk
    refine ⟨s', { a with buf := #[], len := 0 }, by rw [if_pos hc]; exact h1, h2, ?_,
      by rw [if_pos hc]; exact h4, rfl⟩
    rw [h3, ho, if_pos hc]
    simp
  · refine ⟨k, a, by rw [if_neg hc]; rfl, hk, ?_, by rw [if_neg hc]; exact ha, rfl⟩
    rw [ho, if_neg hc]; simp

/-- decoder object `d`, window `a`, sink `k` versus the encoder state `es`; `F` = the bytes the
dictionary resets have flushed to the sink so far -/
structure Inv (s0 : Sink) (F : Bytes) (d : Lzma2Decoder) (a : Accum) (k : Sink) (es : EncSt) :
    Prop where
  cpl : Coupled d.lzmaState es
  acc : AccumInv a es.spec.hist.toList
  mem : a.memlimit = USIZE_MAX
  perf : k.script = []
  out : k.out = s0.out ++ F.toArray

theorem inv_init {s0 : Sink} (hs : s0.script = []) :
    Inv s0 [] Lzma2Decoder.init (Accum.fromStream USIZE_MAX) s0
      (EncSt.new { lc := 0, lp := 0, pb := 0 }) where
  cpl :=
    { probs := rfl, props := rfl, state := rfl, rep0 := rfl, rep1 := rfl, rep2 := rfl, rep3 := rfl
      dinv := by
        have := Safety.Lzma2Decoder_new_safe
        rw [Lzma2Decoder.new_eq] at this
        exact this
      pbuf := rfl
      pok := probsOk_init _
      lclp := by decide
      lim := by intro h; exact absurd h (by show ¬ (0 : Nat) ≥ 7; omega) }
  acc := Accum.fromStream_inv _
  mem := rfl
  perf := hs
  out := by simp

theorem ctrl_toNat {cls n : Nat} (hc : cls ≤ 3) (hn : n ≤ 2097152) :
    (UInt8.ofNat (0x80 + cls * 32 + ((n - 1) >>> 16))).toNat = 0x80 + cls * 32 + (n - 1) >>> 16 ∧
      (n - 1) >>> 16 < 32 := by
  have : (n - 1) >>> 16 < 32 := by rw [Nat.shiftRight_eq_div_pow]; omega
  rw [UInt8.toNat_ofNat']; omega

theorem propsByte_toNat {p : Props} (h1 : p.lc + p.lp ≤ 4) (h2 : p.pb ≤ 4) :
    (propsByte p).toNat = p.lc + 9 * (p.lp + 5 * p.pb) := by
  unfold propsByte
  rw [UInt8.toNat_ofNat']; omega

theorem propsOfByte_propsByte {p : Props} (h1 : p.lc + p.lp ≤ 4) (h2 : p.pb ≤ 4) :
    propsOfByte (propsByte p) = p := by
  unfold propsOfByte
  rw [propsByte_toNat h1 h2]
  rcases p with ⟨lc, lp, pb⟩
  simp only at h1 h2 ⊢
  congr 1 <;> omega

/-- the kind of `L2.Chunk` the reference encoder emits: an uncompressed one for an uncompressed
chunk; for an LZMA chunk that sets new properties one with a property byte (control ≥ 0xC0) -/
def Shape : SChunk → Chunk → Prop
  | .raw _ _, ch => ∃ r data, ch = .raw r data
  | .lzma cls _ _, ch => cls ≥ 2 → ∃ c u b payload, ch = .packed c u (some b) payload ∧ 0xC0 ≤ c.toNat

/-- the effect of one chunk, uniformly for both kinds: the reference encoder's bytes are those of
a syntactically well-formed `L2.Chunk` that the decoder executes; the chunk has a meaning; the
invariant is re-established for the encoder's next state; and everything delivered so far
(flushed by dictionary resets + still in the window) grows by exactly the chunk's meaning -/
def ChunkOk (s0 : Sink) (F : Bytes) (d : Lzma2Decoder) (a : Accum) (k : Sink) (es : EncSt)
    (c : SChunk) : Prop :=
  ∃ (ch : Chunk) (sp' : SpecSt) (out : Bytes) (d' : Lzma2Decoder) (a' : Accum) (k' : Sink)
    (F' : Bytes),
    ch.WF ∧ ch.bytes = (encChunk es c).1 ∧ ch.Exec d a k d' a' k' ∧
    c.sem es.spec = some (sp', out) ∧ (encChunk es c).2.spec = sp' ∧
    Inv s0 F' d' a' k' (encChunk es c).2 ∧
    F' ++ sp'.hist.toList = F ++ es.spec.hist.toList ++ out ∧ MbAfter es.spec sp' c ∧ Shape c ch

theorem raw_chunk {s0 : Sink} {F : Bytes} {d : Lzma2Decoder} {a : Accum} {k : Sink} {es : EncSt}
    (hinv : Inv s0 F d a k es) (rd : Bool) (data : Bytes) (hwf : (SChunk.raw rd data).WF es) :
    ChunkOk s0 F d a k es (.raw rd data) := by
  obtain ⟨k0, a0, hreset, hk0, hout0, hacc0, hmem0⟩ :=
    reset_stage (s0 := s0) (F := F) (rd = true) hinv.acc hinv.perf hinv.out
  refine ⟨.raw rd data, rawAfter rd data es.spec, data, d, a0.appendBytes data, k0,
    F ++ (if rd = true then es.spec.hist.toList else []), hwf, rfl, ⟨rfl, a0, hreset, rfl⟩, rfl, rfl,
    ?_, ?_, ?_, ⟨rd, data, rfl⟩⟩
  · have hc := hinv.cpl
    refine ⟨⟨hc.probs, hc.props, hc.state, hc.rep0, hc.rep1, hc.rep2, hc.rep3, hc.dinv, hc.pbuf,
      hc.pok, hc.lclp, hc.lim⟩, ?_, by rw [← hinv.mem, ← hmem0]; rfl, hk0, hout0⟩
    have := Accum.appendBytes_inv data hacc0
    show AccumInv _ (rawAfter rd data es.spec).hist.toList
    cases rd <;> simpa [rawAfter] using this
  · cases rd <;> simp [rawAfter]
  · intro hrd hmb hst
    subst hrd
    have := hmb hst
    show es.spec.rep0 + 1 ≤ (rawAfter false data es.spec).hist.size
    simp only [rawAfter, Bool.false_eq_true, if_false, Array.size_append, List.size_toArray]
    omega

theorem state_stage {st : DState} {es : EncSt} (hc : Coupled st es) (cls : Nat) (props : Props)
    (hlclp : (startEnc cls props es).props.lc + (startEnc cls props es).props.lp ≤ 4)
    (hpb : (startEnc cls props es).props.pb ≤ 4) :
    ∃ st0, (if cls ≥ 1 then st.resetState (propsInForce cls props es.props) else .ok st) = .ok st0 ∧
      Coupled st0 (startEnc cls props es) := by
  by_cases h0 : cls = 0
  · subst h0
    exact ⟨st, rfl, hc⟩
  · have he : startEnc cls props es =
        { EncSt.new (propsInForce cls props es.props) with spec := startSpec cls es.spec } := by
      unfold startEnc; rw [if_neg h0]
    rw [he] at hlclp hpb ⊢
    have hp : Safety.PropsOk (propsInForce cls props es.props) :=
      ⟨by have := hlclp; simp only [EncSt.new] at this; omega,
       by have := hlclp; simp only [EncSt.new] at this; omega, hpb⟩
    have hreset := resetState_init hc.dinv hp
    have hsafe := Safety.resetState_safe hc.dinv hp
    rw [hreset] at hsafe
    refine ⟨_, by rw [if_pos (by omega)]; exact hreset, ?_⟩
    obtain ⟨hst0, r0, r1, r2, r3⟩ := startSpec_regs h0 es.spec
    exact
      { probs := rfl, props := rfl, state := hst0.symm, rep0 := r0.symm,
        rep1 := r1.symm, rep2 := r2.symm, rep3 := r3.symm, dinv := hsafe.1, pbuf := hc.pbuf,
        pok := probsOk_init _, lclp := hlclp,
        lim := by
          intro h
          have : (startSpec cls es.spec).state = 0 := hst0
          have h' : (startSpec cls es.spec).state ≥ 7 := h
          omega }

theorem start_stage {s0 : Sink} {F : Bytes} {d : Lzma2Decoder} {a : Accum} {k : Sink} {es : EncSt}
    (hinv : Inv s0 F d a k es) {cls hi : Nat} (props : Props) {c : UInt8}
    (hc : c.toNat = 0x80 + cls * 32 + hi) (hhi : hi < 32) (hcls : cls ≤ 3)
    (hlclp : (startEnc cls props es).props.lc + (startEnc cls props es).props.lp ≤ 4)
    (hpb : (startEnc cls props es).props.pb ≤ 4) (hmb : cls = 0 → MbOk es.spec) :
    ∃ k0 a0 st0,
      (if 0xE0 ≤ c.toNat then a.reset else pure a) k = (k0, .ok a0) ∧
      (if 0xA0 ≤ c.toNat then
          d.lzmaState.resetState (match (if cls ≥ 2 then some (propsByte props) else none) with
            | some b => propsOfByte b
            | none => d.lzmaState.props)
        else .ok d.lzmaState) = .ok st0 ∧
      Inv s0 (F ++ if cls = 3 then es.spec.hist.toList else []) { lzmaState := st0 } a0 k0
        (startEnc cls props es) ∧
      MbOk (startEnc cls props es).spec := by
  obtain ⟨k0, a0, hreset, hk0, hout0, hacc0, hmem0⟩ :=
    reset_stage (s0 := s0) (F := F) (cls = 3) hinv.acc hinv.perf hinv.out
  obtain ⟨st0, hstate, hcpl0⟩ := state_stage hinv.cpl cls props hlclp hpb
  refine ⟨k0, a0, st0, ?_, ?_, ⟨hcpl0, ?_, hmem0.trans hinv.mem, hk0, hout0⟩, ?_⟩
  · simpa only [show 0xE0 ≤ c.toNat ↔ cls = 3 by omega] using hreset
  · simp only [show 0xA0 ≤ c.toNat ↔ cls ≥ 1 by omega]
    -- the properties the reset is called with are those in force
    by_cases h2 : cls ≥ 2
    · rw [startEnc_props h2] at hlclp hpb
      simpa only [propsInForce, if_pos h2, propsOfByte_propsByte hlclp hpb] using hstate
    · simpa only [propsInForce, if_neg h2, hinv.cpl.props] using hstate
  · rw [startEnc_spec, startSpec_hist, apply_ite Array.toList]; exact hacc0
  · rw [startEnc_spec]
    by_cases h0 : cls = 0
    · subst h0; exact hmb rfl
    · intro h
      have := (startSpec_regs h0 es.spec).1
      have h' : (startSpec cls es.spec).state ≥ 7 := h
      omega

theorem lzma_chunk {s0 : Sink} {F : Bytes} {d : Lzma2Decoder} {a : Accum} {k : Sink} {es : EncSt}
    (hinv : Inv s0 F d a k es) (cls : Nat) (props : Props) (prog : List Sym)
    (hwf : (SChunk.lzma cls props prog).WF es) :
    ChunkOk s0 F d a k es (.lzma cls props prog) := by
  obtain ⟨hcls, hlclp, hpb, hneos, hmb0, hrunwf, hpaylen⟩ := hwf
  -- the program runs in the spec and produces `n` bytes
  cases hrun : SpecSt.run dictLim (startSpec cls es.spec) prog with
  | none => rw [hrun] at hrunwf; exact hrunwf.elim
  | some r =>
  obtain ⟨sp', b⟩ := r
  cases SpecSt.run_flag prog _ _ _ hneos hrun
  rw [hrun] at hrunwf
  obtain ⟨hu1, hu2, hfit⟩ := hrunwf
  have hsplit := run_hist_split hrun
  have hmono := SpecSt.run_mono prog _ _ hrun
  generalize hn : sp'.hist.size - (startSpec cls es.spec).hist.size = n at hu1 hu2
  obtain ⟨hct, hhi⟩ := ctrl_toNat (n := n) hcls hu2
  -- the stages before the payload, then the payload
  obtain ⟨k0, a0, st0, hreset, hstate, hinv0, hmbS⟩ :=
    start_stage hinv props hct hhi hcls hlclp hpb hmb0
  obtain ⟨snkB, probsF, hpay, h5, rc, tk, st1, a1, rc1, tk1, hnew, hmode, hcode, hrem, hbad, hcpl1,
    hacc1, hmem1, hmb1⟩ :=
    payload_exec k0 hinv0.cpl hinv0.acc hinv0.mem hmbS (by rw [startEnc_spec]; exact hrun) hfit
  rw [hpay] at hpaylen
  have ha0 : n + a0.len = sp'.hist.size := by
    rw [hinv0.acc.2, Array.length_toList, startEnc_spec]; omega
  -- the chunk the reference encoder emits
  simp only [ChunkOk, encChunk, hpay, startEnc_spec, hn]
  refine ⟨.packed (UInt8.ofNat (0x80 + cls * 32 + ((n - 1) >>> 16))) n
      (if cls ≥ 2 then some (propsByte props) else none) snkB.out.toList,
    sp', sp'.hist.toList.drop (startSpec cls es.spec).hist.size, { lzmaState := st1 }, a1, k0,
    F ++ (if cls = 3 then es.spec.hist.toList else []), ?_, ?_,
    ⟨k0, a0, st0, rc, tk, st1, rc1, tk1, hreset, hstate, hnew, ha0 ▸ hmode, hcode, hrem, hbad, rfl⟩,
    by simp only [SChunk.sem, hrun], rfl, ⟨hcpl1, hacc1, hmem1, hinv0.perf, hinv0.out⟩, ?_, hmb1,
    fun h2 => ⟨_, _, propsByte props, _, by rw [if_pos h2], by rw [hct]; omega⟩⟩
  · -- syntactic well-formedness
    refine ⟨by omega, hu1, ?_, h5, by rw [Array.length_toList]; exact hpaylen, ?_⟩
    · rw [hct, ← Nat.shiftRight_eq_div_pow _ 16]; omega
    · by_cases h2 : cls ≥ 2
      · rw [startEnc_props h2] at hlclp hpb
        simp only [if_pos h2]
        rw [propsByte_toNat hlclp hpb]
        refine ⟨by omega, by omega, by omega⟩
      · simp only [if_neg h2]; omega
  · -- the bytes
    simp only [Chunk.bytes, Chunk.control, Chunk.body]
    by_cases h2 : cls ≥ 2 <;> simp [h2]
  · -- flushed + window grows by the bytes produced
    rw [startSpec_hist] at hsplit ⊢
    by_cases h3 : cls = 3
    · simp only [if_pos h3] at hsplit ⊢; simp
    · simp only [if_neg h3] at hsplit ⊢
      rw [List.append_nil, List.append_assoc, ← hsplit]

theorem chunk_ok {s0 : Sink} {F : Bytes} {d : Lzma2Decoder} {a : Accum} {k : Sink} {es : EncSt}
    (hinv : Inv s0 F d a k es) (c : SChunk) (hwf : c.WF es) : ChunkOk s0 F d a k es c := by
  cases c with
  | raw rd data => exact raw_chunk hinv rd data hwf
  | lzma cls props prog => exact lzma_chunk hinv cls props prog hwf

theorem run_chunks {s0 : Sink} : ∀ (cs : List SChunk) (es : EncSt) (F : Bytes) (d : Lzma2Decoder)
    (a : Accum) (k : Sink), Inv s0 F d a k es → WF2Aux es cs →
    ∃ (chs : List Chunk) (out : Bytes) (d' : Lzma2Decoder) (a' : Accum) (k' : Sink) (es' : EncSt)
      (F' : Bytes),
      expand2Aux es.spec cs = some out ∧ (∀ c ∈ chs, c.WF) ∧
      encode2Aux es cs = chs.flatMap Chunk.bytes ∧ Run chs d a k d' a' k' ∧
      Inv s0 F' d' a' k' es' ∧ F' ++ es'.spec.hist.toList = F ++ es.spec.hist.toList ++ out
  | [], es, F, d, a, k, hinv, _ =>
    ⟨[], [], d, a, k, es, F, rfl, by simp, rfl, Run.nil _ _ _, hinv, by simp⟩
  | c :: cs, es, F, d, a, k, hinv, hwf => by
    obtain ⟨hwfc, hwfs⟩ := hwf
    obtain ⟨ch, sp', out1, d1, a1, k1, F1, h1, h2, h3, h4, h5, h6, h7, -⟩ := chunk_ok hinv c hwfc
    obtain ⟨chs, out2, d', a', k', es', F', g1, g2, g3, g4, g5, g6⟩ :=
      run_chunks cs _ F1 d1 a1 k1 h6 hwfs
    rw [h5] at g1 g6
    refine ⟨ch :: chs, out1 ++ out2, d', a', k', es', F', ?_, List.forall_mem_cons.2 ⟨h1, g2⟩, ?_,
      Run.cons h3 g4, g5, ?_⟩
    · simp only [expand2Aux, h4, g1, Option.map_some]
    · simp only [encode2Aux, List.flatMap_cons, h2, g3]
    · rw [g6, h7]; simp only [List.append_assoc]

theorem decompress_of_run {s0 : Sink} {cs : List SChunk} {chs : List Chunk} {out : Bytes}
    {d0' : Lzma2Decoder} {a' : Accum} {k' : Sink} {es' : EncSt} {F' : Bytes} (t : Bytes)
    (hwf : ∀ c ∈ chs, c.WF) (henc : encode2 cs = chs.flatMap Chunk.bytes)
    (hinv : Inv s0 F' d0' a' k' es') (hout : F' ++ es'.spec.hist.toList = out) :
    ∃ s', (∀ {d d'}, Run chs d (Accum.fromStream USIZE_MAX) s0 d' a' k' →
        d.decompress (Rd.ofBytes (encode2 cs ++ [0] ++ t)) s0 = (s', .ok (d', Rd.ofBytes t))) ∧
      s'.out = s0.out ++ out.toArray ∧ s'.lastFlush = true ∧ s'.script = [] := by
  obtain ⟨s', hfin, hperf, hout', hlf⟩ := Accum.finish_spec hinv.acc hinv.perf
  refine ⟨s', fun hrun => decompress_ok_iff.2 ⟨chs, a', k', hwf, ?_, rfl, hrun, hfin⟩, ?_, hlf, hperf⟩
  · show encode2 cs ++ [0] ++ t = _
    rw [henc]; simp [Rd.ofBytes]
  · rw [hout', hinv.out, Array.append_assoc, ← hout, ← List.append_toArray]

theorem wf2s_imp {s0 : Sink} : ∀ (cs : List SChunk) (b : Bool) (es : EncSt) (F : Bytes)
    (d : Lzma2Decoder) (a : Accum) (k : Sink), Inv s0 F d a k es → (b = true → MbOk es.spec) →
    WF2sAux b es cs → WF2Aux es cs
  | [], _, _, _, _, _, _, _, _, _ => trivial
  | c :: cs, b, es, F, d, a, k, hinv, hb, hwf => by
    obtain ⟨hwfc, hwfs⟩ := hwf
    have hwfc' : c.WF es := by
      cases c with
      | raw rd data => exact hwfc
      | lzma cls props prog =>
        obtain ⟨h1, h2, h3, h4, h5, h6, h7⟩ := hwfc
        exact ⟨h1, h2, h3, h4, fun h0 => hb (h5 h0), h6, h7⟩
    obtain ⟨ch, sp', out1, d1, a1, k1, F1, -, -, -, -, h5, h6, -, h8, -⟩ := chunk_ok hinv c hwfc'
    refine ⟨hwfc', wf2s_imp cs _ _ F1 d1 a1 k1 h6 ?_ hwfs⟩
    rw [h5]
    cases c with
    | raw rd data =>
      intro hcarry
      simp only [carryAfter, Bool.and_eq_true, Bool.not_eq_true'] at hcarry
      exact h8 hcarry.2 (hb hcarry.1)
    | lzma cls props prog => intro _; exact h8

end L2E
end Lzma
