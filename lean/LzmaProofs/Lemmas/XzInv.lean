/-
  The XZ container decoder (`LzmaModel/Xz.lean`) read backwards.  Each reader succeeds exactly on
  the inputs of one layout (`…_ok_iff`); hence a successful `xzDecompress` forces its whole input
  into the grammar `XzFile` (C06), the same input with bytes appended is refused, and an error
  leaves only completely validated blocks in the sink (C18).  `crc32` / `crc64` stay opaque.
  `read_block` is cut into stages here (`blockDataStage`, `blockWriteStage`, `readBlock_eq`), as
  `decode_stream` is in `Lemmas/Stages.lean`; `Lemmas/Sink.lean` and `SrcFault.lean` descend on them.
-/
import LzmaProofs.Lemmas.Lzma2
import LzmaProofs.Lemmas.SinkCalls
import LzmaProofs.Lemmas.Stages
import LzmaProofs.Lemmas.Multibyte
namespace Lzma

/-! ## Stream header / stream flags -/

theorem tryFrom_ok {id : Nat} {c : CheckMethod} (h : CheckMethod.tryFrom id = .ok c) :
    id = c.id := by
  simp only [CheckMethod.tryFrom, ite_eq_ok, Except.pure_eq_ok, Except.throw_ne_ok, and_false,
    or_false] at h
  rcases h with ⟨h, rfl⟩ | ⟨-, ⟨h, rfl⟩ | ⟨-, ⟨h, rfl⟩ | ⟨-, h, rfl⟩⟩⟩ <;> exact h

theorem parseStreamFlags_ok {bs : Bytes} {c : CheckMethod} (hl : bs.length = 2)
    (h : parseStreamFlags (beVal bs) = .ok c) :
    bs = [0, UInt8.ofNat c.id] ∧ c.id < 256 := by
  match bs, hl with
  | [a, b], _ =>
    have ha := a.toNat_lt
    have hb := b.toNat_lt
    simp only [parseStreamFlags, beVal, List.foldl, ite_eq_ok, Except.throw_ne_ok, and_false,
      false_or, Nat.zero_mul, Nat.zero_add] at h
    obtain ⟨h1, h2⟩ := h
    have h2 := tryFrom_ok h2
    rw [show (255 : Nat) = 2 ^ 8 - 1 by rfl, Nat.and_two_pow_sub_one_eq_mod] at h2
    rw [Nat.shiftRight_eq_div_pow] at h1
    have : a.toNat = 0 := by omega
    have hb' : b.toNat = c.id := by omega
    refine ⟨?_, by omega⟩
    rw [← hb']
    simp only [UInt8.ofNat_toNat, List.cons.injEq, and_true]
    exact UInt8.toNat_inj.mp this

theorem parseStreamFlags_id (check : CheckMethod) :
    parseStreamFlags (beVal [0, UInt8.ofNat check.id]) = .ok check := by
  cases check <;> simp [parseStreamFlags, CheckMethod.id, beVal, CheckMethod.tryFrom, pure, Except.pure]

theorem parseStreamHeader_ok_iff {rd r : Rd} {c : CheckMethod} :
    parseStreamHeader rd = .ok (c, r) ↔
      rd.rem = XZ_MAGIC ++ [0, UInt8.ofNat c.id] ++ leBytes 4 (crc32 [0, UInt8.ofNat c.id]) ++ r.rem ∧
        r.bad = rd.bad := by
  simp only [parseStreamHeader, Except.bind_eq_ok', Except.throw_bind', ite_eq_ok,
    Except.pure_eq_ok, reduceCtorEq, and_false, false_or, Prod.exists, Rd.readTag_ok,
    Rd.readExact_ok, Prod.mk.injEq, ne_eq, Decidable.not_not, Bool.not_eq_true, Bool.not_eq_false']
  constructor
  · rintro ⟨_, r1, ⟨m, h1, -, rfl, h3⟩, hm, fb, r2, ⟨h4, h5, h6⟩, _, r3, h7, rfl, c', hfl, rfl, rfl⟩
    obtain ⟨rfl, -⟩ := parseStreamFlags_ok h5 hfl
    obtain ⟨c1, c2⟩ := (Rd.readU32LE_eq_iff (crc32_lt _)).1 h7
    exact ⟨by rw [h1, eq_of_beq hm, h4, c1]; simp, by rw [c2, h6, h3]⟩
  · rintro ⟨h1, h2⟩
    let fl : Bytes := [0, UInt8.ofNat c.id]
    let r1 : Rd := ⟨fl ++ (leBytes 4 (crc32 fl) ++ r.rem), rd.bad⟩
    let r2 : Rd := ⟨leBytes 4 (crc32 fl) ++ r.rem, rd.bad⟩
    exact ⟨true, r1, ⟨XZ_MAGIC, by rw [h1]; simp [r1, fl], rfl, rfl, rfl⟩, rfl, fl, r2, ⟨rfl, rfl, rfl⟩, _, r,
      (Rd.readU32LE_eq_iff (crc32_lt _)).2 ⟨rfl, h2⟩, rfl, c, parseStreamFlags_id c, rfl, rfl⟩

/-! ## Zero padding, index -/

theorem readZeroBytes_ok_iff : ∀ {n : Nat} {acc : Bytes} {rd : Rd} {bs : Bytes} {r : Rd},
    readZeroBytes n acc rd = .ok (bs, r) ↔
      bs = acc ++ List.replicate n 0 ∧ rd.rem = List.replicate n 0 ++ r.rem ∧ r.bad = rd.bad
  | 0, acc, rd, bs, r => by
    simp only [readZeroBytes, Except.pure_eq_ok, Prod.mk.injEq, List.replicate_zero, List.append_nil,
      List.nil_append, Rd.eq_iff, eq_comm (a := acc)]
  | n+1, acc, rd, bs, r => by
    simp only [readZeroBytes, Except.bind_eq_ok', Except.throw_bind', ite_eq_ok, reduceCtorEq,
      and_false, false_or, Prod.exists, Rd.readU8_ok, readZeroBytes_ok_iff (n := n), ne_eq,
      Decidable.not_not, List.replicate_succ, List.cons_append]
    constructor
    · rintro ⟨b, r1, ⟨h1, h2⟩, rfl, rfl, h3, h4⟩
      exact ⟨by simp, by rw [h1, h3], by rw [h4, h2]⟩
    · rintro ⟨rfl, h1, h2⟩
      exact ⟨0, ⟨List.replicate n 0 ++ r.rem, rd.bad⟩, ⟨h1, rfl⟩, rfl, by simp, rfl, h2⟩

/-- `MbPairs bs l`: `bs` is the concatenation of the multibyte encodings of the pairs in `l`
(the records of the index) -/
inductive MbPairs : Bytes → List (Nat × Nat) → Prop
  | nil : MbPairs [] []
  | cons {e1 e2 r : Bytes} {a b : Nat} {l : List (Nat × Nat)} :
      MbInt e1 a → MbInt e2 b → MbPairs r l → MbPairs (e1 ++ e2 ++ r) ((a, b) :: l)

theorem checkRecords_ok_iff : ∀ {recs : List Record} {dig : Bytes} {rd : Rd} {dig' : Bytes} {r : Rd},
    checkRecords recs dig rd = .ok (dig', r) ↔
      ∃ enc, dig' = dig ++ enc ∧ rd.rem = enc ++ r.rem ∧ r.bad = rd.bad ∧
        MbPairs enc (recs.map fun x => (x.unpaddedSize, x.unpackedSize))
  | [], dig, rd, dig', r => by
    simp only [checkRecords, Except.pure_eq_ok, Prod.mk.injEq, List.map_nil]
    constructor
    · rintro ⟨rfl, rfl⟩
      exact ⟨[], by simp, rfl, rfl, .nil⟩
    · rintro ⟨enc, rfl, h1, h2, hm⟩
      cases hm
      exact ⟨by simp, Rd.eq_iff.2 ⟨h1, h2⟩⟩
  | x :: xs, dig, rd, dig', r => by
    simp only [checkRecords, Except.bind_eq_ok', Except.throw_bind', ite_eq_ok, reduceCtorEq,
      and_false, false_or, Prod.exists, getMultibyte_ok_iff, checkRecords_ok_iff (recs := xs), ne_eq,
      Decidable.not_not, List.map_cons]
    constructor
    · rintro ⟨_, b1, r1, ⟨e1, e2, m1⟩, rfl, _, b2, r2, ⟨f1, f2, m2⟩, rfl, enc, rfl, g1, g2, g3⟩
      exact ⟨b1 ++ b2 ++ enc, by simp, by simp [e1, f1, g1], by rw [g2, f2, e2], .cons m1 m2 g3⟩
    · rintro ⟨enc, rfl, h1, h2, hm⟩
      cases hm with
      | @cons e1 e2 rest _ _ _ m1 m2 m3 =>
        exact ⟨_, e1, ⟨e2 ++ rest ++ r.rem, rd.bad⟩, ⟨by simp [h1], rfl, m1⟩, rfl, _, e2,
          ⟨rest ++ r.rem, rd.bad⟩, ⟨by simp, rfl, m2⟩, rfl, rest, by simp, rfl, h2, m3⟩

theorem MbPairs.map_eq {bs : Bytes} {l l' : List (Nat × Nat)} (h : MbPairs bs l) (e : l = l') :
    MbPairs bs l' := e ▸ h

theorem checkIndex_ok_iff {start : Nat} {records : List Record} {rd r : Rd}
    (hs : start = rd.rem.length + 1) :
    checkIndex start records rd = .ok r ↔
      ∃ cnt enc, MbInt cnt records.length ∧
        MbPairs enc (records.map fun x => (x.unpaddedSize, x.unpackedSize)) ∧
        rd.rem = cnt ++ enc ++ List.replicate (paddingSize (1 + cnt.length + enc.length)) 0 ++
          leBytes 4 (crc32 (0 :: (cnt ++ enc ++
            List.replicate (paddingSize (1 + cnt.length + enc.length)) 0))) ++ r.rem ∧
        r.bad = rd.bad := by
  simp only [checkIndex, Except.bind_eq_ok', Except.throw_bind', ite_eq_ok, reduceCtorEq,
    and_false, false_or, Prod.exists, Except.pure_eq_ok, getMultibyte_ok_iff, checkRecords_ok_iff,
    readZeroBytes_ok_iff, ne_eq, Decidable.not_not]
  have hcount : ∀ {cnt enc : Bytes} {r1 r2 : Rd}, rd.rem = cnt ++ r1.rem → r1.rem = enc ++ r2.rem →
      start - r2.rem.length = 1 + cnt.length + enc.length := fun e1 g1 => by
    rw [hs, e1, g1]; simp; omega
  constructor
  · rintro ⟨_, cnt, r1, ⟨e1, e2, m1⟩, rfl, _, r2, ⟨enc, rfl, g1, g2, g3⟩, _, r3, ⟨rfl, z1, z2⟩, _, r4, h4,
      rfl, rfl⟩
    rw [hcount e1 g1] at z1 h4
    obtain ⟨c1, c2⟩ := (Rd.readU32LE_eq_iff (crc32_lt _)).1 h4
    exact ⟨cnt, enc, m1, g3, by rw [e1, g1, z1, c1]; simp, by rw [c2, z2, g2, e2]⟩
  · rintro ⟨cnt, enc, m1, m2, h1, h2⟩
    let pad := List.replicate (paddingSize (1 + cnt.length + enc.length)) (0 : UInt8)
    let crcB := leBytes 4 (crc32 (0 :: (cnt ++ enc ++ pad)))
    let r1 : Rd := ⟨enc ++ (pad ++ (crcB ++ r.rem)), rd.bad⟩
    let r2 : Rd := ⟨pad ++ (crcB ++ r.rem), rd.bad⟩
    let r3 : Rd := ⟨crcB ++ r.rem, rd.bad⟩
    have e1 : rd.rem = cnt ++ r1.rem := by rw [h1]; simp [r1, pad, crcB]
    have e := hcount (r1 := r1) (r2 := r2) e1 rfl
    refine ⟨_, cnt, r1, ⟨e1, rfl, m1⟩, rfl, _, r2, ⟨enc, rfl, rfl, rfl, m2⟩, _, r3,
      ⟨rfl, by rw [e], rfl⟩, _, r, ?_, rfl, rfl⟩
    rw [e]
    exact (Rd.readU32LE_eq_iff (crc32_lt _)).2 ⟨by simp [r3, crcB, pad], h2⟩

/-! ## Block header -/

/-- one filter entry of a block header as laid out in the file -/
structure XzFilterEnc where
  /-- multibyte encoding of the filter id -/
  idEnc : Bytes
  /-- multibyte encoding of the size of the properties -/
  szEnc : Bytes
  props : Bytes
  deriving Repr

def XzFilterEnc.bytes (f : XzFilterEnc) : Bytes := f.idEnc ++ f.szEnc ++ f.props

/-- what `read_block_header` checks of one filter entry: id = 0x21 (LZMA2) -/
def XzFilterEnc.Ok (f : XzFilterEnc) : Prop :=
  MbInt f.idEnc 0x21 ∧ MbInt f.szEnc f.props.length

def XzFilterEnc.toFilter (f : XzFilterEnc) : Filter := { props := f.props }

theorem readFilters_ok : ∀ (n hs : Nat) (acc : List Filter) (rd : Rd) {fs : List Filter} {r : Rd},
    readFilters n hs acc rd = .ok (fs, r) →
    ∃ encs : List XzFilterEnc, encs.length = n ∧ fs = acc ++ encs.map (·.toFilter) ∧
      rd.rem = encs.flatMap (·.bytes) ++ r.rem ∧ r.bad = rd.bad ∧
      (∀ e ∈ encs, e.Ok ∧ e.props.length ≤ hs)
  | 0, hs, acc, rd, fs, r, h => by
    simp only [readFilters, Except.pure_eq_ok, Prod.mk.injEq] at h
    obtain ⟨rfl, rfl⟩ := h
    exact ⟨[], by simp⟩
  | n+1, hs, acc, rd, fs, r, h => by
    simp only [readFilters, Except.bind_eq_ok', Except.throw_bind', ite_eq_ok, reduceCtorEq,
      and_false, false_or, Prod.exists] at h
    obtain ⟨id, b1, r1, h1, hid, sz, b2, r2, h2, hsz, h⟩ := h
    simp only [ne_eq, Decidable.not_not] at hid
    subst hid
    obtain ⟨e1, e2, m1⟩ := getMultibyte_ok_iff.1 h1
    obtain ⟨f1, f2, m2⟩ := getMultibyte_ok_iff.1 h2
    cases h3 : r2.readExact sz with
    | error e => simp [h3] at h
    | ok x =>
    obtain ⟨buf, r3⟩ := x
    simp only [h3, Except.bind_eq_ok', Except.pure_eq_ok, exists_eq_left'] at h
    obtain ⟨g1, g2, g3⟩ := Rd.readExact_ok.mp h3
    subst g2
    obtain ⟨encs, rfl, rfl, k1, k2, k3⟩ := readFilters_ok n hs _ _ h
    refine ⟨⟨b1, b2, buf⟩ :: encs, by simp, by simp [XzFilterEnc.toFilter],
      by simp [XzFilterEnc.bytes, e1, f1, g1, k1], by rw [k2, g3, f2, e2], ?_⟩
    intro e he
    rcases List.mem_cons.mp he with rfl | he
    · exact ⟨⟨m1, m2⟩, by simpa using hsz⟩
    · exact k3 e he

theorem flushZeroPadding_ok {rd r : Rd} {ok : Bool} (h : rd.flushZeroPadding = .ok (ok, r))
    (hok : ok = true) : (∀ b ∈ rd.rem, b = 0) ∧ r.rem = [] ∧ r.bad = rd.bad := by
  subst hok
  unfold Rd.flushZeroPadding at h
  split at h
  · rename_i he
    split at h
    · cases h
    · simp only [Except.ok.injEq, Prod.mk.injEq, true_and] at h
      subst h
      simp only [List.isEmpty_iff] at he
      simp [he]
  · split at h
    · rename_i ha
      split at h
      · cases h
      · simp only [Except.ok.injEq, Prod.mk.injEq, true_and] at h
        subst h
        simpa using ha
    · simp at h

/-- optional multibyte field of the block header, present iff `present` -/
def OptMb (present : Prop) (enc : Bytes) (val : Option Nat) : Prop :=
  (present ∧ ∃ v, val = some v ∧ MbInt enc v) ∨ (¬ present ∧ enc = [] ∧ val = none)

/-- an optional field whose value, when present, is `n`, in the if-then-else form of
`XzBlock.Valid` -/
theorem OptMb.ite {c : Prop} [Decidable c] {enc : Bytes} {o : Option Nat} {n : Nat}
    (h : OptMb c enc o) (hv : ∀ v, o = some v → v = n) : if c then MbInt enc n else enc = [] := by
  rcases h with ⟨hc, v, ho, hm⟩ | ⟨hc, he, -⟩
  · rw [if_pos hc, ← hv v ho]; exact hm
  · rw [if_neg hc]; exact he

theorem optField_ok {c : Prop} [Decidable c] {rd : Rd} {k : Option Nat × Rd → Except Err β} {b : β}
    (h : (if c then do
            let (v, _, rd) ← getMultibyte rd
            let x ← pure (some v, rd)
            k x
          else do
            let x ← pure (none, rd)
            k x) = .ok b) :
    ∃ enc p r', rd.rem = enc ++ r'.rem ∧ r'.bad = rd.bad ∧ OptMb c enc p ∧ k (p, r') = .ok b := by
  split at h
  · rename_i hc
    obtain ⟨⟨v, enc, r'⟩, hm, h⟩ := Except.bind_eq_ok'.1 h
    obtain ⟨e1, e2, m⟩ := getMultibyte_ok_iff.1 hm
    exact ⟨enc, some v, r', e1, e2, .inl ⟨hc, v, rfl, m⟩, h⟩
  · rename_i hc
    exact ⟨[], none, rd, rfl, rfl, .inr ⟨hc, rfl, rfl⟩, h⟩

theorem readBlockHeader_ok {rd r : Rd} {hs : Nat} {bh : BlockHeader}
    (h : readBlockHeader rd hs = .ok (bh, r)) :
    ∃ (flags : UInt8) (pk up : Bytes) (encs : List XzFilterEnc) (zp : Bytes),
      rd.rem = flags :: (pk ++ up ++ encs.flatMap (·.bytes) ++ zp) ∧
      r.rem = [] ∧
      flags.toNat &&& 0x3C = 0 ∧
      OptMb (flags.toNat &&& 0x40 ≠ 0) pk bh.packedSize ∧
      OptMb (flags.toNat &&& 0x80 ≠ 0) up bh.unpackedSize ∧
      encs.length = (flags.toNat &&& 0x03) + 1 ∧
      bh.filters = encs.map (·.toFilter) ∧
      (∀ e ∈ encs, e.Ok ∧ e.props.length ≤ hs) ∧
      (∀ b ∈ zp, b = 0) := by
  -- the `do` block shares its continuations through join points; they stay in the context
  -- (`jpA` after the reserved bits, `jpB` after the packed size, `jpC` after the unpacked size)
  unfold readBlockHeader at h
  obtain ⟨⟨flags, r1⟩, h1, h⟩ := Except.bind_eq_ok'.1 h
  obtain ⟨e1, -⟩ := Rd.readU8_ok.1 h1
  dsimp -zeta only at h
  extract_lets fl nf jpB jpA at h
  split at h
  · simp at h
  rename_i hres
  obtain ⟨pk, p, r2, g1, -, mp, h⟩ := optField_ok h
  dsimp -zeta only [jpB] at h
  extract_lets jpC at h
  obtain ⟨up, u, r3, g2, -, mu, h⟩ := optField_ok h
  simp only [jpC, Except.bind_eq_ok', Except.throw_bind', ite_eq_ok, reduceCtorEq, and_false,
    false_or, Prod.exists, Except.pure_eq_ok, Prod.mk.injEq, Bool.not_eq_true, Bool.not_eq_false'] at h
  obtain ⟨fs, r4, hfs, ok, r5, hz, hok, rfl, rfl⟩ := h
  obtain ⟨z1, z2, -⟩ := flushZeroPadding_ok hz hok
  obtain ⟨encs, k0, k1, k2, -, k4⟩ := readFilters_ok _ _ _ _ hfs
  exact ⟨flags, pk, up, encs, r4.rem, by simp [e1, g1, g2, k2], z2, by simpa using hres, mp, mu, k0,
    by simpa using k1, k4, z1⟩

/-! ## The first filter looks at a prefix of its input -/

/-- A successful `decode_filter` consumed some prefix `p` of the reader, and every reader that
starts with `p` gives the same result and is left right after `p`: by `L2.decompress_ok_iff`
the LZMA2 decoder sees its reader only as "a run of well-formed chunks, the end byte, the rest". -/
theorem decodeFilter_prefix {rd rd' : Rd} {f : Filter} {buf : Bytes}
    (h : decodeFilter rd f = .ok (buf, rd')) :
    ∃ p, rd.rem = p ++ rd'.rem ∧ rd'.bad = rd.bad ∧
      ∀ q q' : Rd, q.rem = p ++ q'.rem → q'.bad = q.bad → decodeFilter q f = .ok (buf, q') := by
  simp only [decodeFilter, Except.bind_eq_ok', Except.throw_bind', ite_eq_ok, reduceCtorEq,
    and_false, false_or] at h ⊢
  obtain ⟨hp, d, hd, h⟩ := h
  split at h
  · rename_i snk d' rd1 hdec
    simp only [Except.pure_eq_ok, Prod.mk.injEq] at h
    obtain ⟨rfl, rfl⟩ := h
    obtain ⟨cs, a', s1, hwf, hr, hb, hrun, hfin⟩ := L2.decompress_ok_iff.1 hdec
    refine ⟨cs.flatMap L2.Chunk.bytes ++ [0], by simp [hr], hb, fun q q' hq hqb => ⟨hp, d, hd, ?_⟩⟩
    rw [L2.decompress_ok_iff.2 ⟨cs, a', s1, hwf, by simp [hq], hqb, hrun, hfin⟩]
    rfl
  · simp at h

/-! ## Blocks -/

/-- the stored check field for `out` -/
def xzCheckBytes : CheckMethod → Bytes → Bytes
  | .none, _ => []
  | .crc32, out => leBytes 4 (crc32 out)
  | .crc64, out => leBytes 8 (crc64 out)
  | .sha256, _ => []

theorem validateBlockCheck_ok_iff {rd r : Rd} {buf : Bytes} {check : CheckMethod} :
    validateBlockCheck rd buf check = .ok r ↔
      check ≠ .sha256 ∧ rd.rem = xzCheckBytes check buf ++ r.rem ∧ r.bad = rd.bad := by
  cases check <;>
    simp only [validateBlockCheck, xzCheckBytes, Except.bind_eq_ok', Except.throw_bind', ite_eq_ok,
      reduceCtorEq, and_false, false_or, Prod.exists, Except.pure_eq_ok, Except.throw_ne_ok, ne_eq,
      not_true_eq_false, not_false_eq_true, true_and, false_and, Decidable.not_not, List.nil_append]
  · exact Rd.eq_iff
  · rw [← Rd.readU32LE_eq_iff (crc32_lt buf)]
    exact ⟨fun ⟨_, _, h, rfl, rfl⟩ => h, fun h => ⟨_, _, h, rfl, rfl⟩⟩
  · rw [← Rd.readU64LE_eq_iff (crc64_lt buf)]
    exact ⟨fun ⟨_, _, h, rfl, rfl⟩ => h, fun h => ⟨_, _, h, rfl, rfl⟩⟩

theorem writeAll_ok_out {bs : Array UInt8} {s s' : Sink} {u : Unit}
    (h : writeAll bs s = (s', .ok u)) : s'.out = s.out ++ bs := by
  have := (writeAll_spec bs s).2
  rw [h] at this
  rcases this with ⟨-, h⟩ | ⟨h, -⟩
  · exact h
  · cases h

theorem decodeFilter_props {rd r : Rd} {f : Filter} {buf : Bytes}
    (h : decodeFilter rd f = .ok (buf, r)) : f.props.length = 1 := by
  simp only [decodeFilter, Except.bind_eq_ok', Except.throw_bind', ite_eq_ok, reduceCtorEq,
    and_false, false_or] at h
  simpa using h.1

theorem laterFilters_props : ∀ (fs : List Filter) (buf : Bytes) {out : Bytes},
    laterFilters fs buf = .ok out → ∀ f ∈ fs, f.props.length = 1
  | [], _, _, _ => by simp
  | f :: fs, buf, out, h => by
    simp only [laterFilters, Except.bind_eq_ok', Prod.exists] at h
    obtain ⟨nb, r, h1, h2⟩ := h
    intro g hg
    rcases List.mem_cons.mp hg with rfl | hg
    · exact decodeFilter_props h1
    · exact laterFilters_props fs nb h2 g hg

/-- stage of `readBlock` (see `readBlock_eq`): the part after the size comparison -/
def readBlockTail (start : Nat) (rd : Rd) (tmpbuf : Bytes) (check : CheckMethod) :
    M (Record × Rd) := do
  let count := start - rd.rem.length
  let padding := paddingSize count
  let (_, rd) ← liftE (readZeroBytes padding [] rd)
  let rd ← liftE (validateBlockCheck rd tmpbuf check)
  writeAll tmpbuf.toArray
  let unpadded ← liftE (subChk "read_block: count - padding_size" (start - rd.rem.length) padding)
  pure ({ unpaddedSize := unpadded, unpackedSize := tmpbuf.length }, rd)

/-- stage of `readBlock` (see `readBlock_eq`): the filter chain -/
def readBlockFilters (bh : BlockHeader) (rd : Rd) : Except Err (Bytes × Rd) :=
  match bh.filters with
    | [] => pure ([], rd)
    | f :: fs => do
      let before := rd.rem.length
      let (buf, rd) ← decodeFilter rd f
      let packed := before - rd.rem.length
      match bh.packedSize with
      | some e => if packed ≠ e then throw .xz
      | none => pure ()
      let buf ← laterFilters fs buf
      pure (buf, rd)

theorem readBlockFilters_ok_iff {bh : BlockHeader} {rd r : Rd} {out : Bytes} :
    readBlockFilters bh rd = .ok (out, r) ↔
      (bh.filters = [] ∧ out = [] ∧ r = rd) ∨
      ∃ f fs mid, bh.filters = f :: fs ∧ decodeFilter rd f = .ok (mid, r) ∧
        (bh.packedSize = none ∨ bh.packedSize = some (rd.rem.length - r.rem.length)) ∧
        laterFilters fs mid = .ok out := by
  unfold readBlockFilters
  cases bh.filters with
  | nil => simp [eq_comm, pure, Except.pure]
  | cons f fs =>
    cases bh.packedSize with
    | none =>
      simp only [Except.bind_eq_ok', Prod.exists, Except.pure_eq_ok, Prod.mk.injEq, reduceCtorEq,
        false_and, false_or, List.cons.injEq, true_or, true_and]
      constructor
      · rintro ⟨mid, r1, h1, _, h2, rfl, rfl⟩; exact ⟨f, fs, mid, ⟨rfl, rfl⟩, h1, h2⟩
      · rintro ⟨_, _, mid, ⟨rfl, rfl⟩, h1, h2⟩; exact ⟨mid, r, h1, out, h2, rfl, rfl⟩
    | some e =>
      simp only [Except.bind_eq_ok', Except.throw_bind', ite_eq_ok, Prod.exists, Except.pure_eq_ok,
        Prod.mk.injEq, reduceCtorEq, and_false, false_and, false_or, List.cons.injEq, ne_eq,
        Decidable.not_not, Option.some.injEq]
      constructor
      · rintro ⟨mid, r1, h1, he, _, h2, rfl, rfl⟩; exact ⟨f, fs, mid, ⟨rfl, rfl⟩, h1, he.symm, h2⟩
      · rintro ⟨_, _, mid, ⟨rfl, rfl⟩, h1, he, h2⟩; exact ⟨mid, r, h1, he.symm, out, h2, rfl, rfl⟩

theorem readBlockTail_ok_iff {start : Nat} {rd r : Rd} {tmpbuf : Bytes} {check : CheckMethod}
    {s s' : Sink} {rec : Record} :
    readBlockTail start rd tmpbuf check s = (s', .ok (rec, r)) ↔
      check ≠ .sha256 ∧
      rd.rem = List.replicate (paddingSize (start - rd.rem.length)) 0 ++ xzCheckBytes check tmpbuf
        ++ r.rem ∧ r.bad = rd.bad ∧ writeAll tmpbuf.toArray s = (s', .ok ()) ∧
      paddingSize (start - rd.rem.length) ≤ start - r.rem.length ∧
      rec = { unpaddedSize := start - r.rem.length - paddingSize (start - rd.rem.length),
              unpackedSize := tmpbuf.length } := by
  simp only [readBlockTail]
  generalize paddingSize (start - rd.rem.length) = pad
  simp only [mBind_eq_ok, liftE_eq_ok, Prod.exists, mPure_eq_ok, Prod.mk.injEq, readZeroBytes_ok_iff,
    validateBlockCheck_ok_iff, subChk, ite_eq_ok, Except.ok.injEq, reduceCtorEq, and_false, or_false]
  constructor
  · rintro ⟨_, r1, _, ⟨⟨-, z1, z2⟩, rfl⟩, _, _, ⟨⟨hc, v1, v2⟩, rfl⟩, _, _, hw, _, _, ⟨⟨hle, rfl⟩, rfl⟩,
      ⟨rfl, rfl⟩, rfl⟩
    exact ⟨hc, by rw [z1, v1, List.append_assoc], by rw [v2, z2], hw, hle, rfl⟩
  · rintro ⟨hc, h1, h2, hw, hle, rfl⟩
    exact ⟨_, ⟨xzCheckBytes check tmpbuf ++ r.rem, rd.bad⟩, s, ⟨⟨rfl, by rw [h1]; simp, rfl⟩, rfl⟩, r, s,
      ⟨⟨hc, rfl, h2⟩, rfl⟩, (), s', hw, _, s', ⟨⟨hle, rfl⟩, rfl⟩, ⟨rfl, rfl⟩, rfl⟩

/-- block header, header CRC and the filter chain: the part of `read_block` that precedes the
comparison of the unpacked size; it does not touch the sink -/
def blockDataStage (rd : Rd) (hsByte : UInt8) : Except Err (BlockHeader × Bytes × Rd) := do
  let headerSize ← subChk "read_block: (header_size << 2) - 1" (hsByte.toNat <<< 2) 1
  let x ← readBlockHeader (rd.split headerSize).1 headerSize
  let y ← (rd.unsplit x.2 (rd.split headerSize).2).readU32LE
  if y.1 ≠ crc32 (hsByte :: (rd.split headerSize).1.rem) then throw .xz
  else do
    let z ← readBlockFilters x.1 y.2
    pure (x.1, z)

/-- the rest of `read_block` -/
def blockWriteStage (start : Nat) (check : CheckMethod) (p : BlockHeader × Bytes × Rd) :
    M (Record × Rd) :=
  match p.1.unpackedSize with
  | some e => if p.2.1.length ≠ e then throwM .xz else readBlockTail start p.2.2 p.2.1 check
  | none => readBlockTail start p.2.2 p.2.1 check

theorem readBlock_eq (start : Nat) (rd : Rd) (check : CheckMethod) (hsByte : UInt8) :
    readBlock start rd check hsByte = liftE (blockDataStage rd hsByte) >>= blockWriteStage start check := by
  unfold blockWriteStage
  simp only [blockDataStage, liftE_bind, liftE_ite, liftE_throw, liftE_pure, mBind_assoc, mIte_bind,
    throwM_bind, mPure_bind]
  rfl

theorem Except.ok_bind (a : α) (f : α → Except ε β) : (Except.ok a >>= f) = f a := rfl

theorem blockDataStage_ok_iff {rd r : Rd} {hs : UInt8} {bh : BlockHeader} {buf : Bytes} :
    blockDataStage rd hs = .ok (bh, buf, r) ↔
      ∃ n hr crc r2, subChk "read_block: (header_size << 2) - 1" (hs.toNat <<< 2) 1 = .ok n ∧
        readBlockHeader (rd.split n).1 n = .ok (bh, hr) ∧
        (rd.unsplit hr (rd.split n).2).readU32LE = .ok (crc, r2) ∧
        crc = crc32 (hs :: (rd.split n).1.rem) ∧ readBlockFilters bh r2 = .ok (buf, r) := by
  simp only [blockDataStage, Except.bind_eq_ok', ite_eq_ok, reduceCtorEq, and_false, false_or,
    Prod.exists, Except.pure_eq_ok, Prod.mk.injEq, ne_eq, Decidable.not_not]
  constructor
  · rintro ⟨n, h1, bh', hr, h2, crc, r2, h3, hcrc, buf', r', h4, rfl, rfl, rfl⟩
    exact ⟨n, hr, crc, r2, h1, h2, h3, hcrc, h4⟩
  · rintro ⟨n, hr, crc, r2, h1, h2, h3, hcrc, h4⟩
    exact ⟨n, h1, bh, hr, h2, crc, r2, h3, hcrc, buf, r, h4, rfl, rfl, rfl⟩

/-- the header reader ends on an exhausted sub-reader, so header and header CRC take exactly
`n + 4` bytes of the block -/
theorem headerCrc_len {rd hr r2 : Rd} {n crc : Nat} {bh : BlockHeader}
    (h2 : readBlockHeader (rd.split n).1 n = .ok (bh, hr))
    (h3 : (rd.unsplit hr (rd.split n).2).readU32LE = .ok (crc, r2)) :
    rd.rem.length = n + 4 + r2.rem.length := by
  obtain ⟨_, _, _, _, _, -, k2, -⟩ := readBlockHeader_ok h2
  obtain ⟨cb, c1, c2, -, -⟩ := Rd.readU32LE_ok.mp h3
  have := congrArg List.length c1
  simp only [Rd.unsplit, Rd.split, k2, List.nil_append, List.length_drop, List.length_append,
    c2] at this
  omega

theorem blockWriteStage_eq (start : Nat) (check : CheckMethod) (bh : BlockHeader) (buf : Bytes)
    (r : Rd) : blockWriteStage start check (bh, buf, r) =
      if bh.unpackedSize = none ∨ bh.unpackedSize = some buf.length then
        readBlockTail start r buf check
      else throwM .xz := by
  show (match bh.unpackedSize with
    | some e => if buf.length ≠ e then throwM .xz else readBlockTail start r buf check
    | none => readBlockTail start r buf check) = _
  cases bh.unpackedSize with
  | none => simp
  | some e => by_cases h : buf.length = e <;> simp [h, Ne.symm]

theorem readBlock_ok_iff {start : Nat} {rd : Rd} {check : CheckMethod} {hs : UInt8} {s s' : Sink}
    {x : Record × Rd} :
    readBlock start rd check hs s = (s', .ok x) ↔
      ∃ bh buf r, blockDataStage rd hs = .ok (bh, buf, r) ∧
        (bh.unpackedSize = none ∨ bh.unpackedSize = some buf.length) ∧
        readBlockTail start r buf check s = (s', .ok x) := by
  simp only [readBlock_eq, mBind_eq_ok, liftE_eq_ok, Prod.exists, blockWriteStage_eq, mIte_eq,
    throwM_ne_ok, and_false, or_false]
  constructor
  · rintro ⟨bh, buf, r, s1, ⟨hd, rfl⟩, h⟩
    exact ⟨bh, buf, r, hd, h⟩
  · rintro ⟨bh, buf, r, hd, h⟩
    exact ⟨bh, buf, r, s, ⟨hd, rfl⟩, h⟩

/-- one block as laid out in the file -/
structure XzBlock where
  /-- block header size byte -/
  hsByte : UInt8
  /-- block flags -/
  flags : UInt8
  /-- multibyte encoding of the declared compressed size (`[]` if absent) -/
  packedEnc : Bytes
  /-- multibyte encoding of the declared uncompressed size (`[]` if absent) -/
  unpackedEnc : Bytes
  filters : List XzFilterEnc
  /-- header padding -/
  hdrPad : Bytes
  /-- the 4 bytes of the header CRC32 -/
  hdrCrc : Bytes
  /-- the compressed data (consumed by the first filter) -/
  payload : Bytes
  /-- what the block decodes to -/
  out : Bytes
  /-- block padding -/
  pad : Bytes
  /-- check field (0, 4 or 8 bytes) -/
  check : Bytes

/-- the header bytes between the size byte and the header CRC -/
def XzBlock.hdr (b : XzBlock) : Bytes :=
  b.flags :: (b.packedEnc ++ b.unpackedEnc ++ b.filters.flatMap (·.bytes) ++ b.hdrPad)

def XzBlock.bytes (b : XzBlock) : Bytes :=
  b.hsByte :: (b.hdr ++ b.hdrCrc ++ b.payload ++ b.pad ++ b.check)

def XzBlock.unpaddedSize (b : XzBlock) : Nat :=
  1 + b.hdr.length + 4 + b.payload.length + b.check.length

/-- "`payload` decodes to `out` through the filter chain `fs`" as lzma-rs does it: the first
filter LZMA2-decodes the file from the start of `payload` (with `rest` = everything that follows
the payload in the file) and stops exactly at the end of `payload`; every further filter
(a leniency of lzma-rs: the filters all have id 0x21) LZMA2-decodes the previous output. -/
def BlockDecodes (fs : List Filter) (payload rest out : Bytes) : Prop :=
  match fs with
  | [] => False
  | f :: fs => ∃ mid, decodeFilter ⟨payload ++ rest, false⟩ f = .ok (mid, ⟨rest, false⟩) ∧
      laterFilters fs mid = .ok out

/-- the integrity conditions of one block; `rest` = the file after the block's payload -/
structure XzBlock.Valid (check : CheckMethod) (b : XzBlock) (rest : Bytes) : Prop where
  hs_ne : b.hsByte ≠ 0
  hdr_len : 1 + b.hdr.length = 4 * b.hsByte.toNat
  hdr_crc : b.hdrCrc = leBytes 4 (crc32 (b.hsByte :: b.hdr))
  reserved : b.flags.toNat &&& 0x3C = 0
  nfilters : b.filters.length = (b.flags.toNat &&& 0x03) + 1
  packed : if b.flags.toNat &&& 0x40 ≠ 0 then MbInt b.packedEnc b.payload.length
    else b.packedEnc = []
  unpacked : if b.flags.toNat &&& 0x80 ≠ 0 then MbInt b.unpackedEnc b.out.length
    else b.unpackedEnc = []
  filters_ok : ∀ f ∈ b.filters, MbInt f.idEnc 0x21 ∧ MbInt f.szEnc f.props.length ∧
    f.props.length = 1
  hdr_pad : ∀ x ∈ b.hdrPad, x = 0
  decodes : BlockDecodes (b.filters.map (·.toFilter)) b.payload rest b.out
  pad_eq : b.pad = List.replicate (paddingSize (1 + b.hdr.length + 4 + b.payload.length)) 0
  check_eq : b.check = xzCheckBytes check b.out

/-- A successful `read_block` read one valid block.  The `rest` of `Valid` is what follows the
payload in the file (block padding, check field, everything after the block): the first filter's
decoder ran on the reader that still held all of it, and `BlockDecodes` says it stopped exactly there. -/
theorem readBlock_ok {start : Nat} {rd r : Rd} {check : CheckMethod} {hs : UInt8} {s s' : Sink}
    {rec : Record} (hstart : start = rd.rem.length + 1) (hbad : rd.bad = false) (hne : hs ≠ 0)
    (h : readBlock start rd check hs s = (s', .ok (rec, r))) :
    ∃ blk : XzBlock, blk.hsByte = hs ∧ hs :: rd.rem = blk.bytes ++ r.rem ∧
      blk.Valid check (blk.pad ++ blk.check ++ r.rem) ∧
      rec = { unpaddedSize := blk.unpaddedSize, unpackedSize := blk.out.length } ∧
      s'.out = s.out ++ blk.out.toArray ∧ r.bad = false := by
  obtain ⟨bh, tmpbuf, r3, hh, hupk', h5''⟩ := readBlock_ok_iff.1 h
  obtain ⟨hsz, hr', crc, r2, h1, h2, h3, hcrc, h4'⟩ := blockDataStage_ok_iff.1 hh
  simp only [subChk, ite_eq_ok, Except.ok.injEq, reduceCtorEq, and_false, or_false] at h1
  obtain ⟨hge, rfl⟩ := h1
  obtain ⟨flags, pk, up, encs, zp, k1, k2, kres, kpk, kup, klen, kfs, kok, kzp⟩ :=
    readBlockHeader_ok h2
  obtain ⟨cb, c1, c2, rfl, c3⟩ := Rd.readU32LE_ok.mp h3
  simp only [Rd.unsplit, Rd.split, k2, List.nil_append] at c1 c3 k1 hcrc
  have hlen := headerCrc_len h2 h3
  have htake : (rd.rem.take (hs.toNat <<< 2 - 1)).length = hs.toNat <<< 2 - 1 := by
    rw [List.length_take]; omega
  have hrd : rd.rem = rd.rem.take (hs.toNat <<< 2 - 1) ++ (cb ++ r2.rem) := by
    rw [← c1, List.take_append_drop]
  have hfne : bh.filters ≠ [] := by
    rw [kfs]; intro hc
    have := congrArg List.length hc
    simp [klen] at this
  obtain ⟨hnil, -⟩ | ⟨f, fs, mid, f1, f2, f4, f3⟩ := readBlockFilters_ok_iff.1 h4'
  · exact absurd hnil hfne
  obtain ⟨payload, p1, p2, -⟩ := decodeFilter_prefix f2
  have hr2bad : r2.bad = false := by rw [c3, hbad]
  have hr3bad : r3.bad = false := by rw [p2, hr2bad]
  obtain ⟨-, t1, t2, tw, -, t5⟩ := readBlockTail_ok_iff.1 h5''
  have t3 := writeAll_ok_out tw
  have hstart3 : start - r3.rem.length = 1 + (hs.toNat <<< 2 - 1) + 4 + payload.length := by
    have := congrArg List.length hrd
    simp only [List.length_append, htake, c2, p1] at this
    omega
  rw [hstart3] at t1 t5
  let blk : XzBlock :=
    { hsByte := hs, flags := flags, packedEnc := pk, unpackedEnc := up, filters := encs,
      hdrPad := zp, hdrCrc := cb, payload := payload, out := tmpbuf,
      pad := List.replicate (paddingSize (1 + (hs.toNat <<< 2 - 1) + 4 + payload.length)) 0,
      check := xzCheckBytes check tmpbuf }
  have hhdr : blk.hdr = rd.rem.take (hs.toNat <<< 2 - 1) := by
    simp only [XzBlock.hdr, blk]; exact k1.symm
  have hhdrlen : blk.hdr.length = hs.toNat <<< 2 - 1 := by rw [hhdr, htake]
  have hcb : cb = leBytes 4 (crc32 (hs :: blk.hdr)) := by
    have := leBytes_leVal cb
    rw [c2, hcrc] at this
    rw [hhdr, this]
  refine ⟨blk, rfl, ?_, ?_, ?_, t3, by rw [t2, hr3bad]⟩
  · show hs :: rd.rem = hs :: (blk.hdr ++ cb ++ payload ++ _ ++ _) ++ r.rem
    rw [hhdr]
    conv => lhs; rw [hrd, p1, t1]
    simp [blk]
  · refine
      { hs_ne := hne
        hdr_len := ?_
        hdr_crc := hcb
        reserved := kres
        nfilters := klen
        packed := ?_
        unpacked := ?_
        filters_ok := ?_
        hdr_pad := kzp
        decodes := ?_
        pad_eq := ?_
        check_eq := rfl }
    · rw [hhdrlen]; show 1 + (hs.toNat <<< 2 - 1) = 4 * hs.toNat
      rw [Nat.shiftLeft_eq] at hge ⊢; omega
    · exact kpk.ite fun v hv => by
        rw [hv, p1] at f4
        simp only [reduceCtorEq, false_or, Option.some.injEq, List.length_append] at f4
        show v = payload.length
        omega
    · exact kup.ite fun v hv => by rw [hv] at hupk'; simpa using hupk'
    · intro e he
      have hmem : e.toFilter ∈ bh.filters := by
        rw [kfs]; exact List.mem_map_of_mem he
      have hp : e.toFilter.props.length = 1 := by
        rw [f1] at hmem
        rcases List.mem_cons.mp hmem with hx | hx
        · rw [hx]; exact decodeFilter_props f2
        · exact laterFilters_props fs mid f3 _ hx
      exact ⟨(kok e he).1.1, (kok e he).1.2, hp⟩
    · show BlockDecodes (encs.map (·.toFilter)) payload _ tmpbuf
      rw [← kfs, f1]
      refine ⟨mid, ?_, f3⟩
      have e2 : r2 = ⟨payload ++ r3.rem, false⟩ := Rd.ext' p1 hr2bad
      have e3 : r3 = ⟨r3.rem, false⟩ := Rd.ext' rfl hr3bad
      rw [e2, e3] at f2
      rw [t1] at f2
      simpa using f2
    · show List.replicate _ 0 = List.replicate _ 0
      rw [hhdrlen]
  · rw [t5]
    have hl := congrArg List.length t1
    simp only [List.length_append, List.length_replicate] at hl
    simp only [XzBlock.unpaddedSize, hhdrlen, blk, Record.mk.injEq, and_true]
    omega

/-! ## Index, block loop -/

/-- the index as laid out in the file -/
structure XzIndex where
  /-- multibyte encoding of the number of records -/
  countEnc : Bytes
  /-- the encoded records -/
  records : Bytes
  pad : Bytes
  /-- the 4 bytes of the CRC32 -/
  crc : Bytes

def XzIndex.bytes (i : XzIndex) : Bytes := 0 :: (i.countEnc ++ i.records ++ i.pad ++ i.crc)

/-- the integrity conditions of the index, for the list of (unpadded size, uncompressed size)
pairs of the blocks -/
structure XzIndex.Valid (i : XzIndex) (recs : List (Nat × Nat)) : Prop where
  count : MbInt i.countEnc recs.length
  records : MbPairs i.records recs
  pad_eq : i.pad = List.replicate (paddingSize (1 + i.countEnc.length + i.records.length)) 0
  crc_eq : i.crc = leBytes 4 (crc32 (0 :: (i.countEnc ++ i.records ++ i.pad)))

/-- all blocks valid; `tail` = the file after the last block -/
def BlocksValid (check : CheckMethod) : List XzBlock → Bytes → Prop
  | [], _ => True
  | b :: bs, tail =>
    b.Valid check (b.pad ++ b.check ++ (bs.flatMap (·.bytes) ++ tail)) ∧ BlocksValid check bs tail

theorem BlocksValid.of_mem {check : CheckMethod} : ∀ {blocks : List XzBlock} {tail : Bytes},
    BlocksValid check blocks tail → ∀ b ∈ blocks, ∃ rest, b.Valid check rest
  | [], _, _, b, hb => by cases hb
  | c :: cs, tail, h, b, hb => by
    rcases List.mem_cons.mp hb with rfl | hb
    · exact ⟨_, h.1⟩
    · exact BlocksValid.of_mem h.2 b hb

def XzBlock.record (b : XzBlock) : Nat × Nat := (b.unpaddedSize, b.out.length)

theorem blockLoop_ok (check : CheckMethod) : ∀ (fuel : Nat) (records : List Record) (rd : Rd)
    {s s' : Sink} {isz : Nat} {r : Rd}, rd.bad = false →
    blockLoop check fuel records rd s = (s', .ok (isz, r)) →
    ∃ (blocks : List XzBlock) (idx : XzIndex),
      rd.rem = blocks.flatMap (·.bytes) ++ idx.bytes ++ r.rem ∧
      BlocksValid check blocks (idx.bytes ++ r.rem) ∧
      idx.Valid (records.map (fun x => (x.unpaddedSize, x.unpackedSize)) ++
        blocks.map (·.record)) ∧
      isz = idx.bytes.length ∧
      s'.out = s.out ++ (blocks.flatMap (·.out)).toArray ∧ r.bad = false
  | 0, _, _, _, _, _, _, _, h => by simp [blockLoop] at h
  | fuel+1, records, rd, s, s', isz, r, hbad, h => by
    simp only [blockLoop, mBind_eq_ok, liftE_eq_ok, Prod.exists, mPure_eq_ok, mIte_eq,
      Prod.mk.injEq, Rd.readU8_ok] at h
    obtain ⟨hs, r1, s1, ⟨⟨e1, e2⟩, rfl⟩, h⟩ := h
    rcases h with ⟨rfl, r2, s2, ⟨hci, rfl⟩, ⟨rfl, rfl⟩, rfl⟩ | ⟨hne, rec, r2, s2, hrb, h⟩
    · have hst : rd.rem.length = r1.rem.length + 1 := by rw [e1]; simp
      obtain ⟨cnt, enc, m1, m2, hrem, hb⟩ := (checkIndex_ok_iff hst).1 hci
      let idx : XzIndex :=
        { countEnc := cnt, records := enc,
          pad := List.replicate (paddingSize (1 + cnt.length + enc.length)) 0,
          crc := leBytes 4 (crc32 (0 :: (cnt ++ enc ++
            List.replicate (paddingSize (1 + cnt.length + enc.length)) 0))) }
      have hrd : rd.rem = idx.bytes ++ r2.rem := by
        rw [e1, hrem]; simp [XzIndex.bytes, idx]
      refine ⟨[], idx, by simpa using hrd, trivial, ?_, ?_, by simp, by rw [hb, e2, hbad]⟩
      · simp only [List.map_nil, List.append_nil]
        exact { count := by simpa using m1, records := m2, pad_eq := rfl, crc_eq := rfl }
      · have := congrArg List.length hrd
        simp only [List.length_append] at this
        omega
    · have hst : rd.rem.length = r1.rem.length + 1 := by rw [e1]; simp
      have hb1 : r1.bad = false := by rw [e2, hbad]
      obtain ⟨blk, b1, b2, b3, b4, b5, b7⟩ := readBlock_ok hst hb1 hne hrb
      obtain ⟨blocks, idx, g1, g2, g3, g4, g5, g7⟩ := blockLoop_ok check fuel _ _ b7 h
      refine ⟨blk :: blocks, idx, ?_, ⟨?_, g2⟩, ?_, g4, ?_, g7⟩
      · rw [e1, b2, g1]; simp
      · rw [g1] at b3; simpa using b3
      · rw [b4] at g3
        simpa [XzBlock.record] using g3
      · rw [g5, b5]; simp

/-! ## The whole file -/

/-- a `.xz` file (single stream) as laid out on disk -/
structure XzFile where
  check : CheckMethod
  blocks : List XzBlock
  index : XzIndex
  /-- the 4 bytes of the footer's backward-size field -/
  backwardSize : Bytes

def XzFile.flags (f : XzFile) : Bytes := [0, UInt8.ofNat f.check.id]
def XzFile.header (f : XzFile) : Bytes := XZ_MAGIC ++ f.flags ++ leBytes 4 (crc32 f.flags)
def XzFile.footer (f : XzFile) : Bytes :=
  leBytes 4 (crc32 (f.backwardSize ++ f.flags)) ++ f.backwardSize ++ f.flags ++ XZ_MAGIC_FOOTER
def XzFile.bytes (f : XzFile) : Bytes :=
  f.header ++ f.blocks.flatMap (·.bytes) ++ f.index.bytes ++ f.footer
def XzFile.out (f : XzFile) : Bytes := f.blocks.flatMap (·.out)

/-- every integrity condition of the container -/
structure XzFile.Valid (f : XzFile) : Prop where
  check_supported : f.check = .none ∨ f.check = .crc32 ∨ f.check = .crc64
  blocks_valid : BlocksValid f.check f.blocks (f.index.bytes ++ f.footer)
  index_valid : f.index.Valid (f.blocks.map (·.record))
  bs_len : f.backwardSize.length = 4
  backward : (leVal f.backwardSize + 1) * 4 = f.index.bytes.length

def XzParses (x : Bytes) (check : CheckMethod) (blocks : List XzBlock) : Prop :=
  ∃ f : XzFile, f.check = check ∧ f.blocks = blocks ∧ f.Valid ∧ x = f.bytes

theorem xzDecompress_ok_iff {rd rd' : Rd} {s s' : Sink} :
    xzDecompress rd s = (s', .ok rd') ↔
      ∃ check r1 isz r2, parseStreamHeader rd = .ok (check, r1) ∧ check ≠ .sha256 ∧
        blockLoop check (r1.rem.length + 1) [] r1 s = (s', .ok (isz, r2)) ∧
        (xzFooterStage check isz r2 >>= xzEndStage) = .ok rd' := by
  rw [xzDecompress_eq]
  simp only [xzBodyStage, mBind_eq_ok, liftE_eq_ok, mIte_eq, throwM_ne_ok, and_false, false_or,
    Prod.exists]
  constructor
  · rintro ⟨check, r1, s1, ⟨hh, rfl⟩, hsha, isz, r2, s2, hbl, hf, rfl⟩
    exact ⟨check, r1, isz, r2, hh, hsha, hbl, hf⟩
  · rintro ⟨check, r1, isz, r2, hh, hsha, hbl, hf⟩
    exact ⟨check, r1, s, ⟨hh, rfl⟩, hsha, isz, r2, s', hbl, hf, rfl⟩

theorem xzEndStage_ok_iff {rd r : Rd} :
    xzEndStage rd = .ok r ↔ rd.rem = [] ∧ rd.bad = false ∧ r = rd := by
  simp only [xzEndStage, Except.bind_eq_ok', ite_eq_ok, Except.throw_ne_ok, and_false, false_or,
    Except.pure_eq_ok, Bool.not_eq_true, Bool.not_eq_false']
  constructor
  · rintro ⟨eof, he, rfl, rfl⟩
    exact ⟨(Rd.isEof_true_iff.1 he).1, (Rd.isEof_true_iff.1 he).2, rfl⟩
  · rintro ⟨h1, h2, rfl⟩
    exact ⟨true, Rd.isEof_true_iff.2 ⟨h1, h2⟩, rfl, rfl⟩

theorem xzFooterStage_ok_iff {check : CheckMethod} {isz : Nat} {rd r : Rd} :
    xzFooterStage check isz rd = .ok r ↔
      ∃ bsz, bsz.length = 4 ∧ isz = (leVal bsz + 1) <<< 2 ∧
        rd.rem = leBytes 4 (crc32 (bsz ++ [0, UInt8.ofNat check.id])) ++ bsz ++
          [0, UInt8.ofNat check.id] ++ XZ_MAGIC_FOOTER ++ r.rem ∧ r.bad = rd.bad := by
  simp only [xzFooterStage, Except.bind_eq_ok', ite_eq_ok, reduceCtorEq, and_false,
    false_or, Prod.exists, Except.pure_eq_ok, Rd.readExact_ok, Rd.readTag_ok,
    ne_eq, Decidable.not_not, Bool.not_eq_true, Bool.not_eq_false']
  constructor
  · rintro ⟨_, r3, c, bsz, r4, ⟨d1, d2, d3⟩, hbs, fl, r5, ⟨e1, e2, e3⟩, check', hfl, rfl, rfl, ok, r6,
      ⟨mg, m1, m2, rfl, m3⟩, hmg, rfl⟩
    obtain ⟨rfl, -⟩ := parseStreamFlags_ok e2 hfl
    obtain ⟨c1, c2⟩ := (Rd.readU32LE_eq_iff (crc32_lt _)).1 c
    exact ⟨bsz, d2, hbs, by rw [c1, d1, e1, m1, eq_of_beq hmg]; simp, by rw [m3, e3, d3, c2]⟩
  · rintro ⟨bsz, h1, h2, h3, h4⟩
    let fl : Bytes := [0, UInt8.ofNat check.id]
    exact ⟨_, ⟨bsz ++ (fl ++ (XZ_MAGIC_FOOTER ++ r.rem)), rd.bad⟩,
      (Rd.readU32LE_eq_iff (crc32_lt _)).2 ⟨by rw [h3]; simp [fl], rfl⟩,
      bsz, ⟨fl ++ (XZ_MAGIC_FOOTER ++ r.rem), rd.bad⟩, ⟨rfl, h1, rfl⟩, h2,
      fl, ⟨XZ_MAGIC_FOOTER ++ r.rem, rd.bad⟩, ⟨rfl, rfl, rfl⟩, check, parseStreamFlags_id check, rfl, rfl,
      true, r, ⟨XZ_MAGIC_FOOTER, rfl, rfl, rfl, h4⟩, rfl, rfl⟩

theorem readFooter_ok {check : CheckMethod} {isz : Nat} {rd r : Rd}
    (h : (xzFooterStage check isz rd >>= xzEndStage) = .ok r) :
    ∃ bsz, rd.rem = leBytes 4 (crc32 (bsz ++ [0, UInt8.ofNat check.id])) ++ bsz ++
        [0, UInt8.ofNat check.id] ++ XZ_MAGIC_FOOTER ∧
      bsz.length = 4 ∧ isz = (leVal bsz + 1) <<< 2 ∧ r.rem = [] ∧ r.bad = false := by
  obtain ⟨r6, hfoot, hend⟩ := Except.bind_eq_ok'.1 h
  obtain ⟨hr, hb, rfl⟩ := xzEndStage_ok_iff.1 hend
  obtain ⟨bsz, f1, f2, f3, -⟩ := xzFooterStage_ok_iff.1 hfoot
  exact ⟨bsz, by rw [f3, hr]; simp, f1, f2, hr, hb⟩

theorem xzDecompress_ok {x : Bytes} {s s' : Sink} {rd' : Rd}
    (h : xzDecompress (Rd.ofBytes x) s = (s', .ok rd')) :
    ∃ f : XzFile, f.Valid ∧ x = f.bytes ∧ rd'.rem = [] ∧ rd'.bad = false ∧
      s'.out = s.out ++ f.out.toArray := by
  obtain ⟨check, r1, isz, r2, hh, hsha, hbl, hf⟩ := xzDecompress_ok_iff.1 h
  obtain ⟨p1, p2⟩ := parseStreamHeader_ok_iff.1 hh
  have hb1 : r1.bad = false := by rw [p2]; rfl
  obtain ⟨blocks, idx, g1, g2, g3, g4, g5, g7⟩ := blockLoop_ok check _ _ _ hb1 hbl
  obtain ⟨bsz, q1, q2, q3, q4, q5⟩ := readFooter_ok hf
  let f : XzFile := { check := check, blocks := blocks, index := idx, backwardSize := bsz }
  have hfooter : r2.rem = f.footer := by
    rw [q1]; simp [XzFile.footer, XzFile.flags, f]
  refine ⟨f, ⟨?_, by rw [← hfooter]; exact g2, by simpa using g3, q2, ?_⟩, ?_, q4, q5, g5⟩
  · show check = .none ∨ check = .crc32 ∨ check = .crc64
    revert hsha; cases check <;> simp
  · rw [← g4, q3, Nat.shiftLeft_eq]
  · have : x = (Rd.ofBytes x).rem := rfl
    rw [this, p1, g1, hfooter]
    simp [XzFile.bytes, XzFile.header, XzFile.flags, f]

/-! ## Prefix determinism: a successful parse is unaffected by appending bytes to the input -/

def Rd.app (r : Rd) (t : Bytes) : Rd := { r with rem := r.rem ++ t }

@[simp] theorem Rd.app_rem (r : Rd) (t : Bytes) : (r.app t).rem = r.rem ++ t := rfl
@[simp] theorem Rd.app_bad (r : Rd) (t : Bytes) : (r.app t).bad = r.bad := rfl

namespace Rd

theorem readU8_app {r r' : Rd} {b : UInt8} (t : Bytes) (h : r.readU8 = .ok (b, r')) :
    (r.app t).readU8 = .ok (b, r'.app t) := by
  rw [readU8_ok] at h ⊢
  simp [h.1, h.2]

theorem readU32LE_app {r r' : Rd} {v : Nat} (t : Bytes) (h : r.readU32LE = .ok (v, r')) :
    (r.app t).readU32LE = .ok (v, r'.app t) := by
  rw [readU32LE_ok] at h ⊢
  obtain ⟨bs, h1, h2, h3, h4⟩ := h
  exact ⟨bs, by simp [h1], h2, h3, by simp [h4]⟩

end Rd

theorem checkIndex_app (t : Bytes) {start : Nat} {records : List Record} {rd r : Rd}
    (hs : start = rd.rem.length + 1) (h : checkIndex start records rd = .ok r) :
    checkIndex (start + t.length) records (rd.app t) = .ok (r.app t) :=
  let ⟨cnt, enc, m1, m2, h1, h2⟩ := (checkIndex_ok_iff hs).1 h
  (checkIndex_ok_iff (by simp [hs]; omega)).2 ⟨cnt, enc, m1, m2, by simp [h1], h2⟩

theorem parseStreamHeader_app (t : Bytes) {rd r : Rd} {c : CheckMethod}
    (h : parseStreamHeader rd = .ok (c, r)) : parseStreamHeader (rd.app t) = .ok (c, r.app t) :=
  let ⟨h1, h2⟩ := parseStreamHeader_ok_iff.1 h
  parseStreamHeader_ok_iff.2 ⟨by simp [h1], h2⟩

theorem Rd.split_app_fst {r : Rd} {n : Nat} (t : Bytes) (hn : n ≤ r.rem.length) :
    ((r.app t).split n).fst = (r.split n).fst := by
  simp only [Rd.split, Rd.app_rem, Rd.app_bad, List.length_append, Rd.mk.injEq]
  refine ⟨List.take_append_of_le_length hn, ?_⟩
  have h1 : decide (r.rem.length + t.length < n) = false := by simp; omega
  have h2 : decide (r.rem.length < n) = false := by simp; omega
  rw [h1, h2]

theorem Rd.split_app_snd {r : Rd} {n : Nat} (t : Bytes) (hn : n ≤ r.rem.length) :
    ((r.app t).split n).snd = (r.split n).snd ++ t := by
  simp only [Rd.split, Rd.app_rem]
  exact List.drop_append_of_le_length hn

theorem decodeFilter_app (t : Bytes) {rd rd' : Rd} {f : Filter} {buf : Bytes}
    (h : decodeFilter rd f = .ok (buf, rd')) :
    decodeFilter (rd.app t) f = .ok (buf, rd'.app t) :=
  let ⟨_, h1, h2, h3⟩ := decodeFilter_prefix h
  h3 _ _ (by simp [h1]) h2

theorem readBlockFilters_app (t : Bytes) {bh : BlockHeader} {rd r : Rd} {out : Bytes}
    (h : readBlockFilters bh rd = .ok (out, r)) :
    readBlockFilters bh (rd.app t) = .ok (out, r.app t) := by
  obtain ⟨h0, rfl, rfl⟩ | ⟨f, fs, mid, hf, hd, hp, hl⟩ := readBlockFilters_ok_iff.1 h
  · exact readBlockFilters_ok_iff.2 (.inl ⟨h0, rfl, rfl⟩)
  · refine readBlockFilters_ok_iff.2 (.inr ⟨f, fs, mid, hf, decodeFilter_app t hd, ?_, hl⟩)
    rw [show (rd.app t).rem.length - (r.app t).rem.length = rd.rem.length - r.rem.length by
      simp; omega]
    exact hp

theorem readBlockTail_app (t : Bytes) {start : Nat} {rd r : Rd} {tmpbuf : Bytes}
    {check : CheckMethod} {s s' : Sink} {rec : Record}
    (h : readBlockTail start rd tmpbuf check s = (s', .ok (rec, r))) :
    readBlockTail (start + t.length) (rd.app t) tmpbuf check s = (s', .ok (rec, r.app t)) := by
  obtain ⟨hc, h1, h2, hw, hle, hrec⟩ := readBlockTail_ok_iff.1 h
  have e : ∀ q : Rd, start + t.length - (q.app t).rem.length = start - q.rem.length := fun q => by
    simp; omega
  rw [readBlockTail_ok_iff, e rd, e r]
  exact ⟨hc, (congrArg (· ++ t) h1).trans (List.append_assoc _ _ _), h2, hw, hle, hrec⟩

theorem Rd.unsplit_app (r inner : Rd) (rest t : Bytes) :
    (r.app t).unsplit inner (rest ++ t) = (r.unsplit inner rest).app t := by
  simp [Rd.unsplit, Rd.app]

theorem blockDataStage_app (t : Bytes) {rd r : Rd} {hs : UInt8} {bh : BlockHeader} {buf : Bytes}
    (h : blockDataStage rd hs = .ok (bh, buf, r)) :
    blockDataStage (rd.app t) hs = .ok (bh, buf, r.app t) := by
  obtain ⟨n, hr, crc, r2, h1, h2, h3, hcrc, h4⟩ := blockDataStage_ok_iff.1 h
  have hn : n ≤ rd.rem.length := by rw [headerCrc_len h2 h3]; omega
  refine blockDataStage_ok_iff.2 ⟨n, hr, crc, r2.app t, h1, by rw [Rd.split_app_fst t hn]; exact h2,
    ?_, by rw [Rd.split_app_fst t hn]; exact hcrc, readBlockFilters_app t h4⟩
  rw [Rd.split_app_snd t hn, Rd.unsplit_app]
  exact Rd.readU32LE_app t h3

theorem readBlock_app (t : Bytes) {start : Nat} {rd r : Rd} {check : CheckMethod} {hs : UInt8}
    {s s' : Sink} {rec : Record}
    (h : readBlock start rd check hs s = (s', .ok (rec, r))) :
    readBlock (start + t.length) (rd.app t) check hs s = (s', .ok (rec, r.app t)) :=
  let ⟨_, _, _, hh, hu, ht⟩ := readBlock_ok_iff.1 h
  readBlock_ok_iff.2 ⟨_, _, _, blockDataStage_app t hh, hu, readBlockTail_app t ht⟩

theorem blockLoop_app (t : Bytes) (check : CheckMethod) : ∀ (fuel fuel' : Nat), fuel ≤ fuel' →
    ∀ (records : List Record) (rd : Rd) {s s' : Sink} {isz : Nat} {r : Rd},
    blockLoop check fuel records rd s = (s', .ok (isz, r)) →
    blockLoop check fuel' records (rd.app t) s = (s', .ok (isz, r.app t))
  | 0, _, _, _, _, _, _, _, _, h => by simp [blockLoop] at h
  | fuel+1, 0, hle, _, _, _, _, _, _, _ => by omega
  | fuel+1, fuel'+1, hle, records, rd, s, s', isz, r, h => by
    simp only [blockLoop, mBind_eq_ok, liftE_eq_ok, Prod.exists, mPure_eq_ok, mIte_eq,
      Prod.mk.injEq] at h ⊢
    obtain ⟨hs, r1, s1, ⟨e1, rfl⟩, h⟩ := h
    refine ⟨hs, _, _, ⟨Rd.readU8_app t e1, rfl⟩, ?_⟩
    have hlen : (rd.app t).rem.length = rd.rem.length + t.length := by simp
    rw [hlen]
    rcases h with ⟨h0, r2, s2, ⟨hci, rfl⟩, ⟨rfl, rfl⟩, rfl⟩ | ⟨hne, rec, r2, s2, hrb, h⟩
    · refine Or.inl ⟨h0, r2.app t, _, ⟨checkIndex_app t (by rw [(Rd.readU8_ok.1 e1).1]; rfl) hci, rfl⟩, ⟨?_, rfl⟩, rfl⟩
      simp; omega
    · exact Or.inr ⟨hne, rec, r2.app t, s2, readBlock_app t hrb,
        blockLoop_app t check fuel fuel' (by omega) _ _ h⟩

theorem readFooter_trailing {check : CheckMethod} {isz : Nat} {rd r : Rd} {t : Bytes} (ht : t ≠ [])
    (h : (xzFooterStage check isz rd >>= xzEndStage) = .ok r) :
    (xzFooterStage check isz (rd.app t) >>= xzEndStage) = .error .xz := by
  obtain ⟨_, hfoot, hend⟩ := Except.bind_eq_ok'.1 h
  obtain ⟨hr, -, rfl⟩ := xzEndStage_ok_iff.1 hend
  obtain ⟨bsz, f1, f2, f3, f4⟩ := xzFooterStage_ok_iff.1 hfoot
  rw [(xzFooterStage_ok_iff (rd := rd.app t) (r := r.app t)).2
    ⟨bsz, f1, f2, (congrArg (· ++ t) f3).trans (List.append_assoc _ _ _), f4⟩]
  have f7 : (r.app t).isEof = .ok false := by
    obtain _ | ⟨a, b⟩ := t
    · exact absurd rfl ht
    · simp [Rd.isEof, hr]
  show xzEndStage (r.app t) = _
  rw [xzEndStage, f7]
  rfl

/-- Prefix determinism. If `x` decodes successfully then `x ++ t` (`t ≠ []`) is rejected:
the decoder never accepts trailing data (second stream, stream padding, garbage). -/
theorem xzDecompress_trailing {x t : Bytes} {s s' : Sink} {rd' : Rd} (ht : t ≠ [])
    (h : xzDecompress (Rd.ofBytes x) s = (s', .ok rd')) :
    xzDecompress (Rd.ofBytes (x ++ t)) s = (s', .error .xz) := by
  obtain ⟨check, r1, isz, r2, hh, hsha, hbl, hf⟩ := xzDecompress_ok_iff.1 h
  have f1 : parseStreamHeader (Rd.ofBytes (x ++ t)) = .ok (check, r1.app t) :=
    parseStreamHeader_app t hh
  have f2 := blockLoop_app t check _ ((r1.app t).rem.length + 1) (by simp) _ _ hbl
  rw [xzDecompress_eq, f1]
  simp only [bind_run, liftE_ok, xzBodyStage, if_neg hsha, f2, readFooter_trailing ht hf]
  rfl

/-! ## Unsupported features are refused where they are read -/

def streamFlags (x : Bytes) : Bytes := (x.drop 6).take 2

theorem streamFlags_of_header {x rest : Bytes} {a b : UInt8} {crc : Bytes}
    (h : x = XZ_MAGIC ++ [a, b] ++ crc ++ rest) : streamFlags x = [a, b] := by
  subst h; simp [streamFlags, XZ_MAGIC]

theorem xzDecompress_bad_flags (x : Bytes) (s : Sink)
    (hbad : ¬ ∃ id : UInt8, (id = 0x00 ∨ id = 0x01 ∨ id = 0x04) ∧ streamFlags x = [0, id]) :
    ∃ e, xzDecompress (Rd.ofBytes x) s = (s, .error e) := by
  rw [xzDecompress_eq, bind_run]
  cases hh : parseStreamHeader (Rd.ofBytes x) with
  | error e => exact ⟨e, rfl⟩
  | ok v =>
    obtain ⟨check, r1⟩ := v
    obtain ⟨p1, -⟩ := parseStreamHeader_ok_iff.1 hh
    have hf := streamFlags_of_header (x := x) p1
    cases check with
    | sha256 => exact ⟨.xz, rfl⟩
    | none => exact absurd ⟨_, .inl rfl, hf⟩ hbad
    | crc32 => exact absurd ⟨_, .inr (.inl rfl), hf⟩ hbad
    | crc64 => exact absurd ⟨_, .inr (.inr rfl), hf⟩ hbad

theorem readFilters_rejects_id {n hs : Nat} {acc : List Filter} {rd r : Rd} {id : Nat} {bs : Bytes}
    (h : getMultibyte rd = .ok (id, bs, r)) (hid : id ≠ 0x21) :
    readFilters (n + 1) hs acc rd = .error .xz := by
  simp [readFilters, h, bind, Except.bind, hid]
  rfl

theorem readBlockHeader_rejects_reserved {rd r : Rd} {hs : Nat} {flags : UInt8}
    (h : rd.readU8 = .ok (flags, r)) (hres : flags.toNat &&& 0x3C ≠ 0) :
    readBlockHeader rd hs = .error .xz := by
  simp [readBlockHeader, h, bind, Except.bind, hres]
  rfl

/-! ## The error path: what the sink holds when an error is reported (perfect sink) -/

theorem readBlockTail_error {start : Nat} {rd : Rd} {tmpbuf : Bytes} {check : CheckMethod}
    {s s' : Sink} {e : Err} (hs : s.script = []) (hstart : rd.rem.length ≤ start)
    (h : readBlockTail start rd tmpbuf check s = (s', .error e)) : s' = s := by
  simp only [readBlockTail, mBind_eq_error, liftE_eq_ok, liftE_eq_error, Prod.exists,
    mPure_ne_error] at h
  rcases h with ⟨-, h⟩ | ⟨zb, r1, s1, ⟨h1, rfl⟩, h⟩
  · exact h
  rcases h with ⟨-, h⟩ | ⟨r2, s2, ⟨h2, rfl⟩, h⟩
  · exact h
  have hw : writeAll tmpbuf.toArray _ = (_, .ok ()) := Prod.ext rfl (writeAll_clean _ _ hs).1
  rw [hw] at h
  rcases h with h | ⟨u, s4, -, h⟩
  · cases h
  rcases h with ⟨h4, -⟩ | ⟨_, _, _, hf⟩
  · exfalso
    obtain ⟨-, z1, -⟩ := readZeroBytes_ok_iff.1 h1
    obtain ⟨-, v1, -⟩ := validateBlockCheck_ok_iff.1 h2
    have l1 := congrArg List.length z1
    have l2 := congrArg List.length v1
    simp only [List.length_append, List.length_replicate] at l1 l2
    simp only [subChk] at h4
    split at h4
    · cases h4
    · omega
  · exact hf.elim

theorem readBlockFilters_len {bh : BlockHeader} {rd r : Rd} {out : Bytes}
    (h : readBlockFilters bh rd = .ok (out, r)) : r.rem.length ≤ rd.rem.length := by
  obtain ⟨-, -, rfl⟩ | ⟨f, fs, mid, -, hd, -, -⟩ := readBlockFilters_ok_iff.1 h
  · exact Nat.le_refl _
  · obtain ⟨p, p1, -⟩ := decodeFilter_prefix hd
    rw [p1]; simp

theorem blockDataStage_len {rd r : Rd} {hs : UInt8} {bh : BlockHeader} {buf : Bytes}
    (h : blockDataStage rd hs = .ok (bh, buf, r)) : r.rem.length ≤ rd.rem.length := by
  obtain ⟨n, hr, crc, r2, -, h2, h3, -, h4⟩ := blockDataStage_ok_iff.1 h
  have l1 := headerCrc_len h2 h3
  have l2 := readBlockFilters_len h4
  omega

/-- an error of `readBlock` leaves a perfect sink alone: the data stage does not touch it, and in
the tail the only step after `writeAll` is the subtraction `count - padding_size`, which cannot
fail when the block started at `start` (`hstart`) -/
theorem readBlock_error {start : Nat} {rd : Rd} {check : CheckMethod} {hs : UInt8} {s s' : Sink}
    {e : Err} (hscr : s.script = []) (hstart : rd.rem.length ≤ start)
    (h : readBlock start rd check hs s = (s', .error e)) : s' = s := by
  rw [readBlock_eq] at h
  rcases mBind_eq_error.1 h with h | ⟨⟨bh, buf, r⟩, s1, h1, h2⟩
  · exact (liftE_eq_error.1 h).2
  obtain ⟨hd, rfl⟩ := liftE_eq_ok.1 h1
  have ht := fun h => readBlockTail_error (tmpbuf := buf) (check := check) (e := e) (s' := s') hscr
    (Nat.le_trans (blockDataStage_len hd) hstart) h
  rw [blockWriteStage_eq] at h2
  obtain ⟨-, h⟩ | ⟨-, h⟩ := mIte_eq.1 h2
  · exact ht h
  · exact (throwM_eq_error.1 h).2

theorem readBlock_ok_script {start : Nat} {rd r : Rd} {check : CheckMethod} {hs : UInt8}
    {s s' : Sink} {rec : Record} (hscr : s.script = [])
    (h : readBlock start rd check hs s = (s', .ok (rec, r))) : s'.script = [] := by
  obtain ⟨-, tmpbuf, r3, -, -, ht⟩ := readBlock_ok_iff.1 h
  have := (writeAll_clean tmpbuf.toArray s hscr).2.1
  rwa [(readBlockTail_ok_iff.1 ht).2.2.2.1] at this

theorem blockLoop_error (check : CheckMethod) : ∀ (fuel : Nat) (records : List Record) (rd : Rd)
    {s s' : Sink} {e : Err}, rd.bad = false → s.script = [] →
    blockLoop check fuel records rd s = (s', .error e) →
    ∃ (blocks : List XzBlock) (tail : Bytes),
      rd.rem = blocks.flatMap (·.bytes) ++ tail ∧ BlocksValid check blocks tail ∧
      s'.out = s.out ++ (blocks.flatMap (·.out)).toArray
  | 0, _, rd, s, s', e, _, _, h => by
    simp only [blockLoop, throwM_eq_error] at h
    exact ⟨[], rd.rem, by simp, trivial, by simp [h.2]⟩
  | fuel+1, records, rd, s, s', e, hbad, hscr, h => by
    have nil : ∀ {s'' : Sink}, s'' = s → ∃ (blocks : List XzBlock) (tail : Bytes),
        rd.rem = blocks.flatMap (·.bytes) ++ tail ∧ BlocksValid check blocks tail ∧
        s''.out = s.out ++ (blocks.flatMap (·.out)).toArray := by
      rintro _ rfl
      exact ⟨[], rd.rem, by simp, trivial, by simp⟩
    simp only [blockLoop, mBind_eq_error, liftE_eq_ok, liftE_eq_error, Prod.exists,
      mPure_ne_error, mIte_eq, Rd.readU8_ok] at h
    rcases h with ⟨-, h⟩ | ⟨hs, r1, s1, ⟨⟨e1, e2⟩, rfl⟩, h⟩
    · exact nil h
    rcases h with ⟨-, h⟩ | ⟨hne, h⟩
    · rcases h with ⟨-, h⟩ | ⟨_, _, _, hf⟩
      · exact nil h
      · exact hf.elim
    have hst : rd.rem.length = r1.rem.length + 1 := by rw [e1]; simp
    have hb1 : r1.bad = false := by rw [e2, hbad]
    rcases h with h | ⟨rec, r2, s2, hrb, h⟩
    · exact nil (readBlock_error hscr (by omega) h)
    · obtain ⟨blk, b1, b2, b3, b4, b5, b7⟩ := readBlock_ok hst hb1 hne hrb
      have hscr2 := readBlock_ok_script hscr hrb
      obtain ⟨blocks, tail, g1, g2, g3⟩ := blockLoop_error check fuel _ _ b7 hscr2 h
      refine ⟨blk :: blocks, tail, ?_, ⟨?_, g2⟩, ?_⟩
      · rw [e1, b2, g1]; simp
      · rw [g1] at b3; simpa using b3
      · rw [g3, b5]; simp

theorem xzDecompress_error {x : Bytes} {s s' : Sink} {e : Err} (hs : s.script = [])
    (h : xzDecompress (Rd.ofBytes x) s = (s', .error e)) :
    s' = s ∨ ∃ (check : CheckMethod) (blocks : List XzBlock) (tail : Bytes),
      x = XZ_MAGIC ++ [0, UInt8.ofNat check.id] ++ leBytes 4 (crc32 [0, UInt8.ofNat check.id]) ++
        blocks.flatMap (·.bytes) ++ tail ∧
      (check = .none ∨ check = .crc32 ∨ check = .crc64) ∧
      BlocksValid check blocks tail ∧
      s'.out = s.out ++ (blocks.flatMap (·.out)).toArray := by
  rw [xzDecompress_eq] at h
  simp only [xzBodyStage, mBind_eq_error, liftE_eq_ok, liftE_eq_error, Prod.exists, mIte_eq,
    throwM_eq_error] at h
  rcases h with ⟨-, h⟩ | ⟨check, r1, s1, ⟨hh, rfl⟩, h⟩
  · exact .inl h
  rcases h with ⟨-, -, h⟩ | ⟨hsha, h⟩
  · exact .inl h
  obtain ⟨p1, p2⟩ := parseStreamHeader_ok_iff.1 hh
  have hb1 : r1.bad = false := by rw [p2]; rfl
  have hx : (Rd.ofBytes x).rem = x := rfl
  rw [hx] at p1
  have hsup : check = .none ∨ check = .crc32 ∨ check = .crc64 := by
    revert hsha; cases check <;> simp
  right
  rcases h with h | ⟨isz, r2, s2, hbl, -, rfl⟩
  · obtain ⟨blocks, tail, g1, g2, g3⟩ := blockLoop_error check _ _ _ hb1 hs h
    exact ⟨check, blocks, tail, by rw [p1, g1]; simp, hsup, g2, g3⟩
  · obtain ⟨blocks, idx, g1, g2, -, -, g5, -⟩ := blockLoop_ok check _ _ _ hb1 hbl
    exact ⟨check, blocks, idx.bytes ++ r2.rem, by rw [p1, g1]; simp, hsup, g2, g5⟩

end Lzma
