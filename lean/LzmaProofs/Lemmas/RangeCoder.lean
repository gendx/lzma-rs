/-
  Range coder round trip at the level of event lists and decision trees:
  the modelled decoder (`runDec` over `RC.decodeBit` / `RC.getBit`) reads back
  exactly the events the modelled encoder (`encodeEvents`, `REnc.finish`) wrote,
  for every event list, with arbitrary trailing bytes after the payload.
-/
import LzmaProofs.Lemmas.RcSim
import LzmaProofs.Lemmas.RcProbs
import LzmaProofs.Lemmas.SymLayer
namespace Lzma
open RcArith
open REnc

/-! ## unfolding `encodeEvents` -/

theorem encodeEvents_nil (probs : Probs) (e : REnc) (snk : Sink) :
    encodeEvents [] probs e snk = (snk, .ok (probs, e)) := rfl

theorem encodeEvents_pbit_eq (i : PIdx) (b : Bool) (rest : List Ev) (probs : Probs) (e : REnc) :
    encodeEvents (.pbit i b :: rest) probs e =
      (liftE (probs.get i) >>= fun v => e.encodeBit v b >>= fun x =>
        encodeEvents rest (probs.set i x.2) x.1) := rfl

theorem encodeEvents_dbit_eq (b : Bool) (rest : List Ev) (probs : Probs) (e : REnc) :
    encodeEvents (.dbit b :: rest) probs e =
      (REnc.encodeDirect e b >>= fun e' => encodeEvents rest probs e') := rfl

/-- the encoder's context as a function of properties and spec state (`EncSt.ctx` does not
look at the probabilities) -/
def ctxOf (props : Props) (spec : SpecSt) : ECtx :=
  EncSt.ctx { props := props, probs := Probs.init 0, spec := spec }

theorem EncSt.ctx_eq (s : EncSt) : s.ctx = ctxOf s.props s.spec := rfl

/-- the spec state `encodeProg` continues with after `sym` (an ill-formed match still rotates
the registers) -/
def nextSpec (dict : Nat) (spec : SpecSt) (sym : Sym) : SpecSt :=
  match SpecSt.step dict spec sym with
  | some (st, _) => st
  | none =>
    match sym with
    | .mtch dist _ => { spec with rep3 := spec.rep2, rep2 := spec.rep1, rep1 := spec.rep0,
                                  rep0 := dist - 1, state := if spec.state < 7 then 7 else 10 }
    | _ => spec

theorem nextSpec_of_step {dict : Nat} {spec spec' : SpecSt} {sym : Sym} {b : Bool}
    (h : SpecSt.step dict spec sym = some (spec', b)) : nextSpec dict spec sym = spec' := by
  simp [nextSpec, h]

theorem encodeProg_cons (dict : Nat) (sym : Sym) (rest : List Sym) (s : EncSt) (e : REnc) :
    encodeProg dict (sym :: rest) s e =
      (encodeEvents (rawSymEvents (ctxOf s.props s.spec) sym.toRaw) s.probs e >>= fun r =>
        encodeProg dict rest { s with probs := r.1, spec := nextSpec dict s.spec sym } r.2) := rfl

theorem encodeEvents_pbit {i : PIdx} {b : Bool} {probs : Probs} {e : REnc}
    {snk : Sink} (hs : snk.script = []) (he : EOk e) {v : Nat} (hg : probs.get i = .ok v)
    (hv : ProbOk v) :
    ∃ snk1, SinkExt snk snk1 (stepBit e v b).2 ∧
      ∀ rest, encodeEvents (.pbit i b :: rest) probs e snk =
        encodeEvents rest (probs.set i (updP v b)) (stepBit e v b).1 snk1 := by
  obtain ⟨s1, h1, x1⟩ := emits_encodeBit b he hv snk hs
  refine ⟨s1, x1, fun rest => ?_⟩
  rw [encodeEvents_pbit_eq, hg, liftE_ok_bind, bind_run_ok h1]

theorem encodeEvents_pbit_get {i : PIdx} {b : Bool} {rest : List Ev} {probs : Probs} {e : REnc}
    {snk snkF : Sink} {r : Probs × REnc}
    (h : encodeEvents (.pbit i b :: rest) probs e snk = (snkF, .ok r)) :
    ∃ v, probs.get i = .ok v := by
  rw [encodeEvents_pbit_eq] at h
  obtain ⟨v, _, hv, _⟩ := mBind_eq_ok.1 h
  exact ⟨v, (liftE_eq_ok.1 hv).1⟩

theorem encodeEvents_dbit {b : Bool} {e : REnc}
    {snk : Sink} (hs : snk.script = []) (he : EOk e) :
    ∃ snk1, SinkExt snk snk1 (stepDirect e b).2 ∧
      ∀ rest probs, encodeEvents (.dbit b :: rest) probs e snk =
        encodeEvents rest probs (stepDirect e b).1 snk1 := by
  obtain ⟨s1, h1, x1⟩ := emits_encodeDirect b he snk hs
  refine ⟨s1, x1, fun rest probs => ?_⟩
  rw [encodeEvents_dbit_eq, bind_run_ok h1]

/-! ## one run of the encoder over the events -/

/-- number of normalisation shifts (`write_low` calls outside `finish`) the encoder
performs on the events -/
def normCount : List Ev → Probs → REnc → Nat
  | [], _, _ => 0
  | .pbit i b :: rest, p, e =>
    match p.get i with
    | .ok v => (if (midBit e v b).range < 16777216 then 1 else 0) +
        normCount rest (p.set i (updP v b)) (stepBit e v b).1
    | .error _ => 0
  | .dbit b :: rest, p, e =>
    (if (midDirect e b).range < 16777216 then 1 else 0) + normCount rest p (stepDirect e b).1

theorem encode_run : ∀ (evs : List Ev) (probs : Probs) (e : REnc) (snk snkF : Sink)
    (probsF : Probs) (eF : REnc),
    snk.script = [] → EOk e → ProbsOk probs →
    encodeEvents evs probs e snk = (snkF, .ok (probsF, eF)) →
    EOk eF ∧ ProbsOk probsF ∧ snkF.script = [] ∧ (∃ P, snkF.out.toList = snk.out.toList ++ P) ∧
      EN eF snkF.out.toList = EN e snk.out.toList + normCount evs probs e ∧
      ∀ B, Fut B eF snkF.out.toList → Fut B e snk.out.toList
  | [], probs, e, snk, snkF, probsF, eF, hs, he, hp, henc => by
    rw [encodeEvents_nil] at henc
    cases henc
    exact ⟨he, hp, hs, ⟨[], (List.append_nil _).symm⟩, rfl, fun _ h => h⟩
  | .pbit i b :: rest, probs, e, snk, snkF, probsF, eF, hs, he, hp, henc => by
    obtain ⟨v, hg⟩ := encodeEvents_pbit_get henc
    have hv := hp i v hg
    have hu := midBit_upd e v b he hv
    obtain ⟨s1, x1, heq⟩ := encodeEvents_pbit (b := b) hs he hg hv
    rw [heq] at henc
    obtain ⟨a, q, c, ⟨P, hP⟩, n, f⟩ := encode_run rest _ _ s1 snkF probsF eF x1.1 (stepBit_ok b he hv)
      (hp.set i (hv.upd b)) henc
    rw [x1.2] at hP n f
    refine ⟨a, q, c, ⟨(stepBit e v b).2 ++ P, by rw [hP, List.append_assoc]⟩, ?_,
      fun B h => fut_step _ he hu (f B h)⟩
    simp only [normCount, hg]
    rw [n, show stepBit e v b = norm1 (midBit e v b) from rfl, en_step _ he hu]
    omega
  | .dbit b :: rest, probs, e, snk, snkF, probsF, eF, hs, he, hp, henc => by
    have hu := midDirect_upd e b he
    obtain ⟨s1, x1, heq⟩ := encodeEvents_dbit (b := b) hs he
    rw [heq] at henc
    obtain ⟨a, q, c, ⟨P, hP⟩, n, f⟩ := encode_run rest _ _ s1 snkF probsF eF x1.1 (stepDirect_ok b he)
      hp henc
    rw [x1.2] at hP n f
    refine ⟨a, q, c, ⟨(stepDirect e b).2 ++ P, by rw [hP, List.append_assoc]⟩, ?_,
      fun B h => fut_step _ he hu (f B h)⟩
    simp only [normCount]
    rw [n, show stepDirect e b = norm1 (midDirect e b) from rfl, en_step _ he hu]
    omega

theorem encode_en (evs : List Ev) (probs : Probs) (e : REnc) (snk snkF : Sink)
    (probsF : Probs) (eF : REnc) (hs : snk.script = []) (he : EOk e) (hp : ProbsOk probs)
    (henc : encodeEvents evs probs e snk = (snkF, .ok (probsF, eF))) :
    EN eF snkF.out.toList = EN e snk.out.toList + normCount evs probs e :=
  (encode_run evs probs e snk snkF probsF eF hs he hp henc).2.2.2.2.1

theorem encode_future (evs : List Ev) (probs : Probs) (e : REnc) (snk snkF snkB : Sink)
    (probsF : Probs) (eF e2 : REnc) (hs : snk.script = []) (he : EOk e) (hp : ProbsOk probs)
    (henc : encodeEvents evs probs e snk = (snkF, .ok (probsF, eF)))
    (hfin : eF.finish snkF = (snkB, .ok e2)) :
    Fut snkB.out.toList e snk.out.toList ∧
      (∃ P, snkB.out.toList = snk.out.toList ++ P) ∧
      EOk eF ∧ snkF.script = [] ∧
      snkB.out.toList.length = EN eF snkF.out.toList + 4 ∧
      beVal snkB.out.toList = EV eF snkF.out.toList := by
  obtain ⟨hok, _, hsF, ⟨P, hP⟩, _, hf⟩ := encode_run evs probs e snk snkF probsF eF hs he hp henc
  obtain ⟨s', hr, hx, hl, hv⟩ := finish_run eF snkF hsF hok
  obtain rfl : s' = snkB := (Prod.mk.inj (hr.symm.trans hfin)).1
  have hlen : s'.out.toList.length = EN eF snkF.out.toList + 4 := by
    rw [hx.2, List.length_append, hl]; simp [EN]; omega
  have hval : beVal s'.out.toList = EV eF snkF.out.toList := by rw [hx.2, hv]
  refine ⟨hf _ ⟨by omega, ?_, ?_⟩, ⟨P ++ (fin eF).2, by rw [hx.2, hP, List.append_assoc]⟩, hok, hsF,
    hlen, hval⟩
  · rw [List.take_of_length_le (by omega), hval]; omega
  · rw [List.take_of_length_le (by omega), hval]; have := hok.lo; omega

/-! ## the tree-level simulation -/

/-- Simulation of a decision tree.  If the events `evs` still to be encoded
start with a path of the tree `t` (`runEv t evs = some (a, rest)`), then the real
decoder on `t` returns `a`, updates the probabilities exactly as the encoder does
on that path, and is again in simulation with the encoder state after the path. -/
theorem runDec_sim {α : Type} {T : Bytes} {snkF snkB : Sink} {probsF : Probs} {eF e2 : REnc}
    (hfin : eF.finish snkF = (snkB, .ok e2)) (t : Coder PIdx α) :
    ∀ (evs rest : List Ev) (a : α) (probs : Probs) (e : REnc) (snk : Sink) (rc : RC) (rd : Rd),
    snk.script = [] → ProbsOk probs →
    RcSim snkB.out.toList T e snk.out.toList rc rd →
    runEv t evs = some (a, rest) →
    encodeEvents evs probs e snk = (snkF, .ok (probsF, eF)) →
    ∃ (probs' : Probs) (e' : REnc) (snk' : Sink) (rc' : RC) (rd' : Rd),
      runDec true t probs rc rd = .ok (a, probs', rc', rd') ∧
      snk'.script = [] ∧ ProbsOk probs' ∧
      RcSim snkB.out.toList T e' snk'.out.toList rc' rd' ∧
      encodeEvents rest probs' e' snk' = (snkF, .ok (probsF, eF)) ∧
      rd'.bad = rd.bad ∧
      ∃ seg, evs = seg ++ rest ∧ encodeEvents seg probs e snk = (snk', .ok (probs', e')) := by
  induction t with
  | ret a0 =>
    intro evs rest a probs e snk rc rd hs hp hsim hrun henc
    simp only [runEv, Option.some.injEq, Prod.mk.injEq] at hrun
    obtain ⟨rfl, rfl⟩ := hrun
    exact ⟨probs, e, snk, rc, rd, rfl, hs, hp, hsim, henc, rfl, [], rfl, rfl⟩
  | fail x =>
    intro evs rest a probs e snk rc rd hs hp hsim hrun henc
    simp [runEv] at hrun
  | bit i k ih =>
    intro evs rest a probs e snk rc rd hs hp hsim hrun henc
    obtain ⟨b, evs', rfl, hrun'⟩ := runEv_bit_ok hrun
    obtain ⟨v, hg⟩ := encodeEvents_pbit_get henc
    have hv := hp i v hg
    obtain ⟨s1, x1, heq⟩ := encodeEvents_pbit (b := b) hs hsim.ok hg hv
    have henc1 := henc
    rw [heq] at henc1
    have hok1 := stepBit_ok b hsim.ok hv
    have hp1 := hp.set i (hv.upd b)
    obtain ⟨f1, _⟩ := encode_future evs' _ _ s1 snkF snkB probsF eF e2 x1.1 hok1 hp1 henc1 hfin
    rw [x1.2] at f1
    obtain ⟨rc1, rd1, hd, hbad, hsim1⟩ := sim_pbit v b hsim hv f1
    rw [← x1.2] at hsim1
    obtain ⟨probs', e', snk', rc', rd', hr, hs', hp', hsim', henc', hbad', seg, hseg, hsenc⟩ :=
      ih b evs' rest a _ _ s1 rc1 rd1 x1.1 hp1 hsim1 hrun' henc1
    refine ⟨probs', e', snk', rc', rd', ?_, hs', hp', hsim', henc', by rw [hbad', hbad],
      .pbit i b :: seg, by rw [hseg]; rfl, ?_⟩
    · have hget : ProbStore.get probs i = .ok v := hg
      simp only [runDec, hget, hd, if_true]
      exact hr
    · rw [heq seg]; exact hsenc
  | direct k ih =>
    intro evs rest a probs e snk rc rd hs hp hsim hrun henc
    obtain ⟨b, evs', rfl, hrun'⟩ := runEv_direct_ok hrun
    obtain ⟨s1, x1, heq⟩ := encodeEvents_dbit (b := b) hs hsim.ok
    have henc1 := henc
    rw [heq] at henc1
    have hok1 := stepDirect_ok b hsim.ok
    obtain ⟨f1, _⟩ := encode_future evs' _ _ s1 snkF snkB probsF eF e2 x1.1 hok1 hp henc1 hfin
    rw [x1.2] at f1
    obtain ⟨rc1, rd1, hd, hbad, hsim1⟩ := sim_dbit b hsim f1
    rw [← x1.2] at hsim1
    obtain ⟨probs', e', snk', rc', rd', hr, hs', hp', hsim', henc', hbad', seg, hseg, hsenc⟩ :=
      ih b evs' rest a _ _ s1 rc1 rd1 x1.1 hp hsim1 hrun' henc1
    refine ⟨probs', e', snk', rc', rd', ?_, hs', hp', hsim', henc', by rw [hbad', hbad],
      .dbit b :: seg, by rw [hseg]; rfl, ?_⟩
    · simp only [runDec, hd]
      exact hr
    · rw [heq seg]; exact hsenc

/-! ## start and end of the simulation -/

/-- `RangeDecoder::new` on the payload of a fresh encoder: the ignored first byte is
`0`, the next four are the initial `code`. `out` = what the sink held before. -/
theorem rcSim_init {out P T : Bytes} (bad : Bool)
    (hfut : Fut (out ++ P) {} out) :
    ∃ rc rd', RC.new { rem := P ++ T, bad := bad } = .ok (rc, rd') ∧ rd'.bad = bad ∧
      RcSim (out ++ P) T {} out rc rd' := by
  obtain ⟨h1, h2, h3⟩ : FutN (out ++ P) (EV {} out) (EN {} out) 0xFFFFFFFF := hfut
  have hEN : EN {} out = out.length + 1 := rfl
  have hEV : EV {} out = beVal out * 256 * 4294967296 := by
    show beVal (out ++ [UInt8.ofNat 0]) * 4294967296 + 0 = _
    rw [beVal_snoc, show (UInt8.ofNat 0).toNat = 0 from rfl]; omega
  rw [hEN, List.length_append] at h1
  match P, h1 with
  | [], h1 => exact absurd h1 (by simp; omega)
  | b0 :: Q, h1 =>
    have hQ : 4 ≤ Q.length := by simp at h1; omega
    have hQT : 4 ≤ Q.length + T.length := by omega
    have h4 : (Q.take 4).length = 4 := by rw [List.length_take]; omega
    have htake : (out ++ b0 :: Q).take (out.length + 1 + 4) = out ++ b0 :: Q.take 4 := by
      rw [show out.length + 1 + 4 = out.length + 5 by omega, List.take_length_add_append]; rfl
    have hdrop : (out ++ b0 :: Q).drop (out.length + 1 + 4) = Q.drop 4 := by
      rw [show out.length + 1 + 4 = out.length + 5 by omega, List.drop_length_add_append]; rfl
    have hc := beVal_lt (Q.take 4)
    have hv : beVal (out ++ b0 :: Q.take 4) =
        beVal out * 1099511627776 + (b0.toNat * 4294967296 + beVal (Q.take 4)) := by
      rw [beVal_append, beVal_cons, List.length_cons, h4]
    rw [hEN, hEV, htake, hv] at h2 h3
    rw [h4] at hc
    refine ⟨{ range := 0xFFFFFFFF, code := beVal (Q.take 4) }, { rem := Q.drop 4 ++ T, bad := bad },
      ?_, rfl, eok_fresh, rfl, ?_, ?_, ?_⟩
    · simp [RC.new, Rd.readU8, Rd.readU32BE, Rd.readExact, rc_except_ok_bind, hQT,
        List.take_append_of_le_length hQ, List.drop_append_of_le_length hQ]
      rfl
    · rw [hEN, List.length_append]; exact h1
    · rw [hEN, hdrop]
    · show _ = _ + beVal (Q.take 4)
      rw [hEN, htake, hv, hEV]
      omega

theorem RcSim.final {B T : Bytes} {e : REnc} {out : Bytes} {rc : RC} {rd : Rd}
    (h : RcSim B T e out rc rd) (hlen : B.length = EN e out + 4) (hval : beVal B = EV e out) :
    rd.rem = T ∧ rc.code = 0 := by
  have h1 := h.rem
  have h2 := h.code
  rw [← hlen] at h1 h2
  rw [List.drop_length, List.nil_append] at h1
  rw [List.take_length, hval] at h2
  exact ⟨h1, by omega⟩

/-! ## sequencing trees -/

theorem rc_runDec_bind {σ ι α β : Type} [ProbStore σ ι] (u : Bool) (t : Coder ι α) (f : α → Coder ι β) :
    ∀ (s : σ) (rc : RC) (rd : Rd), runDec u (t.bind f) s rc rd =
      match runDec u t s rc rd with
      | .ok (a, s', rc', rd') => runDec u (f a) s' rc' rd'
      | .error x => .error x := by
  induction t with
  | ret a => intro s rc rd; rfl
  | fail x => intro s rc rd; rfl
  | bit i k ih =>
    intro s rc rd
    simp only [Coder.bind, runDec]
    cases ProbStore.get s i with
    | error x => rfl
    | ok p =>
      simp only
      cases RC.decodeBit u p rc rd with
      | error x => rfl
      | ok r => obtain ⟨b, p', rc', rd'⟩ := r; exact ih b _ _ _
  | direct k ih =>
    intro s rc rd
    simp only [Coder.bind, runDec]
    cases RC.getBit rc rd with
    | error x => rfl
    | ok r => obtain ⟨b, rc', rd'⟩ := r; exact ih b _ _ _

/-! ## the round-trip theorems -/

theorem rc_roundtrip_init {evs : List Ev} {probs probsF : Probs} {snk0 snkF snkB : Sink}
    {eF e2 : REnc} (hs : snk0.script = []) (hp : ProbsOk probs)
    (henc : encodeEvents evs probs {} snk0 = (snkF, .ok (probsF, eF)))
    (hfin : eF.finish snkF = (snkB, .ok e2)) :
    ∃ P, snkB.out.toList = snk0.out.toList ++ P ∧ ∀ (T : Bytes) (bad : Bool),
      ∃ rc rd, RC.new { rem := P ++ T, bad := bad } = .ok (rc, rd) ∧ rd.bad = bad ∧
        RcSim snkB.out.toList T {} snk0.out.toList rc rd := by
  obtain ⟨f0, ⟨P, hP⟩, _⟩ := encode_future evs probs {} snk0 snkF snkB probsF eF e2 hs eok_fresh hp henc hfin
  refine ⟨P, hP, fun T bad => ?_⟩
  rw [hP] at f0 ⊢
  exact rcSim_init bad f0

theorem rc_roundtrip_final {T : Bytes} {probs probsF : Probs} {e eF e2 : REnc} {snk snkF snkB : Sink}
    {rc : RC} {rd : Rd} (hs : snk.script = []) (hp : ProbsOk probs)
    (hsim : RcSim snkB.out.toList T e snk.out.toList rc rd)
    (henc : encodeEvents [] probs e snk = (snkF, .ok (probsF, eF)))
    (hfin : eF.finish snkF = (snkB, .ok e2)) :
    rd.rem = T ∧ rc.code = 0 ∧ probs = probsF := by
  obtain ⟨_, _, _, _, hl, hv⟩ := encode_future [] probs e snk snkF snkB probsF eF e2 hs hsim.ok hp henc hfin
  rw [encodeEvents_nil] at henc
  cases henc
  obtain ⟨h1, h2⟩ := hsim.final hl hv
  exact ⟨h1, h2, rfl⟩

/-- `C01.rc_roundtrip`; trees are chained with `Coder.bind` / `rc_runDec_bind` -/
theorem rc_roundtrip {α : Type} {evs : List Ev} {probs probsF : Probs} {snk0 snkF snkB : Sink}
    {eF e2 : REnc} (t : Coder PIdx α) (a : α)
    (hs : snk0.script = []) (hp : ProbsOk probs)
    (henc : encodeEvents evs probs {} snk0 = (snkF, .ok (probsF, eF)))
    (hfin : eF.finish snkF = (snkB, .ok e2))
    (hrun : runEv t evs = some (a, [])) :
    ∃ P, snkB.out.toList = snk0.out.toList ++ P ∧ ∀ (T : Bytes) (bad : Bool),
      ∃ rc rd rc', RC.new { rem := P ++ T, bad := bad } = .ok (rc, rd) ∧
        runDec true t probs rc rd = .ok (a, probsF, rc', { rem := T, bad := bad }) ∧
        rc'.code = 0 := by
  obtain ⟨P, hP, hinit⟩ := rc_roundtrip_init hs hp henc hfin
  refine ⟨P, hP, fun T bad => ?_⟩
  obtain ⟨rc, rd, hnew, hbad, hsim⟩ := hinit T bad
  obtain ⟨p', e', s', rc', rd', hd, hs', hp', hsim', henc', hbad', _⟩ :=
    runDec_sim (T := T) hfin t evs [] a probs {} snk0 rc rd hs hp hsim hrun henc
  obtain ⟨h1, h2, h3⟩ := rc_roundtrip_final hs' hp' hsim' henc' hfin
  refine ⟨rc, rd, rc', hnew, ?_, h2⟩
  rw [hd, h3]
  have : rd' = { rem := T, bad := bad } := by
    cases rd'; simp_all
  rw [this]

/-! ## the encoder never fails on an all-accepting sink -/

theorem encodeEvents_total : ∀ (evs : List Ev) (probs : Probs) (e : REnc) (snk : Sink),
    snk.script = [] → EOk e → ProbsOk probs →
    (∀ i b, Ev.pbit i b ∈ evs → ∃ v, probs.get i = .ok v) →
    ∃ snkF probsF eF snkB e2, encodeEvents evs probs e snk = (snkF, .ok (probsF, eF)) ∧
      eF.finish snkF = (snkB, .ok e2)
  | [], probs, e, snk, hs, he, _, _ => by
    obtain ⟨s', hr, _⟩ := finish_run e snk hs he
    exact ⟨snk, probs, e, s', _, rfl, hr⟩
  | .pbit i b :: rest, probs, e, snk, hs, he, hp, hidx => by
    obtain ⟨v, hg⟩ := hidx i b (by simp)
    have hv := hp i v hg
    obtain ⟨s1, x1, heq⟩ := encodeEvents_pbit (b := b) hs he hg hv
    obtain ⟨snkF, probsF, eF, snkB, e2, h1, h2⟩ := encodeEvents_total rest (probs.set i (updP v b))
      (stepBit e v b).1 s1 x1.1 (stepBit_ok b he hv) (hp.set i (hv.upd b))
      (fun j c hj => Probs.get_ok_set (hidx j c (by simp [hj])))
    exact ⟨snkF, probsF, eF, snkB, e2, by rw [heq]; exact h1, h2⟩
  | .dbit b :: rest, probs, e, snk, hs, he, hp, hidx => by
    obtain ⟨s1, x1, heq⟩ := encodeEvents_dbit (b := b) hs he
    obtain ⟨snkF, probsF, eF, snkB, e2, h1, h2⟩ := encodeEvents_total rest probs
      (stepDirect e b).1 s1 x1.1 (stepDirect_ok b he) hp
      (fun j c hj => hidx j c (by simp [hj]))
    exact ⟨snkF, probsF, eF, snkB, e2, by rw [heq]; exact h1, h2⟩

/-! ## byte count -/

/-- by `rc_roundtrip` the decoder consumes exactly this payload: 5 bytes in `RangeDecoder::new`,
one per shift -/
theorem encoder_byte_count {evs : List Ev} {probs probsF : Probs} {snk0 snkF snkB : Sink}
    {eF e2 : REnc} (hs : snk0.script = []) (hp : ProbsOk probs)
    (henc : encodeEvents evs probs {} snk0 = (snkF, .ok (probsF, eF)))
    (hfin : eF.finish snkF = (snkB, .ok e2)) :
    snkB.out.toList.length = snk0.out.toList.length + 5 + normCount evs probs {} := by
  obtain ⟨_, _, _, _, hl, _⟩ := encode_future evs probs {} snk0 snkF snkB probsF eF e2 hs eok_fresh hp henc hfin
  rw [hl, encode_en evs probs {} snk0 snkF probsF eF hs eok_fresh hp henc]
  show snk0.out.toList.length + 1 + _ + 4 = _
  omega

/-! ## non-vacuity -/

/-- an event list for the examples below: 12 events, two direct bits, a repeated index so that
an adapted probability is re-read (`encodeEvents_total` gives the hypotheses of `rc_roundtrip`
for every list whose indices are in bounds) -/
def demoEvs : List Ev :=
  [.pbit (.isMatch 0) false, .pbit (.lit 0 1) true, .pbit (.lit 0 3) false, .dbit true,
   .pbit (.isMatch 0) true, .pbit (.isRep 0) false, .pbit (.lenChoice false) false,
   .pbit (.lenLow false 0 1) true, .dbit false, .pbit (.isMatch 0) true,
   .pbit (.posSlot 0 1) true, .pbit (.align 1) false]

example : ProbsOk (Probs.init 1) := probsOk_init 1

example : ∃ snkF probsF eF snkB e2,
    encodeEvents demoEvs (Probs.init 1) {} {} = (snkF, .ok (probsF, eF)) ∧
    eF.finish snkF = (snkB, .ok e2) := by
  apply encodeEvents_total demoEvs (Probs.init 1) {} {} rfl eok_fresh (probsOk_init 1)
  intro i b h
  simp only [demoEvs, List.mem_cons, Ev.pbit.injEq, List.mem_nil_iff, or_false, reduceCtorEq,
    false_or] at h
  rcases h with h | h | h | h | h | h | h | h | h | h <;> obtain ⟨rfl, _⟩ := h <;>
    simp [Probs.get, Probs.init, LenProbs.get, arrGet_ok_iff]

/-- `demoEvs` is a path of this tree -/
def demoTree : Coder PIdx (List Bool) :=
  .bit (.isMatch 0) fun b1 => .bit (.lit 0 1) fun b2 => .bit (.lit 0 3) fun b3 => .direct fun b4 =>
  .bit (.isMatch 0) fun b5 => .bit (.isRep 0) fun b6 => .bit (.lenChoice false) fun b7 =>
  .bit (.lenLow false 0 1) fun b8 => .direct fun b9 => .bit (.isMatch 0) fun b10 =>
  .bit (.posSlot 0 1) fun b11 => .bit (.align 1) fun b12 =>
  .ret [b1, b2, b3, b4, b5, b6, b7, b8, b9, b10, b11, b12]

example : runEv demoTree demoEvs =
    some ([false, true, false, true, true, false, false, true, false, true, true, false], []) := by
  decide

/-! ## executable form of the round trip, and why `ProbOk` cannot be `0 < p < 0x800` -/

/-- payload of the events from a fresh encoder into an empty all-accepting sink -/
def rcEncode (evs : List Ev) (probs : Probs) : Bytes :=
  let m : M Unit := do
    let (_, e) ← encodeEvents evs probs {}
    let _ ← e.finish
    pure ()
  (m {}).1.out.toList

/-- the linear tree that reads events of the given kinds and returns the bits -/
def rcTreeOf : List Ev → Coder PIdx (List Bool)
  | [] => .ret []
  | .pbit i _ :: r => .bit i fun b => (rcTreeOf r).bind fun bs => .ret (b :: bs)
  | .dbit _ :: r => .direct fun b => (rcTreeOf r).bind fun bs => .ret (b :: bs)

def rcBitsOf (evs : List Ev) : List Bool :=
  evs.map fun
    | .pbit _ b => b
    | .dbit b => b

/-- does the real decoder read back the bits, consume exactly the payload and end with `code = 0`? -/
def rcRoundTrips (evs : List Ev) (probs : Probs) : Bool :=
  match RC.new { rem := rcEncode evs probs } with
  | .ok (rc, rd) =>
    match runDec true (rcTreeOf evs) probs rc rd with
    | .ok (a, _, rc, rd) => a == rcBitsOf evs && rc.code == 0 && rd.rem.isEmpty
    | .error _ => false
  | .error _ => false

theorem runEv_rcTreeOf : ∀ evs, runEv (rcTreeOf evs) evs = some (rcBitsOf evs, [])
  | [] => rfl
  | .pbit i b :: r => by
    simp only [rcTreeOf, runEv, if_true]
    rw [runEv_bind, runEv_rcTreeOf r]
    rfl
  | .dbit b :: r => by
    simp only [rcTreeOf, runEv]
    rw [runEv_bind, runEv_rcTreeOf r]
    rfl

theorem rcRoundTrips_of_probsOk (evs : List Ev) (probs : Probs) (hp : ProbsOk probs)
    (hidx : ∀ i b, Ev.pbit i b ∈ evs → ∃ v, probs.get i = .ok v) :
    rcRoundTrips evs probs = true := by
  obtain ⟨snkF, probsF, eF, snkB, e2, henc, hfin⟩ :=
    encodeEvents_total evs probs {} {} rfl eok_fresh hp hidx
  obtain ⟨P, hP, h⟩ := rc_roundtrip (rcTreeOf evs) (rcBitsOf evs) rfl hp henc hfin (runEv_rcTreeOf evs)
  obtain ⟨rc, rd, rc', h1, h2, h3⟩ := h [] false
  have hE : rcEncode evs probs = P := by
    unfold rcEncode
    simp only
    rw [bind_run_ok henc]
    simp only
    rw [bind_run_ok hfin]
    simp only [pure_run]
    rw [hP]; rfl
  rw [List.append_nil] at h1
  unfold rcRoundTrips
  rw [hE, h1]
  simp only
  rw [h2]
  simp [h3]

/-- a store with one inadmissible value `1` (which still satisfies `0 < p < 0x800`) -/
def cxProbs : Probs := (Probs.init 1).set (.isMatch 0) 1

def cxEvs : List Ev :=
  [.pbit (.isRep 0) false, .pbit (.isRep 1) false, .pbit (.isRep 2) false, .pbit (.isRep 3) false,
   .pbit (.isRep 4) false, .pbit (.isMatch 0) false, .pbit (.isRepG0 0) true,
   .pbit (.isRepG0 1) false, .pbit (.isRepG0 2) false, .pbit (.isRepG0 3) false,
   .pbit (.isRepG0 4) false, .pbit (.isRepG0 5) false]

/-- `0 < p < 0x800` is not enough: with a stored probability of `1` the
encoder's `while range < 2^24` loop shifts twice where the decoder's single `if`
shifts once, and the round trip fails.  (Values reachable from `0x400` stay in
`[31, 2017]`, see `ProbOk.upd`, so this state is unreachable in lzma-rs.) -/
theorem rc_roundtrip_needs_probOk :
    (∀ i v, cxProbs.get i = .ok v → 0 < v ∧ v < 0x800) ∧ rcRoundTrips cxEvs cxProbs = false := by
  refine ⟨fun i v h => ?_, by decide +kernel⟩
  rcases Probs.get_set h with rfl | h'
  · omega
  · have := probsOk_init 1 i v h'
    unfold ProbOk at this; omega

end Lzma
