/-
  C12 (reader side) — a source fault never helps.

  `Rd.bad = true` turns "no more data" into an I/O error.  Every function `f rd …` of the
  decoders (the encoders read from `ERd` and are not treated here) is compared with the same
  function on the fault-free reader `rd.good` (same bytes, `bad = false`):
  * if the run on `rd` succeeds, the run on `rd.good` succeeds with the same sink and the same
    value, the resulting reader being the `good` version of the faulty run's reader — and the
    fault flag of the reader is handed through unchanged (`Gd.fl`);
  * if the run on `rd` fails, what it delivered to the sink is a prefix of what the fault-free
    run delivers.
  The relation (`SimE` for `Except`-valued, `Sim` for `M`-valued functions) is carried through
  `lzmaDecompress`, `lzma2Decompress` and `xzDecompress` by structural descent on the stages.
-/
import LzmaProofs.Lemmas.Sink
import LzmaProofs.Lemmas.XzInv
import LzmaProofs.Lemmas.RcDec
namespace Lzma

def Rd.good (r : Rd) : Rd := { r with bad := false }

/- deliberately not `rfl`-lemmas: `simp only [Rd.good_rem]` must rewrite `Decidable` instances of
`if`-conditions along with the conditions (a `dsimp`-style rewrite leaves them behind and later
`split`s fail) -/
@[simp] theorem Rd.good_rem (r : Rd) : r.good.rem = r.rem := by cases r; exact rfl
@[simp] theorem Rd.good_bad (r : Rd) : r.good.bad = false := by cases r; exact rfl
@[simp] theorem Rd.good_good (r : Rd) : r.good.good = r.good := by cases r; exact rfl
theorem Rd.good_of_not_bad {r : Rd} (h : r.bad = false) : r.good = r := by
  cases r; simp_all [Rd.good]

namespace SF

/-- results that end in a reader: `gd` makes that reader fault-free, `fl b` says its fault flag
is `b`.  Suffixes below: `G` (`SimEG`, `SimG`, `bindG`) = the value ends in a reader and is related
by `gd`/`fl b`; `I` (`SimEI`, `SimI`, `bindI`) = it holds no reader and both sides give the same
value; `Sim.bindE` = the first stage is a `liftE`. -/
class Gd (β : Type) where
  gd : β → β
  fl : Bool → β → Prop

instance : Gd Rd := ⟨Rd.good, fun b r => r.bad = b⟩
instance {α β : Type} [Gd β] : Gd (α × β) := ⟨fun p => (p.1, Gd.gd p.2), fun b p => Gd.fl b p.2⟩

@[simp] theorem gd_rd (r : Rd) : Gd.gd r = r.good := rfl
@[simp] theorem gd_pair {α β : Type} [Gd β] (a : α) (x : β) : Gd.gd (a, x) = (a, Gd.gd x) := rfl
@[simp] theorem fl_rd (b : Bool) (r : Rd) : Gd.fl b r = (r.bad = b) := rfl
@[simp] theorem fl_pair {α β : Type} [Gd β] (b : Bool) (a : α) (x : β) :
    Gd.fl b (a, x) = Gd.fl b x := rfl

/-! ## the relation on `Except` -/

/-- success of the faulty computation `eb` implies success of the fault-free one `eg`, with the
related value -/
structure SimE {β : Type} (g : β → β) (P : β → Prop) (eb eg : Except Err β) : Prop where
  ok_of_ok : ∀ x, eb = .ok x → eg = .ok (g x) ∧ P x

abbrev SimEG {β : Type} [Gd β] (b : Bool) (eb eg : Except Err β) : Prop := SimE Gd.gd (Gd.fl b) eb eg
abbrev SimEI {β : Type} (eb eg : Except Err β) : Prop := SimE id (fun _ => True) eb eg

theorem SimE.throw {β : Type} {g : β → β} {P : β → Prop} (e : Err) (eg : Except Err β) :
    SimE g P (throw e) eg := by
  constructor; intro x h; cases h

theorem SimE.pure {β : Type} {g : β → β} {P : β → Prop} {x : β} (h : P x) :
    SimE g P (pure x) (pure (g x)) := by
  constructor; intro y hy; cases hy; exact ⟨rfl, h⟩

theorem SimE.refl {β : Type} (e : Except Err β) : SimEI e e := by
  constructor; intro x h; exact ⟨h, trivial⟩

theorem SimE.imp {β : Type} {g : β → β} {P Q : β → Prop} {eb eg : Except Err β}
    (h : SimE g P eb eg) (hpq : ∀ x, P x → Q x) : SimE g Q eb eg := by
  constructor; intro x hx; exact ⟨(h.ok_of_ok x hx).1, hpq x (h.ok_of_ok x hx).2⟩

theorem SimE.bind {α β : Type} {g : α → α} {P : α → Prop} {h : β → β} {Q : β → Prop}
    {eb eg : Except Err α} {fb fg : α → Except Err β}
    (h1 : SimE g P eb eg) (h2 : ∀ x, P x → SimE h Q (fb x) (fg (g x))) :
    SimE h Q (eb >>= fb) (eg >>= fg) := by
  constructor
  intro y hy
  cases eb with
  | error e => cases hy
  | ok x =>
    obtain ⟨e1, p⟩ := h1.ok_of_ok x rfl
    rw [e1]
    exact (h2 x p).ok_of_ok y hy

theorem SimE.bindG {α β : Type} [Gd α] {b : Bool} {h : β → β} {Q : β → Prop}
    {eb eg : Except Err α} {fb fg : α → Except Err β}
    (h1 : SimEG b eb eg) (h2 : ∀ x, Gd.fl b x → SimE h Q (fb x) (fg (Gd.gd x))) :
    SimE h Q (eb >>= fb) (eg >>= fg) := SimE.bind h1 h2

theorem SimE.bindI {α β : Type} {h : β → β} {Q : β → Prop}
    {eb eg : Except Err α} {fb fg : α → Except Err β}
    (h1 : SimEI eb eg) (h2 : ∀ x, SimE h Q (fb x) (fg x)) :
    SimE h Q (eb >>= fb) (eg >>= fg) := SimE.bind h1 fun x _ => h2 x

/-- `if c then throw e` followed by the rest `k` of a `do` block (both copies of the join point) -/
theorem SimE.guard {β : Type} {g : β → β} {P : β → Prop} {c : Prop} [Decidable c] {e e' : Err}
    {kb kg : Except Err β} (h : ¬c → SimE g P kb kg) :
    SimE g P (if c then ((MonadExcept.throw e : Except Err PUnit) >>= fun _ => kb) else kb)
      (if c then ((MonadExcept.throw e' : Except Err PUnit) >>= fun _ => kg) else kg) := by
  split
  · constructor; intro x hx; cases hx
  · exact h ‹_›

theorem SimE.ite {β : Type} {g : β → β} {P : β → Prop} {c : Prop} [Decidable c]
    {a b a' b' : Except Err β} (h1 : c → SimE g P a a') (h2 : ¬c → SimE g P b b') :
    SimE g P (if c then a else b) (if c then a' else b') := by
  split
  · exact h1 ‹_›
  · exact h2 ‹_›

theorem SimE.mapErr {β : Type} {g : β → β} {P : β → Prop} {eb eg : Except Err β}
    (f : Except Err β → Except Err β) (hf : ∀ e x, f e = .ok x ↔ e = .ok x)
    (h : SimE g P eb eg) : SimE g P (f eb) (f eg) :=
  ⟨fun x hx => let ⟨e1, p⟩ := h.ok_of_ok x ((hf _ _).1 hx); ⟨(hf _ _).2 e1, p⟩⟩

theorem SimE.hdrErr {β : Type} {g : β → β} {P : β → Prop} {eb eg : Except Err β}
    (h : SimE g P eb eg) : SimE g P (hdrErr eb) (hdrErr eg) :=
  h.mapErr Lzma.hdrErr fun e x => by cases e <;> simp [Lzma.hdrErr]

theorem SimE.lzErr {β : Type} {g : β → β} {P : β → Prop} {eb eg : Except Err β}
    (h : SimE g P eb eg) : SimE g P (lzErr eb) (lzErr eg) :=
  h.mapErr Lzma.lzErr fun e x => by cases e <;> simp [Lzma.lzErr]

theorem SimE.remap {β : Type} {g : β → β} {P : β → Prop} (eb eg : Except Err β) (e' : Err) :
    SimE g P eb eg →
    SimE g P (match eb with | .ok x => .ok x | .error _ => .error e')
      (match eg with | .ok x => .ok x | .error _ => .error e') :=
  SimE.mapErr (fun e : Except Err β => match e with | .ok x => .ok x | .error _ => .error e')
    fun e x => by cases e <;> simp

/-! ## the relation on `M` -/

/-- `mb` is the run on the faulty reader, `mg` the fault-free run: success of `mb` is success of
`mg` with the same sink and the related value; on failure of `mb` the bytes it delivered are a
prefix of what `mg` delivers -/
structure Sim {β : Type} (g : β → β) (P : β → Prop) (mb mg : M β) : Prop where
  run : ∀ snk,
    (∀ sb x, mb snk = (sb, .ok x) → mg snk = (sb, .ok (g x)) ∧ P x) ∧
    (∀ sb e, mb snk = (sb, .error e) → APre sb.out (mg snk).1.out)

abbrev SimG {β : Type} [Gd β] (b : Bool) (mb mg : M β) : Prop := Sim Gd.gd (Gd.fl b) mb mg
abbrev SimI {β : Type} (mb mg : M β) : Prop := Sim id (fun _ => True) mb mg

theorem Sim.refl {β : Type} (m : M β) : SimI m m := by
  constructor
  intro snk
  refine ⟨fun sb x h => ⟨h, trivial⟩, fun sb e h => ?_⟩
  rw [h]; exact APre.refl _

theorem Sim.imp {β : Type} {g : β → β} {P Q : β → Prop} {mb mg : M β}
    (h : Sim g P mb mg) (hpq : ∀ x, P x → Q x) : Sim g Q mb mg := by
  constructor
  intro snk
  refine ⟨fun sb x hx => ?_, (h.run snk).2⟩
  exact ⟨((h.run snk).1 sb x hx).1, hpq x ((h.run snk).1 sb x hx).2⟩

theorem Sim.liftE {β : Type} {g : β → β} {P : β → Prop} {eb eg : Except Err β}
    (h : SimE g P eb eg) : Sim g P (liftE eb) (liftE eg) := by
  refine ⟨fun snk => ⟨fun sb x hx => ?_, fun sb e hx => ?_⟩⟩
  · obtain ⟨rfl, rfl⟩ := liftE_eq_ok.1 hx
    obtain ⟨e1, p⟩ := h.ok_of_ok x rfl
    rw [e1]; exact ⟨rfl, p⟩
  · obtain ⟨_, rfl⟩ := liftE_eq_error.1 hx
    cases eg <;> exact APre.refl _

theorem Sim.pure {β : Type} {g : β → β} {P : β → Prop} {x : β} (h : P x) :
    Sim g P (pure x) (pure (g x)) := Sim.liftE (SimE.pure h)

theorem Sim.throw {β : Type} {g : β → β} {P : β → Prop} (e : Err) :
    Sim g P (throwM e : M β) (throwM e) := Sim.liftE (SimE.throw e (.error e))

theorem Sim.throw_left {β : Type} {g : β → β} {P : β → Prop} (e : Err) {mg : M β} (h : Mono mg) :
    Sim g P (throwM e : M β) mg := by
  constructor
  intro snk
  refine ⟨fun sb y hy => ?_, fun sb e hy => ?_⟩
  · simp at hy
  · simp at hy; rw [← hy.1]; exact h snk

theorem Sim.bind {α β : Type} {g : α → α} {P : α → Prop} {h : β → β} {Q : β → Prop}
    {mb mg : M α} {fb fg : α → M β}
    (h1 : Sim g P mb mg) (h2 : ∀ x, P x → Sim h Q (fb x) (fg (g x)))
    (h3 : ∀ y, OM (fg y)) :
    Sim h Q (mb >>= fb) (mg >>= fg) := by
  constructor
  intro snk
  obtain ⟨a1, a2⟩ := h1.run snk
  rcases hb : mb snk with ⟨s1, r⟩
  cases r with
  | ok x =>
    obtain ⟨e1, p⟩ := a1 s1 x hb
    rw [bind_run_ok hb, bind_run_ok e1]
    exact (h2 x p).run s1
  | error e =>
    have pre := a2 s1 e hb
    rw [bind_run_error hb]
    refine ⟨fun sb x hx => (by cases hx), fun sb e' hx => ?_⟩
    cases hx
    rcases hg : mg snk with ⟨s2, r2⟩
    rw [hg] at pre
    cases r2 with
    | ok y => rw [bind_run_ok hg]; exact pre.trans ((h3 y).mono s2)
    | error e2 => rw [bind_run_error hg]; exact pre

theorem Sim.bindG {α β : Type} [Gd α] {b : Bool} {h : β → β} {Q : β → Prop}
    {mb mg : M α} {fb fg : α → M β}
    (h1 : SimG b mb mg) (h2 : ∀ x, Gd.fl b x → Sim h Q (fb x) (fg (Gd.gd x)))
    (h3 : ∀ y, OM (fg y)) :
    Sim h Q (mb >>= fb) (mg >>= fg) := Sim.bind h1 h2 h3

theorem Sim.bindI {α β : Type} {h : β → β} {Q : β → Prop}
    {mb mg : M α} {fb fg : α → M β}
    (h1 : SimI mb mg) (h2 : ∀ x, Sim h Q (fb x) (fg x))
    (h3 : ∀ y, OM (fg y)) :
    Sim h Q (mb >>= fb) (mg >>= fg) := Sim.bind h1 (fun x _ => h2 x) h3

/-- a pure first stage: it is enough that the whole fault-free run only appends -/
theorem Sim.bindE {α β : Type} {g : α → α} {P : α → Prop} {h : β → β} {Q : β → Prop}
    {eb eg : Except Err α} {fb fg : α → M β}
    (h1 : SimE g P eb eg) (h2 : ∀ x, P x → Sim h Q (fb x) (fg (g x)))
    (h3 : OM (Lzma.liftE eg >>= fg)) :
    Sim h Q (Lzma.liftE eb >>= fb) (Lzma.liftE eg >>= fg) := by
  cases eb with
  | error e =>
    refine ⟨fun snk => ⟨fun _ _ hx => ?_, fun _ _ hx => ?_⟩⟩
    · cases hx
    · cases hx; exact h3.mono snk
  | ok x =>
    obtain ⟨e1, p⟩ := h1.ok_of_ok x rfl
    rw [e1]
    exact h2 x p

theorem Sim.ite {β : Type} {g : β → β} {P : β → Prop} {c : Prop} [Decidable c]
    {a b a' b' : M β} (h1 : c → Sim g P a a') (h2 : ¬c → Sim g P b b') :
    Sim g P (if c then a else b) (if c then a' else b') := by
  split
  · exact h1 ‹_›
  · exact h2 ‹_›

/-! ### consequences of `Sim` -/

theorem Sim.ok {β : Type} {g : β → β} {P : β → Prop} {mb mg : M β} (h : Sim g P mb mg)
    {snk sb : Sink} {x : β} (hx : mb snk = (sb, .ok x)) : mg snk = (sb, .ok (g x)) ∧ P x :=
  (h.run snk).1 sb x hx

theorem Sim.error_of_error {β : Type} {g : β → β} {P : β → Prop} {mb mg : M β} (h : Sim g P mb mg)
    {snk sg : Sink} {e : Err} (hx : mg snk = (sg, .error e)) :
    ∃ sb e', mb snk = (sb, .error e') ∧ APre sb.out sg.out := by
  rcases hb : mb snk with ⟨sb, r⟩
  cases r with
  | ok x =>
    have := ((h.run snk).1 sb x hb).1
    rw [hx] at this; cases this
  | error e' =>
    have := (h.run snk).2 sb e' hb
    rw [hx] at this
    exact ⟨sb, e', rfl, this⟩

theorem Sim.out_prefix {β : Type} {g : β → β} {P : β → Prop} {mb mg : M β} (h : Sim g P mb mg)
    (snk : Sink) : APre (mb snk).1.out (mg snk).1.out := by
  rcases hb : mb snk with ⟨sb, _ | x⟩
  · exact (h.run snk).2 sb _ hb
  · rw [(h.ok hb).1]; exact APre.refl _

/-! ## reader primitives -/

section
variable {b : Bool}

theorem readU8_sim (r : Rd) (hb : r.bad = b) : SimEG b r.readU8 r.good.readU8 := by
  constructor
  intro x hx
  obtain ⟨h1, h2⟩ := Rd.readU8_ok.1 hx
  exact ⟨Rd.readU8_ok.2 ⟨by simp [h1], by simp⟩, h2.trans hb⟩

theorem readExact_sim (r : Rd) (n : Nat) (hb : r.bad = b) :
    SimEG b (r.readExact n) (r.good.readExact n) := by
  constructor
  intro x hx
  obtain ⟨h1, h2, h3⟩ := Rd.readExact_ok.1 hx
  exact ⟨Rd.readExact_ok.2 ⟨by simp [h1], h2, by simp⟩, h3.trans hb⟩

theorem readU16BE_sim (r : Rd) (hb : r.bad = b) : SimEG b r.readU16BE r.good.readU16BE :=
  SimE.bindG (readExact_sim r 2 hb) fun _ hx => SimE.pure hx

theorem readU32BE_sim (r : Rd) (hb : r.bad = b) : SimEG b r.readU32BE r.good.readU32BE :=
  SimE.bindG (readExact_sim r 4 hb) fun _ hx => SimE.pure hx

theorem readU32LE_sim (r : Rd) (hb : r.bad = b) : SimEG b r.readU32LE r.good.readU32LE :=
  SimE.bindG (readExact_sim r 4 hb) fun _ hx => SimE.pure hx

theorem readU64LE_sim (r : Rd) (hb : r.bad = b) : SimEG b r.readU64LE r.good.readU64LE :=
  SimE.bindG (readExact_sim r 8 hb) fun _ hx => SimE.pure hx

theorem readTag_sim (r : Rd) (tag : Bytes) (hb : r.bad = b) :
    SimEG b (r.readTag tag) (r.good.readTag tag) :=
  SimE.bindG (readExact_sim r _ hb) fun _ hx => SimE.pure hx

theorem isEof_sim (r : Rd) : SimEI r.isEof r.good.isEof := by
  constructor
  intro x hx
  unfold Rd.isEof at hx ⊢
  cases hr : r.rem <;> cases hbad : r.bad <;> simp_all

theorem fillBuf_sim (r : Rd) : SimEI r.fillBuf r.good.fillBuf := by
  constructor
  intro x hx
  exact ⟨by simp [Rd.fillBuf], trivial⟩

theorem flushZeroPadding_sim (r : Rd) (hb : r.bad = b) :
    SimEG b r.flushZeroPadding r.good.flushZeroPadding := by
  constructor
  intro x hx
  obtain ⟨rem, bad⟩ := r
  simp only at hb
  subst hb
  unfold Rd.flushZeroPadding at hx ⊢
  simp only [Rd.good] at hx ⊢
  by_cases h1 : rem.isEmpty = true
  · cases bad
    · simp [h1] at hx ⊢; subst hx; simp [Gd.gd, Gd.fl, Rd.good]
    · simp [h1] at hx
  · by_cases h2 : rem.all (· == 0) = true
    · cases bad
      · simp only [h1, h2] at hx ⊢; simp at hx; subst hx; simp [Gd.gd, Gd.fl, Rd.good]
      · simp only [h1, h2] at hx; simp at hx
    · simp only [h1, h2] at hx ⊢
      simp at hx; subst hx; simp [Gd.gd, Gd.fl, Rd.good]

@[simp] theorem unsplit_bad (r inner : Rd) (rest : Bytes) : (r.unsplit inner rest).bad = r.bad := rfl

/-! ## the range decoder and the symbol decoder

Every relation below is the term that follows the function's `do` block: `bindG` where the first
stage hands on a reader (the flag fact `Gd.fl b x` is handed on with it), `bindI` where it does
not, `guard`/`ite` per `if`, the lemma of the callee at the leaves. -/

theorem rcNew_sim (rd : Rd) (hb : rd.bad = b) : SimEG b (RC.new rd) (RC.new rd.good) :=
  SimE.bindG (readU8_sim rd hb) fun _ hx => SimE.bindG (readU32BE_sim _ hx) fun _ hy => SimE.pure hy

theorem normalize_sim (rc : RC) (rd : Rd) (hb : rd.bad = b) :
    SimEG b (rc.normalize rd) (rc.normalize rd.good) :=
  SimE.ite (fun _ => SimE.bindG (readU8_sim rd hb) fun _ hx => SimE.pure hx) fun _ => SimE.pure hb

theorem getBit_sim (rc : RC) (rd : Rd) (hb : rd.bad = b) :
    SimEG b (rc.getBit rd) (rc.getBit rd.good) :=
  SimE.bindG (normalize_sim _ rd hb) fun _ hx => SimE.pure hx

theorem decodeBit_sim (u : Bool) (p : Nat) (rc : RC) (rd : Rd) (hb : rd.bad = b) :
    SimEG b (rc.decodeBit u p rd) (rc.decodeBit u p rd.good) :=
  SimE.bindI (SimE.refl _) fun _ => SimE.ite
    (fun _ => SimE.ite
      (fun _ => SimE.bindI (SimE.refl _) fun _ => SimE.bindI (SimE.refl _) fun _ =>
        SimE.bindG (normalize_sim _ rd hb) fun _ hx => SimE.pure hx)
      fun _ => SimE.bindI (SimE.refl _) fun _ =>
        SimE.bindG (normalize_sim _ rd hb) fun _ hx => SimE.pure hx)
    fun _ => SimE.bindI (SimE.refl _) fun _ => SimE.bindI (SimE.refl _) fun _ =>
      SimE.bindG (normalize_sim _ rd hb) fun _ hx => SimE.pure hx

theorem runDec_sim {σ ι α : Type} [ProbStore σ ι] (u : Bool) (t : Coder ι α) :
    ∀ (s : σ) (rc : RC) (rd : Rd), rd.bad = b →
      SimEG b (runDec u t s rc rd) (runDec u t s rc rd.good) := by
  induction t with
  | ret a => exact fun _ _ _ hb => SimE.pure hb
  | fail e => exact fun _ _ _ _ => SimE.throw _ _
  | bit i k ih =>
    intro s rc rd hb
    rw [runDec_bit, runDec_bit]
    exact SimE.bindI (SimE.refl _) fun p => SimE.bindG (decodeBit_sim u p rc rd hb) fun x hx =>
      ih x.1 _ _ _ hx
  | direct k ih =>
    intro s rc rd hb
    rw [runDec_direct, runDec_direct]
    exact SimE.bindG (getBit_sim rc rd hb) fun x hx => ih x.1 _ _ _ hx

theorem isFinishedOk_sim (rc : RC) (rd : Rd) : SimEI (rc.isFinishedOk rd) (rc.isFinishedOk rd.good) :=
  SimE.ite (fun _ => isEof_sim rd) fun _ => SimE.refl _

theorem readPartialInputBuf_sim (s : DState) (rd : Rd) (hb : rd.bad = b) :
    SimEG b (s.readPartialInputBuf rd) (s.readPartialInputBuf rd.good) := by
  constructor
  intro x hx
  unfold DState.readPartialInputBuf at hx ⊢
  simp only [Rd.good_rem, Rd.good_bad] at hx ⊢
  split at hx
  · cases hx
  · cases hx
    simp [Rd.good, hb]

theorem Sim.pureI {β : Type} (x : β) : SimI (Pure.pure x : M β) (Pure.pure x) := Sim.refl _

section
variable {ω : Type} [LzBuf ω]

theorem applySym_sim (s : DState) (w : ω) (rc : RC) (rd : Rd) :
    ∀ sym : RawSym, SimI (s.applySym w rc rd sym) (s.applySym w rc rd.good sym)
  | .lit _ => Sim.refl _
  | .shortRep => Sim.refl _
  | .rep .. => Sim.refl _
  | .mtch .. => Sim.ite
      (fun _ => Sim.bindI (Sim.liftE (isFinishedOk_sim rc rd)) (fun _ => Sim.refl _)
        fun _ => OM.ite (OM.pure _) (OM.throw _))
      fun _ => Sim.refl _

variable [OMBuf ω]

theorem processNext_sim (s : DState) (w : ω) (rc : RC) (rd : Rd) (hb : rd.bad = b) :
    SimG b (s.processNext w rc rd) (s.processNext w rc rd.good) :=
  Sim.bindE (runDec_sim true _ _ _ rd hb)
    (fun x hx => Sim.bindI (applySym_sim _ w x.2.2.1 x.2.2.2 x.1) (fun _ => Sim.pure hx)
      fun _ => OM.pure _)
    (OM.processNext s w rc rd.good)

theorem processLoop_sim (mode : DState.Mode) (fuel : Nat) : ∀ (s : DState) (w : ω) (rc : RC) (rd : Rd),
    rd.bad = b →
    SimG b (DState.processLoop mode fuel s w rc rd) (DState.processLoop mode fuel s w rc rd.good) := by
  induction fuel with
  | zero => exact fun _ _ _ _ _ => Sim.throw _
  | succ n ih =>
    intro s w rc rd hb
    refine Sim.bindE (g := id) (P := fun _ => True) ?_ (fun stop _ =>
      Sim.ite (fun _ => Sim.pure (g := Gd.gd) hb) fun _ => Sim.ite (fun _ => ?_) fun _ => ?_)
      (OM.processLoop mode (n + 1) s w rc rd.good)
    · split
      · exact SimE.refl _
      · split
        · exact SimE.bindI (isEof_sim rd) fun _ => SimE.refl _
        · exact SimE.bindI (isFinishedOk_sim rc rd) fun _ => SimE.refl _
    · -- `process_next` runs on the private reader `Rd.ofBytes partialBuf` (`bad = false`), the same
      -- on both sides: `Sim.refl`
      exact Sim.bindG (Sim.liftE (readPartialInputBuf_sim s rd hb))
        (fun x hx => Sim.ite (fun _ => Sim.pure hx) fun _ =>
          Sim.bindI (Sim.refl _) (fun _ => Sim.ite (fun _ => Sim.pure hx) fun _ => ih _ _ _ _ hx)
            fun _ => OM.ite (OM.pure _) (OM.processLoop ..))
        fun _ => OM.ite (OM.pure _) <| OM.bind (OM.processNext ..) fun _ =>
          OM.ite (OM.pure _) (OM.processLoop ..)
    · exact Sim.bindI (Sim.liftE (fillBuf_sim rd))
        (fun _ => Sim.ite
          (fun _ => Sim.bindG (Sim.liftE (readPartialInputBuf_sim s rd hb)) (fun _ hx => Sim.pure hx)
            fun _ => OM.pure _)
          fun _ => Sim.bindG (processNext_sim s w rc rd hb)
            (fun _ hy => Sim.ite (fun _ => Sim.pure hy) fun _ => ih _ _ _ _ hy)
            fun _ => OM.ite (OM.pure _) (OM.processLoop ..))
        fun _ => OM.ite (OM.bind (OM.liftE _) fun _ => OM.pure _) <|
          OM.bind (OM.processNext ..) fun _ => OM.ite (OM.pure _) (OM.processLoop ..)

theorem loopFuel_good (s : DState) (rd : Rd) : DState.loopFuel s rd.good = DState.loopFuel s rd := by
  unfold DState.loopFuel; rw [Rd.good_rem]

theorem processMode_sim (mode : DState.Mode) (s : DState) (w : ω) (rc : RC) (rd : Rd) (hb : rd.bad = b) :
    SimG b (s.processMode mode w rc rd) (s.processMode mode w rc rd.good) := by
  unfold DState.processMode
  rw [loopFuel_good]
  generalize DState.loopFuel s rd = fuel
  refine Sim.bindG (processLoop_sim mode fuel s w rc rd hb) (fun x hx => ?_) fun x => ?_
  · obtain ⟨s1, w1, rc1, rd1⟩ := x
    dsimp only [gd_pair, gd_rd]
    rcases s1.unpackedSize with _ | n
    · exact Sim.pure hx
    · exact Sim.ite (fun _ => Sim.throw _) fun _ => Sim.pure hx
  · obtain ⟨s1, w1, rc1, rd1⟩ := x
    dsimp only
    rcases s1.unpackedSize with _ | n
    · exact OM.pure _
    · exact OM.ite (OM.throw _) (OM.pure _)

end

/-! ## LZMA -/

theorem readHeader_sim (rd : Rd) (opts : Options) (hb : rd.bad = b) :
    SimEG b (readHeader rd opts) (readHeader rd.good opts) := by
  refine SimE.bindG (SimE.hdrErr (readU8_sim rd hb)) fun _ hx => SimE.guard fun _ =>
    SimE.bindG (SimE.hdrErr (readU32LE_sim _ hx)) fun _ hy => ?_
  rcases opts.unpackedSize with _ | _ | _
  · exact SimE.bindG (SimE.hdrErr (readU64LE_sim _ hy)) fun _ hu =>
      SimE.bindG (SimE.pure hu) fun _ hv => SimE.pure hv
  · exact SimE.bindG (SimE.hdrErr (readU64LE_sim _ hy)) fun _ hu =>
      SimE.bindG (SimE.pure hu) fun _ hv => SimE.pure hv
  · exact SimE.bindG (SimE.pure hy) fun _ hv => SimE.pure hv

theorem lzmaDecoder_decompress_sim (d : LzmaDecoder) (rd : Rd) (hb : rd.bad = b) :
    SimG b (d.decompress rd) (d.decompress rd.good) := by
  refine Sim.bindE (g := Gd.gd) (P := Gd.fl b) ⟨fun x hx => ?_⟩
    (fun x hx => Sim.bindG (processMode_sim .finish d.state _ x.1 x.2 hx)
      (fun _ hy => Sim.bindI (Sim.refl _) (fun _ => Sim.pure hy) fun _ => OM.pure _)
      fun _ => OM.bind (OM.circ_finish _) fun _ => OM.pure _)
    (OM.lzmaDecoder_decompress d rd.good)
  -- `RC.new` with its error remapped to `LzmaError`
  split at hx
  · rename_i y hy
    cases hx
    have h := (rcNew_sim rd hb).ok_of_ok _ hy
    rw [h.1]
    exact ⟨rfl, h.2⟩
  · cases hx

theorem lzmaDecompress_sim (rd : Rd) (opts : Options) (hb : rd.bad = b) :
    SimG b (lzmaDecompress rd opts) (lzmaDecompress rd.good opts) :=
  Sim.bindE (readHeader_sim rd opts hb)
    (fun _ hx => Sim.bindI (Sim.refl _)
      (fun _ => Sim.bindG (lzmaDecoder_decompress_sim _ _ hx) (fun _ hy => Sim.pure hy)
        fun _ => OM.pure _)
      fun _ => OM.bind (OM.lzmaDecoder_decompress ..) fun _ => OM.pure _)
    (OM.lzmaDecompress rd.good opts)

/-! ## LZMA2 -/

theorem parseUncompressed_sim (accum : Accum) (rd : Rd) (resetDict : Bool) (hb : rd.bad = b) :
    SimG b (Lzma2Decoder.parseUncompressed accum rd resetDict)
      (Lzma2Decoder.parseUncompressed accum rd.good resetDict) :=
  Sim.bindE (SimE.lzErr (readU16BE_sim rd hb))
    (fun _ hx => Sim.ite
      (fun _ => Sim.bindI (Sim.refl _)
        (fun _ => Sim.bindE (SimE.lzErr (readExact_sim _ _ hx)) (fun _ hy => Sim.pure hy)
          (OM.bind (OM.liftE _) fun _ => OM.pure _))
        fun _ => OM.bind (OM.liftE _) fun _ => OM.pure _)
      fun _ => Sim.bindI (Sim.refl _)
        (fun _ => Sim.bindE (SimE.lzErr (readExact_sim _ _ hx)) (fun _ hy => Sim.pure hy)
          (OM.bind (OM.liftE _) fun _ => OM.pure _))
        fun _ => OM.bind (OM.liftE _) fun _ => OM.pure _)
    (OM.parseUncompressed accum rd.good resetDict)

section lzma2
open Lzma2Decoder
theorem lzma2PropsStage_sim (d : Lzma2Decoder) (rd : Rd) (cls : Nat) (hb : rd.bad = b) :
    SimEG b (lzma2PropsStage d rd cls) (lzma2PropsStage d rd.good cls) :=
  SimE.ite
    (fun _ => SimE.bindG
      (SimE.ite
        (fun _ => SimE.bindG (SimE.lzErr (readU8_sim rd hb)) fun _ hy =>
          SimE.ite (fun _ => SimE.throw _ _) fun _ => SimE.ite (fun _ => SimE.throw _ _) fun _ =>
          SimE.pure hy)
        fun _ => SimE.pure hb)
      fun _ hx => SimE.bindI (SimE.refl _) fun _ => SimE.pure hx)
    fun _ => SimE.pure hb

/-- the payload is decoded from a sub-reader with a flag of its own; the reader handed back is the
outer one -/
theorem lzma2Payload_sim (st : DState) (a0 : Accum) (rd : Rd) (k : Nat) (hb : rd.bad = b) :
    SimG b (lzma2Payload st a0 rd k) (lzma2Payload st a0 rd.good k) :=
  Sim.bindE (SimE.lzErr (rcNew_sim _ rfl))
    (fun x hx => Sim.bindG (processMode_sim .finish st a0 x.1 x.2 hx)
      (fun _ _ => Sim.liftE <| SimE.bindI (isFinishedOk_sim _ _) fun _ =>
        SimE.ite (fun _ => SimE.throw _ _) fun _ => SimE.pure hb)
      fun _ => OM.liftE _)
    (OM.lzma2Payload st a0 rd.good k)

theorem parseLzma_sim (d : Lzma2Decoder) (accum : Accum) (rd : Rd) (status : Nat) (hb : rd.bad = b) :
    SimG b (d.parseLzma accum rd status) (d.parseLzma accum rd.good status) := by
  rw [parseLzma_eq_M, parseLzma_eq_M]
  have props {y : Nat × Rd} {a0 : Accum} {n : Nat} : OM (liftE (lzma2PropsStage d y.2 ((status >>> 5) &&& 0x3)) >>=
      fun z => lzma2Payload (z.1.setUnpackedSize (some (n + a0.len))) a0 z.2 (y.1 + 1)) :=
    OM.bind (OM.liftE _) fun _ => OM.lzma2Payload ..
  exact Sim.ite (fun _ => Sim.throw _) fun _ =>
    Sim.bindE (SimE.lzErr (readU16BE_sim rd hb))
      (fun _ hx => Sim.bindE (SimE.lzErr (readU16BE_sim _ hx))
        (fun _ hy => Sim.bindI (Sim.refl _)
          (fun _ => Sim.bindE (lzma2PropsStage_sim d _ _ hy) (fun _ hz => lzma2Payload_sim _ _ _ _ hz) props)
          fun _ => props)
        (OM.bind (OM.liftE _) fun _ => OM.bind (OM.ite (OM.accum_reset _) (OM.pure _)) fun _ => props))
      (OM.bind (OM.liftE _) fun _ => OM.bind (OM.liftE _) fun _ =>
        OM.bind (OM.ite (OM.accum_reset _) (OM.pure _)) fun _ => props)

theorem chunkLoop_sim (fuel : Nat) : ∀ (d : Lzma2Decoder) (accum : Accum) (rd : Rd), rd.bad = b →
    SimG b (chunkLoop fuel d accum rd) (chunkLoop fuel d accum rd.good) := by
  induction fuel with
  | zero => exact fun _ _ _ _ => Sim.throw _
  | succ n ih =>
    intro d accum rd hb
    have unc (rst : Bool) {x : UInt8 × Rd} (hx : Gd.fl b x) :=
      Sim.bindG (parseUncompressed_sim accum x.2 rst hx) (fun y hy => ih d y.1 y.2 hy)
        fun y => OM.chunkLoop n d y.1 y.2
    exact Sim.bindE (SimE.lzErr (readU8_sim rd hb))
      (fun _ hx => Sim.ite (fun _ => Sim.pure hx) fun _ => Sim.ite (fun _ => unc true hx) fun _ =>
        Sim.ite (fun _ => unc false hx) fun _ =>
          Sim.bindG (parseLzma_sim _ _ _ _ hx) (fun _ hy => ih _ _ _ hy) fun _ => OM.chunkLoop ..)
      (OM.chunkLoop (n + 1) d accum rd.good)

theorem lzma2Decoder_decompress_sim (d : Lzma2Decoder) (rd : Rd) (hb : rd.bad = b) :
    SimG b (d.decompress rd) (d.decompress rd.good) :=
  Sim.bindG (chunkLoop_sim _ d _ rd hb)
    (fun _ hx => Sim.bindI (Sim.refl _) (fun _ => Sim.pure hx) fun _ => OM.pure _)
    fun _ => OM.bind (OM.accum_finish _) fun _ => OM.pure _

theorem lzma2Decompress_sim (rd : Rd) (hb : rd.bad = b) :
    SimG b (lzma2Decompress rd) (lzma2Decompress rd.good) :=
  Sim.bindI (Sim.refl _)
    (fun d => Sim.bindG (lzma2Decoder_decompress_sim d rd hb) (fun _ hy => Sim.pure hy)
      fun _ => OM.pure _)
    fun _ => OM.bind (OM.lzma2Decoder_decompress ..) fun _ => OM.pure _

end lzma2

/-! ## XZ -/

theorem parseStreamHeader_sim (rd : Rd) (hb : rd.bad = b) :
    SimEG b (parseStreamHeader rd) (parseStreamHeader rd.good) :=
  SimE.bindG (readTag_sim rd _ hb) fun _ hx => SimE.guard fun _ =>
  SimE.bindG (readExact_sim _ 2 hx) fun _ hy => SimE.bindG (readU32LE_sim _ hy) fun _ hz =>
  SimE.guard fun _ => SimE.bindI (SimE.refl _) fun _ => SimE.pure hz

theorem getMultibyteAux_sim : ∀ (fuel i result : Nat) (acc : Bytes) (rd : Rd), rd.bad = b →
    SimEG b (getMultibyteAux fuel i result acc rd) (getMultibyteAux fuel i result acc rd.good)
  | 0, _, _, _, _, _ => SimE.throw _ _
  | n + 1, _, _, _, rd, hb => SimE.bindG (readU8_sim rd hb) fun _ hx =>
      SimE.ite (fun _ => SimE.pure hx) fun _ => getMultibyteAux_sim n _ _ _ _ hx

theorem getMultibyte_sim (rd : Rd) (hb : rd.bad = b) :
    SimEG b (getMultibyte rd) (getMultibyte rd.good) := getMultibyteAux_sim 9 0 0 [] rd hb

theorem readZeroBytes_sim : ∀ (n : Nat) (acc : Bytes) (rd : Rd), rd.bad = b →
    SimEG b (readZeroBytes n acc rd) (readZeroBytes n acc rd.good)
  | 0, _, _, hb => SimE.pure hb
  | n + 1, _, rd, hb => SimE.bindG (readU8_sim rd hb) fun _ hx => SimE.guard fun _ =>
      readZeroBytes_sim n _ _ hx

theorem checkRecords_sim : ∀ (rs : List Record) (dig : Bytes) (rd : Rd), rd.bad = b →
    SimEG b (checkRecords rs dig rd) (checkRecords rs dig rd.good)
  | [], _, _, hb => SimE.pure hb
  | _ :: rs, _, rd, hb => SimE.bindG (getMultibyte_sim rd hb) fun _ hx => SimE.guard fun _ =>
      SimE.bindG (getMultibyte_sim _ hx) fun _ hy => SimE.guard fun _ => checkRecords_sim rs _ _ hy

theorem checkIndex_sim (start : Nat) (records : List Record) (rd : Rd) (hb : rd.bad = b) :
    SimEG b (checkIndex start records rd) (checkIndex start records rd.good) :=
  SimE.bindG (getMultibyte_sim rd hb) fun _ hx => SimE.guard fun _ =>
  SimE.bindG (checkRecords_sim _ _ _ hx) fun _ hy => SimE.bindG (readZeroBytes_sim _ _ _ hy) fun _ hz =>
  SimE.bindG (readU32LE_sim _ hz) fun _ hw => SimE.guard fun _ => SimE.pure hw

theorem readFilters_sim : ∀ (n hs : Nat) (acc : List Filter) (rd : Rd), rd.bad = b →
    SimEG b (readFilters n hs acc rd) (readFilters n hs acc rd.good)
  | 0, _, _, _, hb => SimE.pure hb
  | n + 1, _, _, rd, hb => SimE.bindG (getMultibyte_sim rd hb) fun _ hx => SimE.guard fun _ =>
      SimE.bindG (getMultibyte_sim _ hx) fun y hy => SimE.guard fun _ => by
        -- the properties are read with the I/O error remapped to `XzError`
        obtain ⟨sz, bs, r⟩ := y
        constructor
        intro x hx
        dsimp only [gd_pair, gd_rd] at hx ⊢
        split at hx
        · rename_i z hz
          obtain ⟨e1, p⟩ := (readExact_sim r sz hy).ok_of_ok z hz
          rw [e1]
          exact (SimE.bindG (SimE.pure p) fun _ hq => readFilters_sim n _ _ _ hq).ok_of_ok x hx
        · cases hx

theorem readBlockHeader_sim (rd : Rd) (hs : Nat) (hb : rd.bad = b) :
    SimEG b (readBlockHeader rd hs) (readBlockHeader rd.good hs) :=
  -- an optional size field, followed by the rest `k` of the header
  have opt {c : Prop} [Decidable c] {r : Rd} (hr : r.bad = b)
      {kb kg : Option Nat × Rd → Except Err (BlockHeader × Rd)}
      (hk : ∀ x, Gd.fl b x → SimEG b (kb x) (kg (Gd.gd x))) :
      SimEG b
        (if c then getMultibyte r >>= fun v => pure (some v.1, v.2.2) >>= kb else pure (none, r) >>= kb)
        (if c then getMultibyte r.good >>= fun v => pure (some v.1, v.2.2) >>= kg
          else pure (none, r.good) >>= kg) :=
    SimE.ite (fun _ => SimE.bindG (getMultibyte_sim r hr) fun _ hv => SimE.bindG (SimE.pure hv) hk)
      fun _ => SimE.bindG (SimE.pure hr) hk
  SimE.bindG (readU8_sim rd hb) fun _ hx => SimE.guard fun _ => opt hx fun _ hp => opt hp fun _ hu =>
    SimE.bindG (readFilters_sim _ _ _ _ hu) fun _ hf =>
    SimE.bindG (flushZeroPadding_sim _ hf) fun _ hz => SimE.guard fun _ => SimE.pure hz

theorem validateBlockCheck_sim (rd : Rd) (buf : Bytes) (hb : rd.bad = b) :
    ∀ c : CheckMethod, SimEG b (validateBlockCheck rd buf c) (validateBlockCheck rd.good buf c)
  | .none => SimE.pure hb
  | .crc32 => SimE.bindG (readU32LE_sim rd hb) fun _ hx => SimE.guard fun _ => SimE.pure hx
  | .crc64 => SimE.bindG (readU64LE_sim rd hb) fun _ hx => SimE.guard fun _ => SimE.pure hx
  | .sha256 => SimE.throw _ _

theorem decodeFilter_sim (rd : Rd) (f : Filter) (hb : rd.bad = b) :
    SimEG b (decodeFilter rd f) (decodeFilter rd.good f) := by
  unfold decodeFilter
  dsimp only
  split
  · constructor; intro x hx; cases hx
  apply SimE.bindI (SimE.refl _); intro d
  have h := lzma2Decoder_decompress_sim d rd hb
  constructor
  intro x hx
  split at hx
  · rename_i snk d' rd' heq
    obtain ⟨e1, p⟩ := h.ok heq
    have hxy := Except.ok.inj hx
    subst hxy
    simp only [gd_pair, gd_rd, fl_pair, fl_rd] at e1 p
    rw [e1]
    exact ⟨rfl, p⟩
  · cases hx

theorem readBlockFilters_sim (bh : BlockHeader) (rd : Rd) (hb : rd.bad = b) :
    SimEG b (readBlockFilters bh rd) (readBlockFilters bh rd.good) := by
  unfold readBlockFilters
  rcases bh.filters with _ | ⟨f, fs⟩
  · exact SimE.pure hb
  · refine SimE.bindG (decodeFilter_sim rd f hb) fun _ hx => ?_
    rcases bh.packedSize with _ | e
    · exact SimE.bindI (SimE.refl _) fun _ => SimE.pure hx
    · exact SimE.guard fun _ => SimE.bindI (SimE.refl _) fun _ => SimE.pure hx

theorem readBlockTail_sim (start : Nat) (rd : Rd) (tmpbuf : Bytes) (check : CheckMethod) (hb : rd.bad = b) :
    SimG b (readBlockTail start rd tmpbuf check) (readBlockTail start rd.good tmpbuf check) :=
  have rest {r : Rd} : OM (writeAll tmpbuf.toArray >>= fun _ =>
      liftE (subChk "read_block: count - padding_size" (start - r.rem.length)
        (paddingSize (start - rd.rem.length))) >>= fun u =>
      pure (({ unpaddedSize := u, unpackedSize := tmpbuf.length } : Record), r)) :=
    OM.bind (OM.writeAll _) fun _ => OM.bind (OM.liftE _) fun _ => OM.pure _
  Sim.bindE (readZeroBytes_sim _ _ rd hb)
    (fun _ hx => Sim.bindE (validateBlockCheck_sim _ _ hx _)
      (fun _ hr => Sim.bindI (Sim.refl _)
        (fun _ => Sim.bindI (Sim.refl _) (fun _ => Sim.pure hr) fun _ => OM.pure _)
        fun _ => OM.bind (OM.liftE _) fun _ => OM.pure _)
      (OM.bind (OM.liftE _) fun _ => rest))
    (OM.readBlockTail start rd.good tmpbuf check)

theorem blockDataStage_sim (rd : Rd) (hsByte : UInt8) (hb : rd.bad = b) :
    SimEG b (blockDataStage rd hsByte) (blockDataStage rd.good hsByte) :=
  -- `(rd.good.split n).1` is `(rd.split n).1.good` and `rd.good.unsplit r.good rest` is
  -- `(rd.unsplit r rest).good`, both by unfolding; the header is read from the `take`n sub-reader,
  -- whose own flag (`rfl`) is not the outer `b`
  SimE.bindI (SimE.refl _) fun n =>
  SimE.bindG (readBlockHeader_sim _ n rfl) fun x _ =>
  SimE.bindG (readU32LE_sim _ hb) fun y hy =>
  SimE.ite (fun _ => SimE.throw _ _) fun _ =>
  SimE.bindG (readBlockFilters_sim x.1 y.2 hy) fun _ hz => SimE.pure hz

theorem blockWriteStage_sim (start : Nat) (check : CheckMethod) (p : BlockHeader × Bytes × Rd)
    (hp : Gd.fl b p) : SimG b (blockWriteStage start check p) (blockWriteStage start check (Gd.gd p)) := by
  obtain ⟨bh, buf, r⟩ := p
  unfold blockWriteStage
  dsimp only [gd_pair, gd_rd]
  cases bh.unpackedSize with
  | none => exact readBlockTail_sim _ _ _ _ hp
  | some e => exact Sim.ite (fun _ => Sim.throw _) fun _ => readBlockTail_sim _ _ _ _ hp

theorem readBlock_sim (start : Nat) (rd : Rd) (check : CheckMethod) (hsByte : UInt8) (hb : rd.bad = b) :
    SimG b (readBlock start rd check hsByte) (readBlock start rd.good check hsByte) := by
  rw [readBlock_eq, readBlock_eq]
  exact Sim.bindG (Sim.liftE (blockDataStage_sim rd hsByte hb)) (blockWriteStage_sim start check)
    fun _ => OM.blockWriteStage _ _ _

theorem blockLoop_sim (check : CheckMethod) (fuel : Nat) : ∀ (records : List Record) (rd : Rd), rd.bad = b →
    SimG b (blockLoop check fuel records rd) (blockLoop check fuel records rd.good) := by
  induction fuel with
  | zero => exact fun _ _ _ => Sim.throw _
  | succ n ih =>
    exact fun records rd hb => Sim.bindE (readU8_sim rd hb)
      (fun _ hx => Sim.ite
        (fun _ => Sim.bindE (checkIndex_sim _ _ _ hx) (fun _ hr => Sim.pure hr)
          (OM.bind (OM.liftE _) fun _ => OM.pure _))
        fun _ => Sim.bindG (readBlock_sim _ _ _ _ hx) (fun _ hy => ih _ _ hy) fun _ => OM.blockLoop ..)
      (OM.blockLoop check (n + 1) records rd.good)

theorem xzFooterStage_sim (check : CheckMethod) (n : Nat) (rd : Rd) (hb : rd.bad = b) :
    SimEG b (xzFooterStage check n rd) (xzFooterStage check n rd.good) :=
  SimE.bindG (readU32LE_sim rd hb) fun _ hx =>
  SimE.bindG (readExact_sim _ 4 hx) fun _ hy =>
  SimE.ite (fun _ => SimE.throw _ _) fun _ =>
  SimE.bindG (readExact_sim _ 2 hy) fun _ hz =>
  SimE.bindI (SimE.refl _) fun _ =>
  SimE.ite (fun _ => SimE.throw _ _) fun _ =>
  SimE.ite (fun _ => SimE.throw _ _) fun _ =>
  SimE.bindG (readTag_sim _ _ hz) fun _ ht =>
  SimE.ite (fun _ => SimE.throw _ _) fun _ => SimE.pure ht

theorem xzEndStage_sim (rd : Rd) (hb : rd.bad = b) : SimEG b (xzEndStage rd) (xzEndStage rd.good) :=
  SimE.bindI (isEof_sim rd) fun _ => SimE.ite (fun _ => SimE.throw _ _) fun _ => SimE.pure hb

theorem xzBodyStage_sim (x : CheckMethod × Rd) (hx : Gd.fl b x) :
    SimG b (xzBodyStage x) (xzBodyStage (Gd.gd x)) :=
  Sim.ite (fun _ => Sim.throw _) fun _ =>
    Sim.bindG (blockLoop_sim _ _ _ _ hx)
      (fun _ hy => Sim.liftE (SimE.bindG (xzFooterStage_sim _ _ _ hy) xzEndStage_sim))
      fun _ => OM.liftE _

theorem xzDecompress_sim (rd : Rd) (hb : rd.bad = b) :
    SimG b (xzDecompress rd) (xzDecompress rd.good) := by
  rw [xzDecompress_eq, xzDecompress_eq]
  exact Sim.bindG (Sim.liftE (parseStreamHeader_sim rd hb)) (fun x hx => xzBodyStage_sim x hx)
    fun _ => OM.xzBodyStage _

theorem xzDecompress_no_fault {rd rd' : Rd} {snk snk' : Sink}
    (h : xzDecompress rd snk = (snk', .ok rd')) : rd.bad = false ∧ rd'.rem = [] :=
  have h2 := xzDecompress_post rd h
  ⟨((xzDecompress_sim rd rfl).ok h).2 ▸ h2.2, h2.1⟩

end

end SF
end Lzma
