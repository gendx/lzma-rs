/-
  Lemmas about the LZ windows of `LzmaModel/Window.lean`
  (`Circ` = Rust `LzCircularBuffer`, `Accum` = Rust `LzAccumBuffer`).

  Ghost state: the *history* `H : Bytes` = every byte appended so far.
  `CircInv w H` ties the concrete circular window to `H`; all operations are
  then characterised as functions of `H` alone (plus `dictSize`/`memlimit`).
  `Sink.after` (closed form of the sink after the history grew; for a sink that is `Sink.Perfect`,
  `Lemmas/SinkCalls.lean`) is defined here; `lzCopy` is the format's meaning of a match; `idealOps`/`idealPrefix`/`idealRunM`
  are the list semantics of an op sequence (plain, up to the first rejection, with the memory limit).
  Used by C09 and C10 directly, by `MemLimit`, and — through `StreamEq.HistInv`/`HistGe` at the end of
  the file (window and sink together hold the output so far) — by C08 and `StreamProgress`.
-/
import LzmaProofs.Lemmas.SinkCalls
namespace Lzma

/-! ## Arithmetic with a variable modulus -/

theorem mod_ne_of_lt_lt {p L d : Nat} (h1 : p < L) (h2 : L < p + d) : p % d ≠ L % d := by
  intro h
  have := Nat.sub_mod_eq_zero_of_mod_eq h.symm
  rw [Nat.mod_eq_of_lt (by omega)] at this
  omega

theorem succ_mod_eq {L d : Nat} (hd : 0 < d) :
    (L + 1) % d = if L % d + 1 = d then 0 else L % d + 1 := by
  have h := Nat.div_add_mod L d
  have hlt := Nat.mod_lt L hd
  split
  · next he =>
    have : L + 1 = d * (L / d + 1) := by rw [Nat.mul_add]; omega
    rw [this]; simp
  · next hne =>
    have : L + 1 = d * (L / d) + (L % d + 1) := by omega
    rw [this, Nat.mul_add_mod, Nat.mod_eq_of_lt (by omega)]

theorem succ_div_eq {L d : Nat} (hd : 0 < d) :
    (L + 1) / d = L / d + if L % d + 1 = d then 1 else 0 := by
  rw [Nat.succ_div]
  have := succ_mod_eq (L := L) hd
  have hlt := Nat.mod_lt L hd
  congr 1
  by_cases he : L % d + 1 = d
  · rw [if_pos he] at this; rw [if_pos he, if_pos (Nat.dvd_of_mod_eq_zero this)]
  · rw [if_neg he] at this
    rw [if_neg he, if_neg]
    intro hdvd
    have := Nat.mod_eq_zero_of_dvd hdvd
    omega

/-- the read offset computed by `lastN`/`appendLz` is the residue of the absolute position -/
theorem offset_eq {L d dist : Nat} (h1 : dist ≤ d) (h2 : dist ≤ L) :
    (d + L % d - dist) % d = (L - dist) % d := by
  have h := Nat.div_add_mod L d
  have e : L - dist + d = d * (L / d) + (d + L % d - dist) := by omega
  rw [← Nat.add_mod_right (L - dist) d, e, Nat.mul_add_mod]

theorem base_add_mod {base d i : Nat} (hb : d ∣ base) (hi : i < d) : (base + i) % d = i := by
  obtain ⟨k, rfl⟩ := hb
  rw [Nat.mul_add_mod, Nat.mod_eq_of_lt hi]

/-- number of bytes already handed to the sink by full-lap flushes -/
def flushedLen (d L : Nat) : Nat := L - L % d

theorem flushedLen_eq (d L : Nat) : flushedLen d L = d * (L / d) := by
  have := Nat.div_add_mod L d
  unfold flushedLen; omega

theorem dvd_flushedLen (d L : Nat) : d ∣ flushedLen d L := ⟨L / d, flushedLen_eq d L⟩

theorem flushedLen_le (d L : Nat) : flushedLen d L ≤ L := by unfold flushedLen; omega

theorem flushedLen_mono {d L L' : Nat} (h : L ≤ L') : flushedLen d L ≤ flushedLen d L' := by
  rw [flushedLen_eq, flushedLen_eq]
  exact Nat.mul_le_mul_left d (Nat.div_le_div_right h)

theorem flushedLen_succ {d L : Nat} (hd : 0 < d) :
    flushedLen d (L + 1) = if (L + 1) % d = 0 then L + 1 else flushedLen d L := by
  have hm := succ_mod_eq (L := L) hd
  have hlt := Nat.mod_lt L hd
  unfold flushedLen
  by_cases he : L % d + 1 = d
  · rw [if_pos he] at hm; rw [if_pos hm, hm]; rfl
  · rw [if_neg he] at hm; rw [if_neg (by omega), hm]; omega

/-! ## Definitions -/

/-- The format's meaning of a match `(dist, len)`: append, `len` times, the byte at distance
`dist` from the current end (overlap allowed).  Meaningful for `1 ≤ dist ≤ H.length`. -/
def lzCopy (H : Bytes) (dist : Nat) : Nat → Bytes
  | 0 => []
  | n+1 =>
    let x := H[H.length - dist]?.getD 0
    x :: lzCopy (H ++ [x]) dist n

/-- content of the cells: every one of the last `d` positions of the history sits in the cell
given by its residue -/
def Cells (buf : Array UInt8) (d : Nat) (H : Bytes) : Prop :=
  ∀ p, p < H.length → H.length ≤ p + d → buf[p % d]? = H[p]?

/-- The concrete circular window `w` represents the history `H`. -/
structure CircInv (w : Circ) (H : Bytes) : Prop where
  dict_pos : 0 < w.dictSize
  len_eq : w.len = H.length
  cursor_eq : w.cursor = H.length % w.dictSize
  size_eq : w.buf.size = min H.length w.dictSize
  size_le : w.buf.size ≤ w.memlimit
  cells : Cells w.buf w.dictSize H

/-- the last position `p < L` with `p % d = i` (for `i < min L d`) -/
def lastPos (L d i : Nat) : Nat :=
  if i < L % d then L - L % d + i else L - L % d - d + i

/-- The sink after the window went from history `H` to the longer history `H'`:
one raw `write` per completed lap, carrying exactly the bytes of that lap. -/
def Sink.after (s : Sink) (d : Nat) (H H' : Bytes) : Sink :=
  { s with
    out := s.out ++ ((H'.take (flushedLen d H'.length)).drop (flushedLen d H.length)).toArray
    writes := s.writes + (H'.length / d - H.length / d)
    lastFlush := s.lastFlush && decide (H'.length / d = H.length / d) }

/-- window operations issued by the symbol decoder -/
inductive WinOp where
  | lit (b : UInt8)
  | lz (len dist : Nat)
  deriving Repr, DecidableEq

/-- bytes an operation produces when it is accepted -/
def WinOp.outLen : WinOp → Nat
  | .lit _ => 1
  | .lz len _ => len

def Circ.runOps : List WinOp → Circ → M Circ
  | [], w => pure w
  | .lit b :: r, w => do
    let w ← w.appendLiteral b
    runOps r w
  | .lz len dist :: r, w => do
    let w ← w.appendLz len dist
    runOps r w

/-- ideal semantics on plain lists: the only way to fail is a match reaching outside the
produced history or the dictionary -/
def idealOps (d : Nat) : List WinOp → Bytes → Option Bytes
  | [], H => some H
  | .lit b :: r, H => idealOps d r (H ++ [b])
  | .lz len dist :: r, H =>
    if 1 ≤ dist ∧ dist ≤ min H.length d then idealOps d r (H ++ lzCopy H dist len) else none

/-- the history produced up to the end, or up to the first op `idealOps` rejects -/
def idealPrefix (d : Nat) : List WinOp → Bytes → Bytes
  | [], H => H
  | .lit b :: r, H => idealPrefix d r (H ++ [b])
  | .lz len dist :: r, H =>
    if 1 ≤ dist ∧ dist ≤ min H.length d then idealPrefix d r (H ++ lzCopy H dist len) else H

def Circ.runOp : WinOp → Circ → M Circ
  | .lit b, w => w.appendLiteral b
  | .lz len dist, w => w.appendLz len dist

/-- the bytes an accepted operation appends to the history `H` -/
def WinOp.out (H : Bytes) : WinOp → Bytes
  | .lit b => [b]
  | .lz len dist => lzCopy H dist len

/-- the guard of the ideal semantics: a match stays inside the produced history and the
dictionary -/
def WinOp.InWindow (d : Nat) (H : Bytes) : WinOp → Prop
  | .lit _ => True
  | .lz _ dist => 1 ≤ dist ∧ dist ≤ min H.length d

/-- the symbol decoder only issues matches with `dist = rep0 + 1 ≥ 1` -/
def WinOp.Valid : WinOp → Prop
  | .lit _ => True
  | .lz _ dist => 1 ≤ dist

instance : DecidablePred WinOp.Valid := fun op => by
  cases op <;> simp only [WinOp.Valid] <;> infer_instance

instance (d : Nat) (H : Bytes) (op : WinOp) : Decidable (op.InWindow d H) := by
  cases op <;> simp only [WinOp.InWindow] <;> infer_instance

/-- Ideal semantics with the memory limit: an op also needs `min (new length) d ≤ m`.  Returns
the history reached (at the end, or just before the first rejected op) and whether every op was
accepted. -/
def idealRunM (d m : Nat) : List WinOp → Bytes → Bytes × Bool
  | [], H => (H, true)
  | op :: r, H =>
    if op.InWindow d H ∧ min (H.length + op.outLen) d ≤ m then idealRunM d m r (H ++ op.out H)
    else (H, false)

/-- The accumulating window `w` represents the history `H` since the last `reset`. -/
def AccumInv (w : Accum) (H : Bytes) : Prop := w.buf.toList = H ∧ w.len = H.length

/-! ## `lzCopy` -/

@[simp] theorem lzCopy_zero (H : Bytes) (dist : Nat) : lzCopy H dist 0 = [] := rfl

theorem lzCopy_succ (H : Bytes) (dist n : Nat) :
    lzCopy H dist (n + 1) =
      H[H.length - dist]?.getD 0 :: lzCopy (H ++ [H[H.length - dist]?.getD 0]) dist n := rfl

@[simp] theorem length_lzCopy (H : Bytes) (dist n : Nat) : (lzCopy H dist n).length = n := by
  induction n generalizing H with
  | zero => rfl
  | succ n ih => simp [lzCopy_succ, ih]

/-- `n` bytes, each picked by `f` from the history produced so far -/
def copyWith (f : Bytes → UInt8) (H : Bytes) : Nat → Bytes
  | 0 => []
  | n+1 => f H :: copyWith f (H ++ [f H]) n

theorem lzCopy_eq_copyWith (dist : Nat) (H : Bytes) (n : Nat) :
    lzCopy H dist n = copyWith (fun H => H[H.length - dist]?.getD 0) H n := by
  induction n generalizing H with
  | zero => rfl
  | succ n ih => rw [lzCopy_succ, ih]; rfl

/-! ## Cells -/

theorem Cells.snoc {buf buf' : Array UInt8} {d : Nat} {H : Bytes} {b : UInt8} (hc : Cells buf d H)
    (hb : ∀ j, buf'[j]? = if j = H.length % d then some b else buf[j]?) :
    Cells buf' d (H ++ [b]) := by
  intro p hp hw
  simp only [List.length_append, List.length_cons, List.length_nil] at hp hw
  rw [hb]
  by_cases hpl : p = H.length
  · subst hpl; simp
  · rw [if_neg (mod_ne_of_lt_lt (by omega) (by omega)), hc p (by omega) (by omega),
      List.getElem?_append_left (by omega)]

theorem Cells.window {buf : Array UInt8} {d : Nat} {H : Bytes} {base : Nat}
    (hc : Cells buf d H) (hb : d ∣ base) (h1 : base ≤ H.length) (h2 : H.length ≤ base + d) :
    buf.toList.take (H.length - base) = H.drop base := by
  apply List.ext_getElem?
  intro i
  rw [List.getElem?_take, List.getElem?_drop]
  by_cases hi : i < H.length - base
  · rw [if_pos hi, Array.getElem?_toList, ← hc (base + i) (by omega) (by omega),
      base_add_mod hb (by omega)]
  · rw [if_neg hi, List.getElem?_eq_none (by omega)]

/-! ## `Circ`: construction, `set`, `appendLiteral` -/

theorem Circ.fromStream_inv {d : Nat} (m : Nat) (hd : 0 < d) : CircInv (Circ.fromStream d m) [] where
  dict_pos := hd
  len_eq := rfl
  cursor_eq := by simp [Circ.fromStream]
  size_eq := by simp [Circ.fromStream]
  size_le := by simp [Circ.fromStream]
  cells := by intro p hp; simp at hp

theorem CircInv.cursor_lt {w : Circ} {H : Bytes} (h : CircInv w H) : w.cursor < w.dictSize := by
  rw [h.cursor_eq]; exact Nat.mod_lt _ h.dict_pos

theorem CircInv.cases {w : Circ} {H : Bytes} (h : CircInv w H) :
    (H.length < w.dictSize ∧ w.cursor = H.length ∧ w.buf.size = H.length) ∨
    (w.dictSize ≤ H.length ∧ w.buf.size = w.dictSize) := by
  have h1 := h.cursor_eq
  have h2 := h.size_eq
  by_cases hl : H.length < w.dictSize
  · left; rw [Nat.mod_eq_of_lt hl] at h1; omega
  · right; omega

theorem Circ.set_ok {w : Circ} {H : Bytes} (b : UInt8) (h : CircInv w H)
    (hm : min (H.length + 1) w.dictSize ≤ w.memlimit) :
    ∃ buf', w.set w.cursor b = .ok { w with buf := buf' } ∧
      buf'.size = min (H.length + 1) w.dictSize ∧
      ∀ j, buf'[j]? = if j = w.cursor then some b else w.buf[j]? := by
  have hc := h.cursor_lt
  unfold Circ.set
  rcases h.cases with ⟨hl, hcur, hsz⟩ | ⟨hl, hsz⟩
  · simp only [show w.buf.size < w.cursor + 1 by omega, if_true,
      show w.cursor + 1 ≤ w.memlimit by omega]
    refine ⟨_, rfl, ?_, ?_⟩
    · simp; omega
    · intro j
      rw [Array.getElem?_setIfInBounds, Array.getElem?_append, Array.getElem?_replicate]
      simp only [Array.size_append, Array.size_replicate]
      by_cases hj : j = w.cursor
      · subst hj; simp; omega
      · have : ¬ w.cursor = j := fun e => hj e.symm
        simp only [if_neg hj, if_neg this]
        by_cases hj2 : j < w.buf.size
        · simp [hj2]
        · rw [if_neg hj2, if_neg (by omega), Array.getElem?_eq_none (by omega)]
  · simp only [show ¬ w.buf.size < w.cursor + 1 by omega, if_false]
    refine ⟨_, rfl, ?_, ?_⟩
    · simp; omega
    · intro j
      rw [Array.getElem?_setIfInBounds]
      by_cases hj : j = w.cursor
      · subst hj; simp; omega
      · have : ¬ w.cursor = j := fun e => hj e.symm
        simp only [if_neg hj, if_neg this]

theorem Circ.set_fail {w : Circ} {H : Bytes} (b : UInt8) (h : CircInv w H)
    (hm : ¬ min (H.length + 1) w.dictSize ≤ w.memlimit) :
    w.set w.cursor b = .error .lzma := by
  have hc := h.cursor_lt
  unfold Circ.set
  rcases h.cases with ⟨hl, hcur, hsz⟩ | ⟨hl, hsz⟩
  · simp only [show w.buf.size < w.cursor + 1 by omega, if_true,
      show ¬ w.cursor + 1 ≤ w.memlimit by omega, if_false]
  · have := h.size_le; omega

theorem Sink.after_perfect {s : Sink} {d : Nat} {H H' : Bytes} (h : s.Perfect) :
    (s.after d H H').Perfect := h

theorem Sink.after_snoc (s : Sink) {d : Nat} (hd : 0 < d) (H : Bytes) (b : UInt8) :
    s.after d H (H ++ [b]) =
      if (H.length + 1) % d = 0 then
        { s with out := s.out ++ ((H ++ [b]).drop (H.length + 1 - d)).toArray,
                 writes := s.writes + 1, lastFlush := false }
      else s := by
  have hm := succ_mod_eq (L := H.length) hd
  have hdv := succ_div_eq (L := H.length) hd
  have hf := flushedLen_succ (L := H.length) hd
  have hlt := Nat.mod_lt H.length hd
  unfold Sink.after
  simp only [List.length_append, List.length_cons, List.length_nil, Nat.zero_add]
  by_cases he : H.length % d + 1 = d
  · rw [if_pos he] at hm hdv
    rw [if_pos hm] at hf
    rw [if_pos hm, hf, hdv]
    apply Sink.ext' <;> simp
    rw [List.take_of_length_le (by simp)]
    have : flushedLen d H.length = H.length + 1 - d := by unfold flushedLen; omega
    rw [this]
  · rw [if_neg he] at hm hdv
    rw [if_neg (by omega)] at hf
    rw [if_neg (by omega), hf, hdv]
    apply Sink.ext' <;> simp

theorem Circ.appendLiteral_ok {w : Circ} {H : Bytes} {s : Sink} (b : UInt8) (h : CircInv w H)
    (hs : s.Perfect) (hm : min (H.length + 1) w.dictSize ≤ w.memlimit) :
    ∃ w', w.appendLiteral b s = (s.after w.dictSize H (H ++ [b]), .ok w') ∧
      CircInv w' (H ++ [b]) ∧ w'.dictSize = w.dictSize ∧ w'.memlimit = w.memlimit := by
  obtain ⟨buf', hset, hsz, hget⟩ := Circ.set_ok b h hm
  have hd := h.dict_pos
  have hcells : Cells buf' w.dictSize (H ++ [b]) :=
    h.cells.snoc (by rw [← h.cursor_eq]; exact hget)
  have hmod := succ_mod_eq (L := H.length) hd
  have hle := Nat.mod_le H.length w.dictSize
  -- the window after the step, with the new cursor `c`
  have hinv : ∀ c, c = (H.length + 1) % w.dictSize →
      CircInv { w with buf := buf', cursor := c, len := w.len + 1 } (H ++ [b]) := fun c hc =>
    { dict_pos := hd
      len_eq := by simp [h.len_eq]
      cursor_eq := by simp [hc]
      size_eq := by simpa using hsz
      size_le := by simp only [hsz]; simpa using hm
      cells := hcells }
  rw [Sink.after_snoc s hd]
  unfold Circ.appendLiteral
  rw [hset]
  simp only [bind_run, liftE_ok, h.cursor_eq]
  by_cases he : H.length % w.dictSize + 1 = w.dictSize
  · rw [if_pos he] at hmod
    -- a lap is complete: the buffer is full and holds exactly the last `dictSize` bytes
    have hwin := hcells.window (base := H.length + 1 - w.dictSize)
      (Nat.dvd_sub (Nat.dvd_of_mod_eq_zero hmod) (Nat.dvd_refl _)) (by simp) (by simp; omega)
    have hbuf : buf' = ((H ++ [b]).drop (H.length + 1 - w.dictSize)).toArray := by
      rw [← hwin, List.take_of_length_le (by simp; omega)]
    have hne : buf'.isEmpty = false := by
      rw [Array.isEmpty_eq_false_iff]; intro h0; rw [h0] at hsz; simp at hsz; omega
    refine ⟨_, ?_, hinv 0 hmod.symm, rfl, rfl⟩
    simp only [he, if_true, if_pos hmod, bind_run, writeAll_perfect hs hne, pure_run, ← hbuf]
  · rw [if_neg he] at hmod
    refine ⟨_, ?_, hinv _ hmod.symm, rfl, rfl⟩
    simp only [he, if_false, pure_run, if_neg (show ¬ (H.length + 1) % w.dictSize = 0 by omega)]

theorem Circ.appendLiteral_fail {w : Circ} {H : Bytes} (s : Sink) (b : UInt8) (h : CircInv w H)
    (hm : ¬ min (H.length + 1) w.dictSize ≤ w.memlimit) :
    w.appendLiteral b s = (s, .error .lzma) := by
  unfold Circ.appendLiteral
  rw [Circ.set_fail b h hm]
  rfl

/-! ## Reads: `offsetOf`, `get`, `lastN`, `lastOr` -/

/-- For a distance passing the guard, the offset is computed without panic, is in bounds of the
allocated buffer, and the cell holds the byte of the history at that distance: neither the
`unwrap_or(&0)` default nor a stale cell of an earlier lap is observed. -/
theorem Circ.offsetOf_get {w : Circ} {H : Bytes} {dist : Nat} (h : CircInv w H) (h1 : 1 ≤ dist)
    (h2 : dist ≤ w.dictSize) (h3 : dist ≤ H.length) :
    w.offsetOf dist = .ok ((H.length - dist) % w.dictSize) ∧
      (H.length - dist) % w.dictSize < w.buf.size ∧
      w.buf[(H.length - dist) % w.dictSize]? = some (H[H.length - dist]'(by omega)) := by
  have hd := h.dict_pos
  have hcell := h.cells (H.length - dist) (by omega) (by omega)
  rw [List.getElem?_eq_getElem (by omega)] at hcell
  refine ⟨?_, ?_, hcell⟩
  · unfold Circ.offsetOf subChk
    rw [if_pos (by omega)]
    simp only [bind, Except.bind, if_neg (Nat.ne_of_gt hd)]
    rw [h.cursor_eq, offset_eq h2 h3]; rfl
  · by_cases hlt : (H.length - dist) % w.dictSize < w.buf.size
    · exact hlt
    · rw [Array.getElem?_eq_none (by omega)] at hcell
      cases hcell

theorem CircInv.get_mod {w : Circ} {H : Bytes} (h : CircInv w H) {p : Nat} (hp : p < H.length)
    (hw : H.length ≤ p + w.dictSize) : w.get (p % w.dictSize) = H[p]?.getD 0 := by
  unfold Circ.get
  rw [h.cells p hp hw]

theorem Circ.get_eq {w : Circ} {H : Bytes} {dist : Nat} (h : CircInv w H) (h1 : 1 ≤ dist)
    (h2 : dist ≤ w.dictSize) (h3 : dist ≤ H.length) :
    w.get ((H.length - dist) % w.dictSize) = H[H.length - dist]'(by omega) := by
  rw [h.get_mod (by omega) (by omega), List.getElem?_eq_getElem (by omega)]; rfl

/-- the cell under the cursor: the byte `dictSize` back once a lap is complete, the
`unwrap_or(&0)` default before -/
theorem Circ.get_cursor {w : Circ} {H : Bytes} (h : CircInv w H) :
    w.get w.cursor = if w.dictSize ≤ H.length then H[H.length - w.dictSize]?.getD 0 else 0 := by
  rcases h.cases with ⟨hl, hcur, hsz⟩ | ⟨hl, hsz⟩
  · rw [if_neg (by omega)]
    unfold Circ.get
    rw [Array.getElem?_eq_none (by omega)]; rfl
  · have hd := h.dict_pos
    rw [if_pos hl, ← h.get_mod (p := H.length - w.dictSize) (by omega) (by omega), h.cursor_eq]
    conv => lhs; rw [show H.length = H.length - w.dictSize + w.dictSize by omega, Nat.add_mod_right]

theorem Circ.lastN_spec {w : Circ} {H : Bytes} {dist : Nat} (h : CircInv w H) (h1 : 1 ≤ dist) :
    w.lastN dist =
      if hg : dist ≤ w.dictSize ∧ dist ≤ H.length then .ok (H[H.length - dist]'(by omega))
      else .error .lzma := by
  unfold Circ.lastN
  rw [h.len_eq]
  by_cases h2 : dist > w.dictSize
  · rw [if_pos h2, dif_neg (by omega)]
  · rw [if_neg h2]
    by_cases h3 : dist > H.length
    · rw [if_pos h3, dif_neg (by omega)]
    · rw [if_neg h3, dif_pos ⟨by omega, by omega⟩,
        (Circ.offsetOf_get h h1 (by omega) (by omega)).1]
      simp only [bind, Except.bind]
      rw [Circ.get_eq h h1 (by omega) (by omega)]; rfl

theorem Circ.lastOr_spec {w : Circ} {H : Bytes} (b : UInt8) (h : CircInv w H) :
    w.lastOr b = .ok (H.getLast?.getD b) := by
  unfold Circ.lastOr
  rw [h.len_eq]
  by_cases h0 : H.length = 0
  · rw [if_pos h0]
    have : H = [] := List.eq_nil_of_length_eq_zero h0
    subst this; rfl
  · have hd := h.dict_pos
    rw [if_neg h0, (Circ.offsetOf_get h (Nat.le_refl 1) hd (by omega)).1]
    simp only [bind, Except.bind]
    rw [Circ.get_eq h (Nat.le_refl 1) hd (by omega), List.getLast?_eq_getElem?,
      List.getElem?_eq_getElem (by omega)]; rfl

/-! ## Composition of sink effects -/

theorem slice_append {α : Type} (X : List α) {a b c : Nat} (hab : a ≤ b) (hbc : b ≤ c)
    (hc : c ≤ X.length) :
    (X.take b).drop a ++ (X.take c).drop b = (X.take c).drop a := by
  have h1 : X.take b = (X.take c).take b := by rw [List.take_take, Nat.min_eq_left hbc]
  rw [h1]
  conv => rhs; rw [← List.take_append_drop b (X.take c)]
  rw [List.drop_append_of_le_length]
  simp; omega

theorem Sink.after_trans (s : Sink) (d : Nat) {H H' H'' : Bytes} (h1 : H <+: H') (h2 : H' <+: H'') :
    (s.after d H H').after d H' H'' = s.after d H H'' := by
  obtain ⟨X, rfl⟩ := h1
  obtain ⟨Y, rfl⟩ := h2
  have hm1 : H.length / d ≤ (H.length + X.length) / d := Nat.div_le_div_right (by omega)
  have hm2 : (H.length + X.length) / d ≤ (H.length + X.length + Y.length) / d :=
    Nat.div_le_div_right (by omega)
  have hf1 : flushedLen d H.length ≤ flushedLen d (H ++ X).length := flushedLen_mono (by simp)
  have hf2 : flushedLen d (H ++ X).length ≤ flushedLen d (H ++ X ++ Y).length :=
    flushedLen_mono (by simp)
  have hf3 := flushedLen_le d (H ++ X ++ Y).length
  have hf4 := flushedLen_le d (H ++ X).length
  apply Sink.ext'
  · simp only [Sink.after, Array.append_assoc]
    congr 1
    rw [List.append_toArray]
    congr 1
    rw [← slice_append (H ++ X ++ Y) hf1 hf2 hf3]
    congr 2
    rw [List.take_append_of_le_length (l₂ := Y) hf4]
  · rfl
  · simp only [Sink.after, List.length_append]; omega
  · rfl
  · simp only [Sink.after, Bool.and_assoc, List.length_append]
    congr 1
    rw [Bool.eq_iff_iff]
    simp only [Bool.and_eq_true, decide_eq_true_eq]
    omega

theorem Sink.after_self (s : Sink) (d : Nat) (H : Bytes) : s.after d H H = s := by
  apply Sink.ext' <;> simp [Sink.after]

theorem Sink.after_of_lt (s : Sink) {d : Nat} {H H' : Bytes} (h1 : H.length ≤ H'.length)
    (h : H'.length < d) : s.after d H H' = s := by
  have e1 : H'.length / d = 0 := Nat.div_eq_of_lt h
  have e2 : H.length / d = 0 := Nat.div_eq_of_lt (by omega)
  apply Sink.ext' <;> simp [Sink.after, e1, e2, flushedLen_eq]

/-! ## The copy loop and `appendLz` -/

theorem next_offset {L d k : Nat} (hd : 0 < d) (hk : k ≤ L) :
    (if (L - k) % d + 1 = d then 0 else (L - k) % d + 1) = (L + 1 - k) % d := by
  rw [show L + 1 - k = (L - k) + 1 by omega, succ_mod_eq hd]

/-- The copy loop started at the residue of position `|H| - k`, when the read at that residue
always yields `f` of the history (`k = dist ≥ 1`: the byte at that distance; `k = 0`: the cell
under the cursor): it appends `copyWith f H n` if the final allocation fits the limit, and fails
otherwise before anything reaches the sink. -/
theorem Circ.copyLoop_spec {f : Bytes → UInt8} {k d : Nat}
    (hf : ∀ {w : Circ} {H : Bytes}, CircInv w H → w.dictSize = d → k ≤ H.length →
      w.get ((H.length - k) % d) = f H)
    (n : Nat) {w : Circ} {H : Bytes} {s : Sink} (h : CircInv w H) (hs : s.Perfect)
    (hd : w.dictSize = d) (hk : k ≤ H.length) :
    if n = 0 ∨ min (H.length + n) d ≤ w.memlimit then
      ∃ w', Circ.copyLoop n w ((H.length - k) % d) s =
          (s.after d H (H ++ copyWith f H n), .ok w') ∧
        CircInv w' (H ++ copyWith f H n) ∧ w'.dictSize = d ∧ w'.memlimit = w.memlimit
    else Circ.copyLoop n w ((H.length - k) % d) s = (s, .error .lzma) := by
  induction n generalizing w H s with
  | zero =>
    rw [if_pos (Or.inl rfl)]
    exact ⟨w, by simp [Circ.copyLoop, copyWith, Sink.after_self], by simpa [copyWith] using h, hd,
      rfl⟩
  | succ n ih =>
    subst hd
    rw [Circ.copyLoop]
    simp only [bind_run, hf h rfl hk]
    by_cases hm1 : min (H.length + 1) w.dictSize ≤ w.memlimit
    · obtain ⟨w1, hr1, hi1, hd1, hmm1⟩ := Circ.appendLiteral_ok (s := s) (f H) h hs hm1
      have hlen : (H ++ [f H]).length = H.length + 1 := by simp
      have := ih (s := s.after w.dictSize H (H ++ [f H])) hi1 (Sink.after_perfect hs) hd1 (by omega)
      rw [hlen, hmm1] at this
      simp only [hr1, hd1, next_offset h.dict_pos hk]
      by_cases hg : n + 1 = 0 ∨ min (H.length + (n + 1)) w.dictSize ≤ w.memlimit
      · rw [if_pos hg]
        rw [if_pos (by omega)] at this
        obtain ⟨w2, e1, e2, e3, e4⟩ := this
        have hz : H ++ copyWith f H (n + 1) = H ++ [f H] ++ copyWith f (H ++ [f H]) n := by
          simp [copyWith]
        rw [hz]
        exact ⟨w2, by rw [e1, Sink.after_trans _ _ (List.prefix_append _ _) (List.prefix_append _ _)],
          e2, e3, e4⟩
      · rw [if_neg hg]
        rw [if_neg (by omega)] at this
        rw [this, Sink.after_of_lt s (by simp) (by rw [hlen]; omega)]
    · rw [if_neg (by omega)]
      simp only [Circ.appendLiteral_fail s _ h hm1]

/-- success of an operation specified in the `if` form is its guard -/
theorem ok_iff_of_spec {α : Type} {c : Prop} [Decidable c] {r : Sink × Except Err α} {s s1 : Sink}
    {e : Err} {P : α → Prop} (h : if c then ∃ a, r = (s1, .ok a) ∧ P a else r = (s, .error e)) :
    (∃ s' a, r = (s', .ok a)) ↔ c := by
  by_cases hc : c
  · rw [if_pos hc] at h
    obtain ⟨a, rfl, -⟩ := h
    exact ⟨fun _ => hc, fun _ => ⟨_, a, rfl⟩⟩
  · rw [if_neg hc] at h
    subst h
    exact ⟨fun ⟨_, _, h⟩ => (nomatch h), fun h => absurd h hc⟩

theorem Circ.appendLz_spec {w : Circ} {H : Bytes} {s : Sink} (len : Nat) {dist : Nat}
    (h : CircInv w H) (hs : s.Perfect) (h1 : 1 ≤ dist) :
    if dist ≤ w.dictSize ∧ dist ≤ H.length ∧
        (len = 0 ∨ min (H.length + len) w.dictSize ≤ w.memlimit) then
      ∃ w', w.appendLz len dist s =
          (s.after w.dictSize H (H ++ lzCopy H dist len), .ok w') ∧
        CircInv w' (H ++ lzCopy H dist len) ∧ w'.dictSize = w.dictSize ∧
        w'.memlimit = w.memlimit
    else w.appendLz len dist s = (s, .error .lzma) := by
  unfold Circ.appendLz
  rw [h.len_eq, lzCopy_eq_copyWith]
  by_cases h2 : dist > w.dictSize
  · rw [if_neg (by omega), if_pos h2]; rfl
  · rw [if_neg h2]
    by_cases h3 : dist > H.length
    · rw [if_neg (by omega), if_pos h3]; rfl
    · rw [if_neg h3]
      simp only [bind_run, (Circ.offsetOf_get h h1 (by omega) (by omega)).1, liftE_ok]
      have hc := Circ.copyLoop_spec (k := dist) (f := fun H => H[H.length - dist]?.getD 0)
        (fun h' hd' hk' => by rw [← hd']; exact h'.get_mod (by omega) (by omega)) len h hs rfl
        (by omega)
      by_cases hm : len = 0 ∨ min (H.length + len) w.dictSize ≤ w.memlimit
      · rw [if_pos ⟨by omega, by omega, hm⟩]; rw [if_pos hm] at hc; exact hc
      · rw [if_neg (fun hh => hm hh.2.2)]; rw [if_neg hm] at hc; exact hc

/-! ## `finish` -/

theorem Circ.finish_spec {w : Circ} {H : Bytes} {s0 s : Sink} (h : CircInv w H) (hs : s.Perfect)
    (hout : s.out = s0.out ++ (H.take (flushedLen w.dictSize H.length)).toArray) :
    ∃ s', w.finish s = (s', .ok ()) ∧ s'.Perfect ∧ s'.out = s0.out ++ H.toArray ∧
      s'.lastFlush = true := by
  have hs' : s.script = [] := hs
  have hwin := h.cells.window (dvd_flushedLen w.dictSize H.length) (flushedLen_le _ _)
    (by have := Nat.mod_lt H.length h.dict_pos; unfold flushedLen; omega)
  have hk : H.length - flushedLen w.dictSize H.length = w.cursor := by
    rw [h.cursor_eq]; unfold flushedLen; have := Nat.mod_le H.length w.dictSize; omega
  rw [hk] at hwin
  have hcb : w.cursor ≤ w.buf.size := by
    rcases h.cases with ⟨hl, hcur, hsz⟩ | ⟨hl, hsz⟩
    · omega
    · have := h.cursor_lt; omega
  unfold Circ.finish
  by_cases hc : w.cursor > 0
  · have hne : (w.buf.extract 0 w.cursor).isEmpty = false := by
      rw [Array.isEmpty_eq_false_iff]; intro h0
      have : (w.buf.extract 0 w.cursor).size = 0 := by rw [h0]; rfl
      rw [Array.size_extract] at this; omega
    have hex : w.buf.extract 0 w.cursor = (H.drop (flushedLen w.dictSize H.length)).toArray := by
      rw [← hwin]; apply Array.ext'; simp
    rw [if_pos hc, if_pos hcb, bind_run, writeAll_perfect hs hne]
    have hf := flushSink_perfect (s := { s with out := s.out ++ w.buf.extract 0 w.cursor,
                                                writes := s.writes + 1, lastFlush := false }) hs'
    refine ⟨_, hf, hs', ?_, rfl⟩
    simp only [hex, hout, Array.append_assoc, List.append_toArray, List.take_append_drop]
  · have hc0 : w.cursor = 0 := by omega
    rw [if_neg hc]
    refine ⟨_, flushSink_perfect hs, hs', ?_, rfl⟩
    simp only [hout]
    rw [List.take_of_length_le]
    have := flushedLen_le w.dictSize H.length; omega

/-! ## The window is a function of the history -/

theorem lastPos_spec {L d i : Nat} (hd : 0 < d) (hi : i < min L d) :
    lastPos L d i < L ∧ L ≤ lastPos L d i + d ∧ lastPos L d i % d = i := by
  have hdm := Nat.div_add_mod L d
  have hc := Nat.mod_lt L hd
  unfold lastPos
  by_cases h : i < L % d
  · rw [if_pos h]
    refine ⟨by omega, by omega, ?_⟩
    exact base_add_mod (dvd_flushedLen d L) (by omega)
  · rw [if_neg h]
    have hL : d ≤ L := by
      by_cases hl : L < d
      · rw [Nat.mod_eq_of_lt hl] at h; omega
      · omega
    obtain ⟨k, hk⟩ : ∃ k, L / d = k + 1 := ⟨L / d - 1, by have := Nat.div_pos hL hd; omega⟩
    rw [hk, Nat.mul_succ] at hdm
    refine ⟨by omega, by omega, ?_⟩
    have e : L - L % d - d + i = d * k + i := by omega
    rw [e]
    exact base_add_mod ⟨k, rfl⟩ (by omega)

theorem CircInv.cell {w : Circ} {H : Bytes} (h : CircInv w H) {i : Nat} (hi : i < w.buf.size) :
    w.buf[i]? = H[lastPos H.length w.dictSize i]? := by
  obtain ⟨h1, h2, h3⟩ := lastPos_spec h.dict_pos (by rw [← h.size_eq]; exact hi)
  rw [← h.cells _ h1 h2, h3]

theorem CircInv.ext {w w' : Circ} {H : Bytes} (h : CircInv w H) (h' : CircInv w' H)
    (hd : w.dictSize = w'.dictSize) (hm : w.memlimit = w'.memlimit) : w = w' := by
  have hbuf : w.buf = w'.buf := by
    apply Array.ext_getElem?
    intro i
    have hs : w.buf.size = w'.buf.size := by rw [h.size_eq, h'.size_eq, hd]
    by_cases hi : i < w.buf.size
    · rw [h.cell hi, h'.cell (by omega), hd]
    · rw [Array.getElem?_eq_none (by omega), Array.getElem?_eq_none (by omega)]
  have hc : w.cursor = w'.cursor := by rw [h.cursor_eq, h'.cursor_eq, hd]
  have hl : w.len = w'.len := by rw [h.len_eq, h'.len_eq]
  cases w; cases w'; simp_all

/-! ## the same window under another limit -/

def Circ.withLimit (w : Circ) (m : Nat) : Circ := { w with memlimit := m }

@[simp] theorem Circ.withLimit_memlimit (w : Circ) (m : Nat) : (w.withLimit m).memlimit = m := rfl
@[simp] theorem Circ.withLimit_dictSize (w : Circ) (m : Nat) : (w.withLimit m).dictSize = w.dictSize := rfl
@[simp] theorem Circ.withLimit_buf (w : Circ) (m : Nat) : (w.withLimit m).buf = w.buf := rfl
@[simp] theorem Circ.withLimit_len (w : Circ) (m : Nat) : (w.withLimit m).len = w.len := rfl
@[simp] theorem Circ.withLimit_cursor (w : Circ) (m : Nat) : (w.withLimit m).cursor = w.cursor := rfl
@[simp] theorem Circ.withLimit_withLimit (w : Circ) (a b : Nat) :
    (w.withLimit a).withLimit b = w.withLimit b := rfl
theorem Circ.withLimit_self (w : Circ) : w.withLimit w.memlimit = w := rfl

theorem Circ.fromStream_withLimit (d M m : Nat) :
    (Circ.fromStream d M).withLimit m = Circ.fromStream d m := rfl

/-- none of the read operations looks at the limit -/
@[simp] theorem Circ.lzbuf_len_withLimit (w : Circ) (m : Nat) :
    LzBuf.len (w.withLimit m) = LzBuf.len w := rfl
@[simp] theorem Circ.lzbuf_lastOr_withLimit (w : Circ) (m : Nat) (b : UInt8) :
    LzBuf.lastOr (w.withLimit m) b = LzBuf.lastOr w b := rfl
@[simp] theorem Circ.lzbuf_lastN_withLimit (w : Circ) (m : Nat) (dist : Nat) :
    LzBuf.lastN (w.withLimit m) dist = LzBuf.lastN w dist := rfl
@[simp] theorem Circ.finish_withLimit (w : Circ) (m : Nat) : (w.withLimit m).finish = w.finish := rfl

theorem CircInv.withLimit {w : Circ} {H : Bytes} (h : CircInv w H) {m : Nat}
    (hm : min H.length w.dictSize ≤ m) : CircInv (w.withLimit m) H where
  dict_pos := h.dict_pos
  len_eq := h.len_eq
  cursor_eq := h.cursor_eq
  size_eq := h.size_eq
  size_le := by have := h.size_eq; simp only [Circ.withLimit]; omega
  cells := h.cells

/-! ## Operation sequences -/

@[simp] theorem WinOp.length_out (H : Bytes) (op : WinOp) : (op.out H).length = op.outLen := by
  cases op <;> simp [WinOp.out, WinOp.outLen]

theorem Circ.runOp_spec {w : Circ} {H : Bytes} {s : Sink} (op : WinOp) (h : CircInv w H)
    (hs : s.Perfect) (hv : op.Valid) :
    if op.InWindow w.dictSize H ∧ min (H.length + op.outLen) w.dictSize ≤ w.memlimit then
      ∃ w', Circ.runOp op w s = (s.after w.dictSize H (H ++ op.out H), .ok w') ∧
        CircInv w' (H ++ op.out H) ∧ w'.dictSize = w.dictSize ∧ w'.memlimit = w.memlimit
    else Circ.runOp op w s = (s, .error .lzma) := by
  by_cases hg : op.InWindow w.dictSize H ∧ min (H.length + op.outLen) w.dictSize ≤ w.memlimit
  · rw [if_pos hg]
    cases op with
    | lit b => exact Circ.appendLiteral_ok b h hs hg.2
    | lz len dist =>
      have hw : 1 ≤ dist ∧ dist ≤ min H.length w.dictSize := hg.1
      have hm : min (H.length + len) w.dictSize ≤ w.memlimit := hg.2
      have hsp := Circ.appendLz_spec (s := s) len h hs hw.1
      rw [if_pos ⟨by omega, by omega, Or.inr hm⟩] at hsp
      exact hsp
  · rw [if_neg hg]
    cases op with
    | lit b => exact Circ.appendLiteral_fail s b h fun hm => hg ⟨trivial, hm⟩
    | lz len dist =>
      have h1 : 1 ≤ dist := hv
      have hsz : min (H.length + 0) w.dictSize ≤ w.memlimit := by
        rw [Nat.add_zero, ← h.size_eq]; exact h.size_le
      have hsp := Circ.appendLz_spec (s := s) len h hs h1
      rw [if_neg] at hsp
      · exact hsp
      · rintro ⟨a, b, c⟩
        have hw : 1 ≤ dist ∧ dist ≤ min H.length w.dictSize := ⟨h1, by omega⟩
        rcases c with rfl | c
        · exact hg ⟨hw, hsz⟩
        · exact hg ⟨hw, c⟩

theorem Circ.runOps_cons (op : WinOp) (r : List WinOp) (w : Circ) :
    Circ.runOps (op :: r) w = Circ.runOp op w >>= Circ.runOps r := by
  cases op <;> rfl

theorem idealOps_cons (d : Nat) (op : WinOp) (r : List WinOp) (H : Bytes) :
    idealOps d (op :: r) H = if op.InWindow d H then idealOps d r (H ++ op.out H) else none := by
  cases op with
  | lit b => exact (if_pos trivial).symm
  | lz len dist => rfl

theorem idealPrefix_cons (d : Nat) (op : WinOp) (r : List WinOp) (H : Bytes) :
    idealPrefix d (op :: r) H = if op.InWindow d H then idealPrefix d r (H ++ op.out H) else H := by
  cases op with
  | lit b => exact (if_pos trivial).symm
  | lz len dist => rfl

theorem idealRunM_prefix (d m : Nat) (ops : List WinOp) (H : Bytes) :
    H <+: (idealRunM d m ops H).1 := by
  induction ops generalizing H with
  | nil => exact List.prefix_refl H
  | cons op r ih =>
    rw [idealRunM]
    split
    · exact (List.prefix_append H _).trans (ih _)
    · exact List.prefix_refl H

theorem idealPrefix_prefix (d : Nat) (ops : List WinOp) (H : Bytes) :
    H <+: idealPrefix d ops H := by
  induction ops generalizing H with
  | nil => exact List.prefix_refl H
  | cons op r ih =>
    rw [idealPrefix_cons]
    split
    · exact (List.prefix_append H _).trans (ih _)
    · exact List.prefix_refl H

theorem idealOps_eq_some_idealPrefix {d : Nat} {ops : List WinOp} {H H' : Bytes}
    (h : idealOps d ops H = some H') : idealPrefix d ops H = H' := by
  induction ops generalizing H with
  | nil => cases h; rfl
  | cons op r ih =>
    rw [idealOps_cons] at h
    rw [idealPrefix_cons]
    split at h
    · next hg => rw [if_pos hg]; exact ih h
    · cases h

/-- Complete characterisation of a run of window operations: result, window and sink are
functions of the history, `dictSize`, `memlimit` and the op list alone. -/
theorem Circ.runOps_spec (ops : List WinOp) {w : Circ} {H : Bytes} {s : Sink} (h : CircInv w H)
    (hs : s.Perfect) (hv : ∀ op ∈ ops, op.Valid) :
    if (idealRunM w.dictSize w.memlimit ops H).2 = true then
      ∃ w', Circ.runOps ops w s =
          (s.after w.dictSize H (idealRunM w.dictSize w.memlimit ops H).1, .ok w') ∧
        CircInv w' (idealRunM w.dictSize w.memlimit ops H).1 ∧ w'.dictSize = w.dictSize ∧
        w'.memlimit = w.memlimit
    else
      Circ.runOps ops w s =
        (s.after w.dictSize H (idealRunM w.dictSize w.memlimit ops H).1, .error .lzma) := by
  induction ops generalizing w H s with
  | nil =>
    simp only [idealRunM, if_true, Circ.runOps, pure_run, Sink.after_self]
    exact ⟨w, rfl, h, rfl, rfl⟩
  | cons op r ih =>
    have hop := Circ.runOp_spec (s := s) op h hs (hv op List.mem_cons_self)
    rw [Circ.runOps_cons]
    by_cases hg : op.InWindow w.dictSize H ∧ min (H.length + op.outLen) w.dictSize ≤ w.memlimit
    · rw [if_pos hg] at hop
      obtain ⟨w1, hr1, hi1, hd1, hm1⟩ := hop
      have := ih (s := s.after w.dictSize H (H ++ op.out H)) hi1 (Sink.after_perfect hs)
        fun o ho => hv o (List.mem_cons_of_mem _ ho)
      rw [hd1, hm1,
        Sink.after_trans s _ (List.prefix_append H _) (idealRunM_prefix _ _ _ _)] at this
      rw [bind_run_ok hr1]
      simp only [idealRunM, if_pos hg]
      exact this
    · rw [if_neg hg] at hop
      rw [bind_run_error hop]
      simp [idealRunM, if_neg hg, Sink.after_self]

theorem Circ.runOps_fromStream_ok {ops : List WinOp} {d m : Nat} {H' : Bytes} {s : Sink}
    (hd : 0 < d) (hs : s.Perfect) (hv : ∀ op ∈ ops, op.Valid)
    (hr : idealRunM d m ops [] = (H', true)) :
    ∃ w', Circ.runOps ops (Circ.fromStream d m) s = (s.after d [] H', .ok w') ∧ CircInv w' H' ∧
      w'.dictSize = d ∧ w'.memlimit = m := by
  have := Circ.runOps_spec ops (s := s) (Circ.fromStream_inv m hd) hs hv
  rw [show (Circ.fromStream d m).dictSize = d from rfl,
    show (Circ.fromStream d m).memlimit = m from rfl, hr] at this
  exact this

theorem Circ.runOps_fromStream_err {ops : List WinOp} {d m : Nat} {Hp : Bytes} {s : Sink}
    (hd : 0 < d) (hs : s.Perfect) (hv : ∀ op ∈ ops, op.Valid)
    (hr : idealRunM d m ops [] = (Hp, false)) :
    Circ.runOps ops (Circ.fromStream d m) s = (s.after d [] Hp, .error .lzma) := by
  have := Circ.runOps_spec ops (s := s) (Circ.fromStream_inv m hd) hs hv
  rw [show (Circ.fromStream d m).dictSize = d from rfl,
    show (Circ.fromStream d m).memlimit = m from rfl, hr] at this
  exact this

theorem idealRunM_of_le {d m : Nat} {ops : List WinOp} {H : Bytes}
    (hm : min (idealPrefix d ops H).length d ≤ m) :
    idealRunM d m ops H = (idealPrefix d ops H, (idealOps d ops H).isSome) := by
  induction ops generalizing H with
  | nil => rfl
  | cons op r ih =>
    rw [idealPrefix_cons] at hm
    rw [idealRunM, idealOps_cons, idealPrefix_cons]
    by_cases hg : op.InWindow d H
    · rw [if_pos hg] at hm
      have := (idealPrefix_prefix d r (H ++ op.out H)).length_le
      simp only [List.length_append, WinOp.length_out] at this
      rw [if_pos ⟨hg, by omega⟩, if_pos hg, if_pos hg]
      exact ih hm
    · rw [if_neg (fun hh => hg hh.1), if_neg hg, if_neg hg]; rfl

theorem idealRunM_of_not_le {d m : Nat} {ops : List WinOp} {H : Bytes}
    (h0 : min H.length d ≤ m) (hm : ¬ min (idealPrefix d ops H).length d ≤ m) :
    (idealRunM d m ops H).2 = false ∧ (idealRunM d m ops H).1.length < d ∧
      min (idealRunM d m ops H).1.length d ≤ m := by
  induction ops generalizing H with
  | nil => exact absurd h0 hm
  | cons op r ih =>
    rw [idealPrefix_cons] at hm
    rw [idealRunM]
    by_cases hg : op.InWindow d H
    · rw [if_pos hg] at hm
      by_cases hc : min (H.length + op.outLen) d ≤ m
      · rw [if_pos ⟨hg, hc⟩]
        exact ih (by simpa using hc) hm
      · rw [if_neg (fun hh => hc hh.2)]
        exact ⟨rfl, by simp only; omega, h0⟩
    · rw [if_neg hg] at hm
      exact absurd h0 hm

theorem idealRunM_eq_true_iff {d m : Nat} {ops : List WinOp} {H H' : Bytes}
    (h0 : min H.length d ≤ m) :
    idealRunM d m ops H = (H', true) ↔ idealOps d ops H = some H' ∧ min H'.length d ≤ m := by
  constructor
  · intro e
    by_cases hm : min (idealPrefix d ops H).length d ≤ m
    · rw [idealRunM_of_le hm] at e
      cases hi : idealOps d ops H with
      | none => rw [hi] at e; cases e
      | some X =>
        obtain rfl : idealPrefix d ops H = H' := (Prod.mk.inj e).1
        exact ⟨by rw [idealOps_eq_some_idealPrefix hi], hm⟩
    · have := (idealRunM_of_not_le h0 hm).1
      rw [e] at this
      cases this
  · rintro ⟨hi, hm⟩
    rw [← idealOps_eq_some_idealPrefix hi] at hm
    rw [idealRunM_of_le hm, hi, idealOps_eq_some_idealPrefix hi]; rfl

theorem idealRunM_fst_prefix_idealPrefix (d m : Nat) (ops : List WinOp) (H : Bytes) :
    (idealRunM d m ops H).1 <+: idealPrefix d ops H := by
  induction ops generalizing H with
  | nil => exact List.prefix_refl H
  | cons op r ih =>
    rw [idealRunM, idealPrefix_cons]
    by_cases hg : op.InWindow d H
    · rw [if_pos hg]
      split
      · exact ih _
      · exact (List.prefix_append H _).trans (idealPrefix_prefix d r _)
    · rw [if_neg (fun hh => hg hh.1), if_neg hg]
      exact List.prefix_refl H

/-- the whole life of a window: build, run the ops, `finish` -/
def Circ.runAll (ops : List WinOp) (d m : Nat) : M Unit := do
  let w ← Circ.runOps ops (Circ.fromStream d m)
  w.finish

theorem Sink.after_nil_out (s : Sink) (d : Nat) (H : Bytes) :
    (s.after d [] H).out = s.out ++ (H.take (flushedLen d H.length)).toArray := by
  simp [Sink.after, flushedLen]

/-! ## The memory limit (C10) -/

theorem Circ.set_size_le {w w' : Circ} {i : Nat} {v : UInt8} (h : w.set i v = .ok w')
    (hb : w.buf.size ≤ w.memlimit) :
    w'.buf.size ≤ w'.memlimit ∧ w'.memlimit = w.memlimit ∧ w'.dictSize = w.dictSize := by
  simp only [Circ.set] at h
  split at h
  · split at h
    · injection h with h; subst h; simp; omega
    · cases h
  · injection h with h; subst h; simpa using hb

theorem Circ.appendLiteral_size_le {w w' : Circ} {b : UInt8} {s s' : Sink}
    (h : w.appendLiteral b s = (s', .ok w')) (hb : w.buf.size ≤ w.memlimit) :
    w'.buf.size ≤ w'.memlimit ∧ w'.memlimit = w.memlimit ∧ w'.dictSize = w.dictSize := by
  unfold Circ.appendLiteral at h
  obtain ⟨w1, s1, hset, h⟩ := mBind_eq_ok.1 h
  have h1 := Circ.set_size_le (liftE_eq_ok.1 hset).1 hb
  -- the rest only moves `cursor` and `len` (and may write the lap to the sink)
  have : w'.buf = w1.buf ∧ w'.memlimit = w1.memlimit ∧ w'.dictSize = w1.dictSize := by
    dsimp only at h
    split at h
    · obtain ⟨_, _, -, h⟩ := mBind_eq_ok.1 h
      cases (mPure_eq_ok.1 h).1; exact ⟨rfl, rfl, rfl⟩
    · cases (mPure_eq_ok.1 h).1; exact ⟨rfl, rfl, rfl⟩
  rw [this.1, this.2.1, this.2.2]; exact h1

theorem Circ.copyLoop_size_le {n : Nat} {w w' : Circ} {off : Nat} {s s' : Sink}
    (h : Circ.copyLoop n w off s = (s', .ok w')) (hb : w.buf.size ≤ w.memlimit) :
    w'.buf.size ≤ w'.memlimit ∧ w'.memlimit = w.memlimit ∧ w'.dictSize = w.dictSize := by
  induction n generalizing w off s with
  | zero => cases (mPure_eq_ok.1 h).1; exact ⟨hb, rfl, rfl⟩
  | succ n ih =>
    rw [Circ.copyLoop] at h
    obtain ⟨w1, s1, hr1, h⟩ := mBind_eq_ok.1 h
    have h1 := Circ.appendLiteral_size_le hr1 hb
    have h2 := ih h h1.1
    exact ⟨h2.1, by omega, by omega⟩

theorem Circ.appendLz_size_le {w w' : Circ} {len dist : Nat} {s s' : Sink}
    (h : w.appendLz len dist s = (s', .ok w')) (hb : w.buf.size ≤ w.memlimit) :
    w'.buf.size ≤ w'.memlimit ∧ w'.memlimit = w.memlimit ∧ w'.dictSize = w.dictSize := by
  unfold Circ.appendLz at h
  split at h
  · simp at h
  · split at h
    · simp at h
    · obtain ⟨off, s1, -, h⟩ := mBind_eq_ok.1 h
      exact Circ.copyLoop_size_le h hb

theorem Circ.runOp_size_le {op : WinOp} {w w' : Circ} {s s' : Sink}
    (h : Circ.runOp op w s = (s', .ok w')) (hb : w.buf.size ≤ w.memlimit) :
    w'.buf.size ≤ w'.memlimit ∧ w'.memlimit = w.memlimit ∧ w'.dictSize = w.dictSize := by
  cases op with
  | lit b => exact Circ.appendLiteral_size_le h hb
  | lz len dist => exact Circ.appendLz_size_le h hb

/-- after every op of every sequence (C10, "never more"), whatever the sink does and whatever
the distances are, the allocation respects the limit -/
theorem Circ.runOps_size_le {ops : List WinOp} {w w' : Circ} {s s' : Sink}
    (h : Circ.runOps ops w s = (s', .ok w')) (hb : w.buf.size ≤ w.memlimit) :
    w'.buf.size ≤ w'.memlimit ∧ w'.memlimit = w.memlimit ∧ w'.dictSize = w.dictSize := by
  induction ops generalizing w s with
  | nil =>
    obtain ⟨rfl, -⟩ := mPure_eq_ok.1 h
    exact ⟨hb, rfl, rfl⟩
  | cons op r ih =>
    rw [Circ.runOps_cons] at h
    obtain ⟨w1, s1, hr1, h⟩ := mBind_eq_ok.1 h
    have h1 := Circ.runOp_size_le hr1 hb
    have h2 := ih h h1.1
    exact ⟨h2.1, by omega, by omega⟩

theorem Circ.runOps_append (a b : List WinOp) (w : Circ) :
    Circ.runOps (a ++ b) w = (Circ.runOps a w >>= Circ.runOps b) := by
  induction a generalizing w with
  | nil => rfl
  | cons op r ih =>
    funext s
    simp only [List.cons_append, Circ.runOps_cons, bind_run, ih]
    split <;> rfl

/-- C10: the run fails exactly at the first op that would make `min d produced` exceed the
limit: everything before it is accepted, the sink is untouched.  `hop` (the op is a literal or a
match inside the window) is part of the statement for the reader only and is not used: a match
outside the window is rejected as well, with the same error. -/
theorem Circ.memlimit_fails_at {pre post : List WinOp} {op : WinOp} {d m : Nat} {s0 : Sink}
    {Hp : Bytes} (hd : 0 < d) (hs : s0.Perfect) (hv : ∀ o ∈ pre ++ op :: post, o.Valid)
    (hpre : idealOps d pre [] = some Hp) (hfit : min Hp.length d ≤ m)
    (hop : ∀ len dist, op = .lz len dist → dist ≤ min Hp.length d)
    (hover : ¬ min (Hp.length + op.outLen) d ≤ m) :
    (∃ w, Circ.runOps pre (Circ.fromStream d m) s0 = (s0, .ok w) ∧ CircInv w Hp) ∧
      Circ.runOps (pre ++ op :: post) (Circ.fromStream d m) s0 = (s0, .error .lzma) := by
  obtain ⟨w, e1, i1, d1, m1⟩ := Circ.runOps_fromStream_ok (s := s0) hd hs
    (fun o ho => hv o (List.mem_append_left _ ho))
    ((idealRunM_eq_true_iff (m := m) (by simp)).2 ⟨hpre, hfit⟩)
  rw [Sink.after_of_lt s0 (by simp) (by omega)] at e1
  refine ⟨⟨w, e1, i1⟩, ?_⟩
  have := Circ.runOp_spec (s := s0) op i1 hs (hv op (List.mem_append_right _ List.mem_cons_self))
  rw [d1, m1, if_neg fun hh => hover hh.2] at this
  rw [Circ.runOps_append, bind_run_ok e1, Circ.runOps_cons, bind_run_error this]

/-! ## `get` without the `unwrap_or(&0)` default (C09.5) -/

/-- `get` as plain indexing `self.buf[index]` (would panic out of range) -/
def Circ.getStrict (w : Circ) (index : Nat) : Except Err UInt8 :=
  match w.buf[index]? with
  | some b => .ok b
  | none => .error (.panic "lzbuffer: get out of range")

def Circ.lastOrStrict (w : Circ) (lit : UInt8) : Except Err UInt8 :=
  if w.len = 0 then pure lit
  else do
    let off ← w.offsetOf 1
    w.getStrict off

def Circ.lastNStrict (w : Circ) (dist : Nat) : Except Err UInt8 :=
  if dist > w.dictSize then .error .lzma
  else if dist > w.len then .error .lzma
  else do
    let off ← w.offsetOf dist
    w.getStrict off

def Circ.copyLoopStrict : Nat → Circ → Nat → M Circ
  | 0, w, _ => pure w
  | n+1, w, offset => do
    let x ← liftE (w.getStrict offset)
    let w ← w.appendLiteral x
    let offset := offset + 1
    let offset := if offset = w.dictSize then 0 else offset
    copyLoopStrict n w offset

def Circ.appendLzStrict (w : Circ) (len dist : Nat) : M Circ :=
  if dist > w.dictSize then throwM .lzma
  else if dist > w.len then throwM .lzma
  else do
    let offset ← liftE (w.offsetOf dist)
    Circ.copyLoopStrict len w offset

theorem Circ.getStrict_eq {w : Circ} {H : Bytes} {dist : Nat} (h : CircInv w H) (h1 : 1 ≤ dist)
    (h2 : dist ≤ w.dictSize) (h3 : dist ≤ H.length) :
    w.getStrict ((H.length - dist) % w.dictSize) = .ok (w.get ((H.length - dist) % w.dictSize)) := by
  unfold Circ.getStrict Circ.get
  rw [(Circ.offsetOf_get h h1 h2 h3).2.2]; rfl

theorem Circ.copyLoopStrict_eq {dist : Nat} (n : Nat) {w : Circ} {H : Bytes} {s : Sink}
    (h : CircInv w H) (hs : s.Perfect) (h1 : 1 ≤ dist) (h2 : dist ≤ w.dictSize)
    (h3 : dist ≤ H.length) :
    Circ.copyLoopStrict n w ((H.length - dist) % w.dictSize) s =
      Circ.copyLoop n w ((H.length - dist) % w.dictSize) s := by
  induction n generalizing w H s with
  | zero => rfl
  | succ n ih =>
    rw [Circ.copyLoop, Circ.copyLoopStrict]
    simp only [bind_run, Circ.getStrict_eq h h1 h2 h3, liftE_ok]
    generalize w.get ((H.length - dist) % w.dictSize) = x
    by_cases hm1 : min (H.length + 1) w.dictSize ≤ w.memlimit
    · obtain ⟨w1, hr1, hi1, hd1, -⟩ := Circ.appendLiteral_ok (s := s) x h hs hm1
      have := ih (s := s.after w.dictSize H (H ++ [x])) hi1 (Sink.after_perfect hs) (by omega)
        (by simp; omega)
      simp only [List.length_append, List.length_cons, List.length_nil, Nat.zero_add, hd1] at this
      simp only [hr1, hd1, next_offset h.dict_pos h3, this]
    · simp only [Circ.appendLiteral_fail s _ h hm1]

/-! ## `LzAccumBuffer` -/

theorem Accum.fromStream_inv (m : Nat) : AccumInv (Accum.fromStream m) [] := ⟨rfl, rfl⟩

theorem AccumInv.size_eq {w : Accum} {H : Bytes} (h : AccumInv w H) : w.buf.size = H.length := by
  rw [← h.1]; simp

theorem AccumInv.getElem? {w : Accum} {H : Bytes} (h : AccumInv w H) (i : Nat) :
    w.buf[i]? = H[i]? := by
  rw [← h.1, Array.getElem?_toList]

theorem Accum.lastOr_spec {w : Accum} {H : Bytes} (b : UInt8) (h : AccumInv w H) :
    w.lastOr b = .ok (H.getLast?.getD b) := by
  unfold Accum.lastOr
  rw [h.size_eq]
  by_cases h0 : H.length = 0
  · rw [if_pos h0]
    have : H = [] := List.eq_nil_of_length_eq_zero h0
    subst this; rfl
  · rw [if_neg h0, h.getElem?, List.getLast?_eq_getElem?, List.getElem?_eq_getElem (by omega)]
    rfl

theorem Accum.lastN_spec {w : Accum} {H : Bytes} {dist : Nat} (h : AccumInv w H) (h1 : 1 ≤ dist) :
    w.lastN dist =
      if hg : dist ≤ H.length then .ok (H[H.length - dist]'(by omega)) else .error .lzma := by
  unfold Accum.lastN
  rw [h.size_eq]
  by_cases h2 : dist > H.length
  · rw [if_pos h2, dif_neg (by omega)]
  · rw [if_neg h2, dif_pos (by omega), h.getElem?, List.getElem?_eq_getElem (by omega)]
    rfl

theorem Accum.appendLiteral_spec {w : Accum} {H : Bytes} (b : UInt8) (s : Sink)
    (h : AccumInv w H) :
    w.appendLiteral b s =
      if H.length + 1 ≤ w.memlimit then
        (s, .ok { w with buf := w.buf.push b, len := w.len + 1 })
      else (s, .error .lzma) := by
  unfold Accum.appendLiteral
  simp only [h.2]
  by_cases hm : H.length + 1 > w.memlimit
  · rw [if_pos hm, if_neg (by omega)]; rfl
  · rw [if_neg hm, if_pos (by omega)]; rfl

theorem Accum.appendLiteral_inv {w : Accum} {H : Bytes} (b : UInt8) (h : AccumInv w H) :
    AccumInv { w with buf := w.buf.push b, len := w.len + 1 } (H ++ [b]) := by
  refine ⟨?_, ?_⟩
  · simp [h.1]
  · simp [h.2]

theorem Accum.copyLoop_spec (n : Nat) {buf : Array UInt8} {H : Bytes} {dist : Nat}
    (hb : buf.toList = H) (h1 : 1 ≤ dist) (h2 : dist ≤ H.length) :
    Accum.copyLoop n buf (H.length - dist) = .ok (buf ++ (lzCopy H dist n).toArray) := by
  induction n generalizing buf H with
  | zero => simp [Accum.copyLoop]; rfl
  | succ n ih =>
    have hx : H[H.length - dist]?.getD 0 = H[H.length - dist]'(by omega) := by
      rw [List.getElem?_eq_getElem (by omega)]; rfl
    have hget : buf[H.length - dist]? = some (H[H.length - dist]'(by omega)) := by
      rw [← Array.getElem?_toList, hb, List.getElem?_eq_getElem (by omega)]
    rw [Accum.copyLoop, hget]
    simp only
    have := ih (buf := buf.push (H[H.length - dist]'(by omega)))
      (H := H ++ [H[H.length - dist]'(by omega)]) (by simp [hb]) (by simp; omega)
    simp only [List.length_append, List.length_cons, List.length_nil] at this
    rw [show H.length + (0 + 1) - dist = H.length - dist + 1 by omega] at this
    rw [this, lzCopy_succ, hx]
    congr 1
    apply Array.ext'
    simp

/-- `append_lz` on the accumulating window: guard `dist ≤ H.length` only; NO memory-limit
check (mirror of the Rust), no sink interaction, no panic for `dist ≥ 1`. -/
theorem Accum.appendLz_spec {w : Accum} {H : Bytes} (len : Nat) {dist : Nat} (s : Sink)
    (h : AccumInv w H) (h1 : 1 ≤ dist) :
    w.appendLz len dist s =
      if dist ≤ H.length then
        (s, .ok { w with buf := w.buf ++ (lzCopy H dist len).toArray, len := w.len + len })
      else (s, .error .lzma) := by
  unfold Accum.appendLz
  rw [h.size_eq]
  by_cases h2 : dist > H.length
  · rw [if_pos h2, if_neg (by omega)]; rfl
  · rw [if_neg h2, if_pos (by omega)]
    simp only [bind_run, Accum.copyLoop_spec len h.1 h1 (by omega), liftE_ok, pure_run]

theorem Accum.appendLz_inv {w : Accum} {H : Bytes} (len dist : Nat) (h : AccumInv w H) :
    AccumInv { w with buf := w.buf ++ (lzCopy H dist len).toArray, len := w.len + len }
      (H ++ lzCopy H dist len) := by
  refine ⟨?_, ?_⟩
  · simp [h.1]
  · simp [h.2]

theorem Accum.appendBytes_inv {w : Accum} {H : Bytes} (bs : Bytes) (h : AccumInv w H) :
    AccumInv (w.appendBytes bs) (H ++ bs) := by
  refine ⟨?_, ?_⟩
  · simp [Accum.appendBytes, h.1]
  · simp [Accum.appendBytes, h.2]

theorem Accum.reset_spec {w : Accum} {H : Bytes} {s : Sink} (h : AccumInv w H) (hs : s.Perfect) :
    ∃ s', w.reset s = (s', .ok { w with buf := #[], len := 0 }) ∧ s'.Perfect ∧
      s'.out = s.out ++ H.toArray ∧ AccumInv { w with buf := #[], len := 0 } [] := by
  obtain ⟨e1, e2, e3⟩ := writeAll_clean w.buf s hs
  refine ⟨_, ?_, e2, ?_, ⟨rfl, rfl⟩⟩
  · unfold Accum.reset
    rw [bind_run_ok (Prod.ext rfl e1 : writeAll w.buf s = (_, .ok ()))]; rfl
  · rw [e3, ← h.1]

theorem Accum.finish_spec {w : Accum} {H : Bytes} {s : Sink} (h : AccumInv w H) (hs : s.Perfect) :
    ∃ s', w.finish s = (s', .ok ()) ∧ s'.Perfect ∧ s'.out = s.out ++ H.toArray ∧
      s'.lastFlush = true := by
  obtain ⟨e1, e2, e3⟩ := writeAll_clean w.buf s hs
  refine ⟨{ (writeAll w.buf s).1 with flushes := (writeAll w.buf s).1.flushes + 1, lastFlush := true },
    ?_, e2, ?_, rfl⟩
  · unfold Accum.finish
    rw [bind_run_ok (Prod.ext rfl e1 : writeAll w.buf s = (_, .ok ()))]
    exact flushSink_perfect e2
  · show (writeAll w.buf s).1.out = _
    rw [e3, ← h.1]

/-- The accumulating window does NOT keep `buf.len() ≤ memlimit`: only `append_literal`
checks (and it checks `len`, the byte count since the last reset). -/
theorem Accum.appendLz_ignores_memlimit :
    ∃ (w w' : Accum) (s : Sink), w.buf.size ≤ w.memlimit ∧ AccumInv w [7] ∧
      w.appendLz 5 1 s = (s, .ok w') ∧ w'.memlimit < w'.buf.size :=
  ⟨{ buf := #[7], memlimit := 2, len := 1 }, _, {}, by decide, ⟨rfl, rfl⟩,
    by rw [Accum.appendLz_spec 5 {} ⟨rfl, rfl⟩ (by decide)]; rfl, by decide⟩

/-! ## The sink relation -/

/-- "the sink holds everything except the unflushed part of the current lap" is maintained -/
theorem Sink.after_out_rel {s0 s : Sink} {d : Nat} {H H' : Bytes} (hp : H <+: H')
    (hout : s.out = s0.out ++ (H.take (flushedLen d H.length)).toArray) :
    (s.after d H H').out = s0.out ++ (H'.take (flushedLen d H'.length)).toArray := by
  have h1 := flushedLen_le d H.length
  have h2 : flushedLen d H.length ≤ flushedLen d H'.length := flushedLen_mono hp.length_le
  have h3 := flushedLen_le d H'.length
  obtain ⟨X, rfl⟩ := hp
  simp only [Sink.after, hout, Array.append_assoc, List.append_toArray]
  congr 2
  rw [← List.take_append_of_le_length (l₂ := X) h1]
  have : List.take (flushedLen d H.length) (H ++ X) =
      (List.take (flushedLen d (H ++ X).length) (H ++ X)).take (flushedLen d H.length) := by
    rw [List.take_take, Nat.min_eq_left h2]
  rw [this, List.take_append_drop]

/-! ## The ideal window as an `LzBuf` instance -/

/-- The ideal window: the history as a plain list, a dictionary limit and a memory limit.
Its sink effect is the closed form `Sink.after` (so it models perfect sinks only). -/
structure IdealWin where
  hist : Bytes := []
  dictSize : Nat
  memlimit : Nat

namespace IdealWin

def lastOr (w : IdealWin) (lit : UInt8) : Except Err UInt8 := .ok (w.hist.getLast?.getD lit)

def lastN (w : IdealWin) (dist : Nat) : Except Err UInt8 :=
  if dist ≤ w.dictSize ∧ dist ≤ w.hist.length then .ok (w.hist[w.hist.length - dist]?.getD 0)
  else .error .lzma

def push (w : IdealWin) (X : Bytes) : M IdealWin := fun s =>
  (s.after w.dictSize w.hist (w.hist ++ X), .ok { w with hist := w.hist ++ X })

def appendLiteral (w : IdealWin) (b : UInt8) : M IdealWin :=
  if min (w.hist.length + 1) w.dictSize ≤ w.memlimit then w.push [b] else throwM .lzma

def appendLz (w : IdealWin) (len dist : Nat) : M IdealWin :=
  if dist ≤ w.dictSize ∧ dist ≤ w.hist.length ∧
      (len = 0 ∨ min (w.hist.length + len) w.dictSize ≤ w.memlimit) then
    w.push (lzCopy w.hist dist len)
  else throwM .lzma

instance : LzBuf IdealWin where
  len w := w.hist.length
  lastOr := lastOr
  lastN := lastN
  appendLiteral := appendLiteral
  appendLz := appendLz

end IdealWin

def WinSim (w : Circ) (i : IdealWin) : Prop :=
  CircInv w i.hist ∧ w.dictSize = i.dictSize ∧ w.memlimit = i.memlimit

/-- same sink, same error, related windows -/
def WinSimM (r1 : Sink × Except Err Circ) (r2 : Sink × Except Err IdealWin) : Prop :=
  r1.1 = r2.1 ∧
    match r1.2, r2.2 with
    | .ok w, .ok i => WinSim w i
    | .error e1, .error e2 => e1 = e2
    | _, _ => False

theorem WinSim.lastOr {w : Circ} {i : IdealWin} (h : WinSim w i) (b : UInt8) :
    LzBuf.lastOr w b = LzBuf.lastOr i b := Circ.lastOr_spec b h.1

/-- a window operation specified in the `if` form of `Circ.appendLz_spec` simulates the push of the
ideal window under the same guard -/
theorem WinSimM.of_spec {w : Circ} {i : IdealWin} (h : WinSim w i) {s : Sink} (hs : s.Perfect)
    {c : Prop} [Decidable c] {X : Bytes} {r : Sink × Except Err Circ}
    (hsp : if c then
        ∃ w', r = (s.after w.dictSize i.hist (i.hist ++ X), .ok w') ∧ CircInv w' (i.hist ++ X) ∧
          w'.dictSize = w.dictSize ∧ w'.memlimit = w.memlimit
      else r = (s, .error .lzma)) :
    WinSimM r ((if c then i.push X else throwM .lzma) s) ∧ r.1.Perfect := by
  obtain ⟨-, hd, hm⟩ := h
  by_cases hc : c
  · rw [if_pos hc] at hsp ⊢
    obtain ⟨w', rfl, e2, e3, e4⟩ := hsp
    exact ⟨⟨by simp only [IdealWin.push, hd], e2, by simp only; omega, by simp only; omega⟩,
      Sink.after_perfect hs⟩
  · rw [if_neg hc] at hsp ⊢
    subst hsp
    exact ⟨⟨rfl, rfl⟩, hs⟩

theorem WinSim.appendLiteral {w : Circ} {i : IdealWin} (h : WinSim w i) (b : UInt8) {s : Sink}
    (hs : s.Perfect) :
    WinSimM (LzBuf.appendLiteral w b s) (LzBuf.appendLiteral i b s) ∧
      (LzBuf.appendLiteral w b s).1.Perfect := by
  show WinSimM (w.appendLiteral b s) (i.appendLiteral b s) ∧ (w.appendLiteral b s).1.Perfect
  unfold IdealWin.appendLiteral
  rw [← h.2.1, ← h.2.2]
  refine WinSimM.of_spec h hs ?_
  split
  · next hg => exact Circ.appendLiteral_ok b h.1 hs hg
  · next hg => exact Circ.appendLiteral_fail s b h.1 hg

theorem WinSim.appendLz {w : Circ} {i : IdealWin} (h : WinSim w i) (len : Nat) {dist : Nat}
    (h1 : 1 ≤ dist) {s : Sink} (hs : s.Perfect) :
    WinSimM (LzBuf.appendLz w len dist s) (LzBuf.appendLz i len dist s) ∧
      (LzBuf.appendLz w len dist s).1.Perfect := by
  show WinSimM (w.appendLz len dist s) (i.appendLz len dist s) ∧ (w.appendLz len dist s).1.Perfect
  unfold IdealWin.appendLz
  rw [← h.2.1, ← h.2.2]
  exact WinSimM.of_spec h hs (Circ.appendLz_spec len h.1 hs h1)

/-! ## `dist = 0` on the circular window (not issued by the decoder) -/

/-- what `append_lz(len, 0)` appends: the byte `d` back, with zeros before the start of the
stream — i.e. distance `d` on the history extended to the left by `d` zero bytes -/
def lzCopyZ (d : Nat) (H : Bytes) : Nat → Bytes
  | 0 => []
  | n+1 =>
    let x := if d ≤ H.length then H[H.length - d]?.getD 0 else 0
    x :: lzCopyZ d (H ++ [x]) n

@[simp] theorem length_lzCopyZ (d : Nat) (H : Bytes) (n : Nat) : (lzCopyZ d H n).length = n := by
  induction n generalizing H with
  | zero => rfl
  | succ n ih => simp [lzCopyZ, ih]

theorem lzCopyZ_eq_copyWith (d : Nat) (H : Bytes) (n : Nat) :
    lzCopyZ d H n =
      copyWith (fun H => if d ≤ H.length then H[H.length - d]?.getD 0 else 0) H n := by
  induction n generalizing H with
  | zero => rfl
  | succ n ih => simp only [lzCopyZ, copyWith, ih]

/-- `append_lz(len, 0)`: never rejected by the distance guard; reads the cell under the cursor -/
theorem Circ.appendLz_zero {w : Circ} {H : Bytes} {s : Sink} (len : Nat) (h : CircInv w H)
    (hs : s.Perfect) :
    if len = 0 ∨ min (H.length + len) w.dictSize ≤ w.memlimit then
      ∃ w', w.appendLz len 0 s =
          (s.after w.dictSize H (H ++ lzCopyZ w.dictSize H len), .ok w') ∧
        CircInv w' (H ++ lzCopyZ w.dictSize H len) ∧ w'.dictSize = w.dictSize ∧
        w'.memlimit = w.memlimit
    else w.appendLz len 0 s = (s, .error .lzma) := by
  have hoff : w.offsetOf 0 = .ok w.cursor := by
    unfold Circ.offsetOf subChk
    simp only [Nat.zero_le, if_true, bind, Except.bind, Nat.sub_zero,
      if_neg (Nat.ne_of_gt h.dict_pos), Nat.add_mod_left, Nat.mod_eq_of_lt h.cursor_lt]
    rfl
  have hc := Circ.copyLoop_spec (k := 0)
    (f := fun H => if w.dictSize ≤ H.length then H[H.length - w.dictSize]?.getD 0 else 0)
    (fun h' hd' _ => by rw [Nat.sub_zero, ← hd', ← h'.cursor_eq]; exact Circ.get_cursor h') len h hs
    rfl (Nat.zero_le _)
  rw [Nat.sub_zero, ← h.cursor_eq] at hc
  unfold Circ.appendLz
  simp only [gt_iff_lt, Nat.not_lt_zero, if_false, bind_run, hoff, liftE_ok]
  rw [lzCopyZ_eq_copyWith]
  exact hc

/-! ## the delivered-plus-window history -/

namespace StreamEq

/-- window `w` and sink `snk` together hold the output history `base ++ H`: the window
represents `H` and the sink holds `base` followed by the completed laps of `H` -/
def HistInv (base : Array UInt8) (w : Circ) (snk : Sink) (H : Bytes) : Prop :=
  CircInv w H ∧ snk.Perfect ∧ snk.out = base ++ (H.take (flushedLen w.dictSize H.length)).toArray

/-- … for some history extending `H` -/
def HistGe (base : Array UInt8) (H : Bytes) (w : Circ) (snk : Sink) : Prop :=
  ∃ H', H <+: H' ∧ HistInv base w snk H'

theorem histInv_init {d m : Nat} (hd : 0 < d) {snk : Sink} (hs : snk.script = []) :
    HistInv snk.out (Circ.fromStream d m) snk [] := by
  refine ⟨Circ.fromStream_inv m hd, hs, ?_⟩
  simp

/-- an operation that, on a window representing `H'`, either appends some `X` or fails extends the
history when it succeeds -/
theorem HistGe.step {base : Array UInt8} {H : Bytes} {w w' : Circ} {snk snk' : Sink}
    (hi : HistGe base H w snk) {r : Sink × Except Err Circ} (h : r = (snk', .ok w'))
    (hsp : ∀ {H'}, CircInv w H' → snk.Perfect →
      (∃ X w'', r = (snk.after w.dictSize H' (H' ++ X), .ok w'') ∧ CircInv w'' (H' ++ X) ∧
        w''.dictSize = w.dictSize ∧ w''.memlimit = w.memlimit) ∨ r = (snk, .error .lzma)) :
    HistGe base H w' snk' := by
  obtain ⟨H', hp, hci, hs, hout⟩ := hi
  rcases hsp hci hs with ⟨X, w'', he, hci', hd, -⟩ | hz
  · rw [he] at h
    cases h
    refine ⟨_, hp.trans (List.prefix_append _ _), hci', Sink.after_perfect hs, ?_⟩
    rw [hd]
    exact Sink.after_out_rel (s0 := { out := base }) (List.prefix_append _ _) hout
  · rw [hz] at h; cases h

theorem histGe_lit {base : Array UInt8} {H : Bytes} (w : Circ) (b : UInt8) (snk snk' : Sink) (w' : Circ)
    (h : LzBuf.appendLiteral w b snk = (snk', .ok w')) (hi : HistGe base H w snk) : HistGe base H w' snk' := by
  refine hi.step (r := w.appendLiteral b snk) h fun {H'} hci hs => ?_
  by_cases hm : min (H'.length + 1) w.dictSize ≤ w.memlimit
  · exact Or.inl ⟨[b], Circ.appendLiteral_ok b hci hs hm⟩
  · exact Or.inr (Circ.appendLiteral_fail snk b hci hm)

theorem histGe_lz {base : Array UInt8} {H : Bytes} (w : Circ) (l d : Nat) (snk snk' : Sink) (w' : Circ)
    (h : LzBuf.appendLz w l d snk = (snk', .ok w')) (hi : HistGe base H w snk) : HistGe base H w' snk' := by
  refine hi.step (r := w.appendLz l d snk) h fun {H'} hci hs => ?_
  by_cases hd0 : d = 0
  · subst hd0
    have hz := Circ.appendLz_zero (s := snk) l hci hs
    split at hz
    · exact Or.inl ⟨_, hz⟩
    · exact Or.inr hz
  · have hz := Circ.appendLz_spec (s := snk) l hci hs (show 1 ≤ d by omega)
    split at hz
    · exact Or.inl ⟨_, hz⟩
    · exact Or.inr hz

end StreamEq

/-! ## Decidable equality of results (for the concrete `example`s) -/

instance Window.decEqSink : DecidableEq Sink := fun a b =>
  decidable_of_iff (a.out = b.out ∧ a.script = b.script ∧ a.writes = b.writes ∧
      a.flushes = b.flushes ∧ a.lastFlush = b.lastFlush)
    ⟨fun ⟨h1, h2, h3, h4, h5⟩ => Sink.ext' h1 h2 h3 h4 h5, fun h => h ▸ ⟨rfl, rfl, rfl, rfl, rfl⟩⟩

instance Window.decEqCirc : DecidableEq Circ := fun a b =>
  decidable_of_iff (a.buf = b.buf ∧ a.dictSize = b.dictSize ∧ a.memlimit = b.memlimit ∧
      a.cursor = b.cursor ∧ a.len = b.len)
    ⟨fun h => by cases a; cases b; simp_all, fun h => h ▸ ⟨rfl, rfl, rfl, rfl, rfl⟩⟩

instance Window.decEqAccum : DecidableEq Accum := fun a b =>
  decidable_of_iff (a.buf = b.buf ∧ a.memlimit = b.memlimit ∧ a.len = b.len)
    ⟨fun h => by cases a; cases b; simp_all, fun h => h ▸ ⟨rfl, rfl, rfl⟩⟩

instance Window.decEqExcept {α : Type} [DecidableEq α] : DecidableEq (Except Err α)
  | .ok a, .ok b => if h : a = b then isTrue (h ▸ rfl) else isFalse (fun e => h (Except.ok.inj e))
  | .error a, .error b =>
    if h : a = b then isTrue (h ▸ rfl) else isFalse (fun e => h (Except.error.inj e))
  | .ok _, .error _ => isFalse nofun
  | .error _, .ok _ => isFalse nofun

end Lzma
