/-
  The loop of `process_mode` (decode/lzma.rs) for any window type.  `applySym_ok` is the case
  analysis of a decoded symbol; `stopTest`/`loopPre`/`loopPost` and `processLoop_succ_eq` cut one
  iteration into stages; `processLoop_inv` carries a unary invariant through the loop (relational
  facts, e.g. `processLoop_lim` in `MemLimit`, walk it again by `processLoop_succ_eq`).  A successful
  Finish-mode loop with nothing staged is a `FinishRun` (`k` full iterations `FinishSteps`, then one
  of three `Exit`s); `finishTrace`/`stepsTrace` compute such runs for concrete streams.  At the end
  of the file: `DState.new`, `LzmaDecoder.new` and the stages of `lzmaDecompress`
  (`lzmaDecompress_ok_iff`).
-/
import LzmaProofs.Lemmas.Header
namespace Lzma

namespace PM

theorem throwM_ok_iff {e : Err} {b : α} {s s' : Sink} :
    (throwM e : M α) s = (s', .ok b) ↔ False :=
  throwM_ne_ok

end PM

namespace DState
variable {ω : Type} [LzBuf ω]

/-- the state after the end marker has been decoded (`rep[0] = 0xFFFF_FFFF`) -/
def markerState (s : DState) : DState :=
  { s with rep3 := s.rep2, rep2 := s.rep1, rep1 := s.rep0, rep0 := 0xFFFFFFFF,
           state := if s.state < 7 then 7 else 10 }

section
variable {s s' : DState} {w w' : ω} {rc rc' : RC} {rd rd' : Rd} {snk snk' : Sink} {st : Status}

/-- the end-marker case of `process_next_inner`, completely -/
theorem applySym_marker (s : DState) (w : ω) (rc : RC) (rd : Rd) (l : Nat) (snk : Sink) :
    applySym s w rc rd (.mtch l 0xFFFFFFFF) snk =
      (snk, match rc.isFinishedOk rd with
        | .ok true => .ok (.finished, markerState s, w)
        | .ok false => .error .lzma
        | .error e => .error e) := by
  simp only [applySym, if_true, bind_run]
  rcases rc.isFinishedOk rd with e | b
  · simp
  · cases b <;> simp [markerState]

/-- A successful `applySym` leaves tables, properties, size and staged input alone.  It reports
`Finished` only for the end marker, after `is_finished_ok`, with window and sink untouched; every
other symbol is one append to the window. -/
theorem applySym_ok {sym : RawSym}
    (h : applySym s w rc rd sym snk = (snk', .ok (st, s', w'))) :
    (s'.probs = s.probs ∧ s'.props = s.props ∧ s'.unpackedSize = s.unpackedSize ∧
      s'.partialBuf = s.partialBuf) ∧
    ((st = .finished ∧ (∃ l, sym = .mtch l 0xFFFFFFFF) ∧ rc.isFinishedOk rd = .ok true ∧
        snk' = snk ∧ w' = w ∧ s' = markerState s) ∨
      (st = .continue ∧ ((∃ b, LzBuf.appendLiteral w b snk = (snk', .ok w')) ∨
        ∃ l d, LzBuf.appendLz w l d snk = (snk', .ok w')))) := by
  cases sym with
  | lit b =>
    simp only [applySym, mBind_eq_ok, mPure_eq_ok] at h
    obtain ⟨a, s1, ha, h, rfl⟩ := h
    cases h; exact ⟨⟨rfl, rfl, rfl, rfl⟩, .inr ⟨rfl, .inl ⟨_, ha⟩⟩⟩
  | shortRep =>
    simp only [applySym, mBind_eq_ok, mPure_eq_ok] at h
    obtain ⟨a, s1, ha, h, rfl⟩ := h
    cases h; exact ⟨⟨rfl, rfl, rfl, rfl⟩, .inr ⟨rfl, .inr ⟨_, _, ha⟩⟩⟩
  | rep idx len =>
    simp only [applySym, mBind_eq_ok, mPure_eq_ok] at h
    obtain ⟨a, s1, ha, h, rfl⟩ := h
    cases h
    exact ⟨by split <;> exact ⟨rfl, rfl, rfl, rfl⟩, .inr ⟨rfl, .inr ⟨_, _, ha⟩⟩⟩
  | mtch len r0 =>
    by_cases hr : r0 = 0xFFFFFFFF
    · subst hr
      rw [applySym_marker] at h
      rcases hf : rc.isFinishedOk rd with e | b
      · simp [hf] at h
      · cases b <;> simp [hf] at h
        obtain ⟨rfl, rfl, rfl, rfl⟩ := h
        exact ⟨⟨rfl, rfl, rfl, rfl⟩, .inl ⟨rfl, ⟨len, rfl⟩, rfl, rfl, rfl, rfl⟩⟩
    · simp only [applySym, hr, if_false, mBind_eq_ok, mPure_eq_ok] at h
      obtain ⟨a, s1, ha, h, rfl⟩ := h
      cases h; exact ⟨⟨rfl, rfl, rfl, rfl⟩, .inr ⟨rfl, .inr ⟨_, _, ha⟩⟩⟩

theorem applySym_inv {I : ω → Sink → Prop}
    (hlit : ∀ w b snk snk' w', LzBuf.appendLiteral w b snk = (snk', .ok w') → I w snk → I w' snk')
    (hlz : ∀ w l d snk snk' w', LzBuf.appendLz w l d snk = (snk', .ok w') → I w snk → I w' snk')
    {sym : RawSym}
    (h : applySym s w rc rd sym snk = (snk', .ok (st, s', w'))) (hi : I w snk) : I w' snk' := by
  rcases (applySym_ok h).2 with ⟨-, -, -, rfl, rfl, -⟩ | ⟨-, ⟨b, ha⟩ | ⟨l, d, ha⟩⟩
  · exact hi
  · exact hlit _ _ _ _ _ ha hi
  · exact hlz _ _ _ _ _ _ ha hi

theorem processNext_ok_iff :
    processNext s w rc rd snk = (snk', .ok (st, s', w', rc', rd')) ↔
      ∃ sym probs, runDec true (symTree (s.mkCtx w)) s.probs rc rd = .ok (sym, probs, rc', rd') ∧
        applySym { s with probs := probs } w rc' rd' sym snk = (snk', .ok (st, s', w')) := by
  simp only [processNext, mBind_eq_ok, liftE_eq_ok, mPure_eq_ok]
  constructor
  · rintro ⟨⟨sym, probs, rc1, rd1⟩, s1, ⟨h1, rfl⟩, ⟨st2, s2', w2⟩, s2, h2, h3, rfl⟩
    cases h3
    exact ⟨sym, probs, h1, h2⟩
  · rintro ⟨sym, probs, h1, h2⟩
    exact ⟨(sym, probs, rc', rd'), snk, ⟨h1, rfl⟩, (st, s', w'), snk', h2, rfl, rfl⟩

theorem processNext_inv {I : DState → ω → Sink → Prop}
    (hdec : ∀ {s : DState} {w : ω} {rc rd sym probs rc' rd'} {snk : Sink},
      runDec true (symTree (s.mkCtx w)) s.probs rc rd = .ok (sym, probs, rc', rd') →
      I s w snk → I { s with probs := probs } w snk)
    (happ : ∀ {s : DState} {w : ω} {rc rd sym snk snk' st s' w'},
      applySym s w rc rd sym snk = (snk', .ok (st, s', w')) → I s w snk → I s' w' snk')
    (h : processNext s w rc rd snk = (snk', .ok (st, s', w', rc', rd'))) (hi : I s w snk) :
    I s' w' snk' :=
  let ⟨_, _, h1, h2⟩ := processNext_ok_iff.1 h
  happ h2 (hdec h1 hi)

theorem processNext_fields
    (h : processNext s w rc rd snk = (snk', .ok (st, s', w', rc', rd'))) :
    s'.unpackedSize = s.unpackedSize ∧ s'.props = s.props ∧ s'.partialBuf = s.partialBuf :=
  let ⟨_, _, _, h2⟩ := processNext_ok_iff.1 h
  let ⟨⟨_, hp, hu, hb⟩, _⟩ := applySym_ok h2
  ⟨hu, hp, hb⟩

/-- `process_next` returns `Finished` exactly when the decoded symbol is the end marker and
`is_finished_ok` holds for the coder state right after the marker's last bit -/
theorem processNext_finished_iff :
    processNext s w rc rd snk = (snk', .ok (.finished, s', w', rc', rd')) ↔
      ∃ l probs, runDec true (symTree (s.mkCtx w)) s.probs rc rd =
          .ok (.mtch l 0xFFFFFFFF, probs, rc', rd') ∧
        rc'.isFinishedOk rd' = .ok true ∧ snk' = snk ∧ w' = w ∧
        s' = markerState { s with probs := probs } := by
  rw [processNext_ok_iff]
  constructor
  · rintro ⟨sym, probs, h1, h2⟩
    rcases (applySym_ok h2).2 with ⟨-, ⟨l, rfl⟩, h3, h4, h5, h6⟩ | ⟨hst, -⟩
    · exact ⟨l, probs, h1, h3, h4, h5, h6⟩
    · cases hst
  · rintro ⟨l, probs, h1, h3, rfl, rfl, rfl⟩
    refine ⟨_, probs, h1, ?_⟩
    rw [applySym_marker, h3]

end

/-- the test at the top of the loop of `process_mode` -/
def stopTest (mode : Mode) (s : DState) (w : ω) (rc : RC) (rd : Rd) : Except Err Bool :=
  match s.unpackedSize with
  | some n => pure (decide (LzBuf.len w ≥ n))
  | none =>
    match mode with
    | .stream => do
      let e ← rd.isEof
      pure (e && s.partialBuf.isEmpty)
    | .finish => do
      let f ← rc.isFinishedOk rd
      pure (f && s.partialBuf.isEmpty)

/-- what one iteration of the loop of `process_mode` does before it calls `process_next` -/
inductive LoopPre where
  | err (e : Err)
  | ret (s : DState) (rd : Rd)
  | next (s : DState) (rdN : Rd) (staged : Bool) (rd : Rd)

/-- `stop` is the result of the top-of-loop test, `tryN` the dry run `try_process_next` -/
def loopPre (mode : Mode) (s : DState) (stop : Except Err Bool) (tryN : DState → Bytes → Bool)
    (rd : Rd) : LoopPre :=
  match stop with
  | .error e => .err e
  | .ok true => .ret s rd
  | .ok false =>
    if !s.partialBuf.isEmpty then
      match s.readPartialInputBuf rd with
      | .error e => .err e
      | .ok (s, rd) =>
        if mode = .stream ∧ s.partialBuf.length < MAX_REQUIRED_INPUT ∧ !(tryN s s.partialBuf) then
          .ret s rd
        else .next s (Rd.ofBytes s.partialBuf) true rd
    else
      match rd.fillBuf with
      | .error e => .err e
      | .ok () =>
        if mode = .stream ∧ rd.rem.length < MAX_REQUIRED_INPUT ∧ !(tryN s rd.rem) then
          match s.readPartialInputBuf rd with
          | .error e => .err e
          | .ok (s, rd) => .ret s rd
        else .next s rd false rd

/-- what the iteration does with the result of `process_next` -/
def loopPost (mode : Mode) (fuel : Nat) (staged : Bool) (rd : Rd)
    (x : Status × DState × ω × RC × Rd) : M (DState × ω × RC × Rd) :=
  let s := if staged then { x.2.1 with partialBuf := x.2.2.2.2.rem } else x.2.1
  let rd := if staged then rd else x.2.2.2.2
  if x.1 = .finished then pure (s, x.2.2.1, x.2.2.2.1, rd)
  else processLoop mode fuel s x.2.2.1 x.2.2.2.1 rd

theorem processLoop_succ_eq (mode : Mode) (fuel : Nat) (s : DState) (w : ω) (rc : RC) (rd : Rd) :
    processLoop mode (fuel + 1) s w rc rd =
      match loopPre mode s (stopTest mode s w rc rd) (fun s b => s.tryProcessNext w b rc) rd with
      | .err e => throwM e
      | .ret s rd => pure (s, w, rc, rd)
      | .next s rdN staged rd => processNext s w rc rdN >>= loopPost mode fuel staged rd := by
  conv => lhs; unfold processLoop
  funext snk
  unfold loopPre
  show (liftE (stopTest mode s w rc rd) >>= _) snk = _
  rcases stopTest mode s w rc rd with e | b
  · rfl
  · cases b
    · simp only [bind_run, liftE_ok, Bool.false_eq_true, if_false]
      by_cases hp : (!s.partialBuf.isEmpty) = true
      · simp only [hp, if_true]
        rcases s.readPartialInputBuf rd with e | ⟨s2, rd2⟩
        · rfl
        · simp only [bind_run, liftE_ok]
          split
          · rfl
          · rfl
      · simp only [hp]
        rcases rd.fillBuf with e | u
        · rfl
        · by_cases hc : mode = Mode.stream ∧ rd.rem.length < MAX_REQUIRED_INPUT ∧
              (!s.tryProcessNext w rd.rem rc) = true
          · simp only [if_pos hc]
            rcases s.readPartialInputBuf rd with e | ⟨s2, rd2⟩
            · rfl
            · rfl
          · simp only [if_neg hc]
            rfl
    · rfl

section
variable {s s' : DState} {w w' : ω} {rc rc' : RC} {rd rd' : Rd} {snk snk' : Sink} {st : Status}

theorem readPartialInputBuf_ok
    (h : s.readPartialInputBuf rd = .ok (s', rd')) : ∃ pb, s' = { s with partialBuf := pb } := by
  simp only [readPartialInputBuf] at h
  split at h
  · cases h
  · cases h; exact ⟨_, rfl⟩

theorem processLoop_finish_succ (hp : s.partialBuf = []) (fuel : Nat) (w : ω)
    (rc : RC) (rd : Rd) :
    processLoop .finish (fuel + 1) s w rc rd = (do
      let stop ← liftE (stopTest .finish s w rc rd)
      if stop then pure (s, w, rc, rd)
      else do
        liftE rd.fillBuf
        let (st, s, w, rc, rd) ← processNext s w rc rd
        if st = .finished then pure (s, w, rc, rd) else processLoop .finish fuel s w rc rd) := by
  rw [processLoop]
  simp only [hp, stopTest, List.isEmpty_nil, Bool.not_true, Bool.false_eq_true, if_false]
  rfl

theorem loopPre_state (mode : Mode) (s : DState) (stop : Except Err Bool)
    (tryN : DState → Bytes → Bool) (rd : Rd) :
    match loopPre mode s stop tryN rd with
    | .err _ => True
    | .ret s2 _ => ∃ pb, s2 = { s with partialBuf := pb }
    | .next s2 _ _ _ => ∃ pb, s2 = { s with partialBuf := pb } := by
  have hself : ∃ pb, s = { s with partialBuf := pb } := ⟨s.partialBuf, rfl⟩
  unfold loopPre
  rcases stop with e | b
  · exact True.intro
  · cases b
    · dsimp only
      by_cases hp : (!s.partialBuf.isEmpty) = true
      · rw [if_pos hp]
        rcases hr : s.readPartialInputBuf rd with e | ⟨s3, rd3⟩
        · exact True.intro
        · dsimp only
          by_cases hc : mode = .stream ∧ s3.partialBuf.length < MAX_REQUIRED_INPUT ∧
              (!tryN s3 s3.partialBuf) = true
          · rw [if_pos hc]; exact readPartialInputBuf_ok hr
          · rw [if_neg hc]; exact readPartialInputBuf_ok hr
      · rw [if_neg hp]
        rcases rd.fillBuf with e | u
        · exact True.intro
        · dsimp only
          by_cases hc : mode = .stream ∧ rd.rem.length < MAX_REQUIRED_INPUT ∧ (!tryN s rd.rem) = true
          · rw [if_pos hc]
            rcases hr : s.readPartialInputBuf rd with e | ⟨s3, rd3⟩
            · exact True.intro
            · exact readPartialInputBuf_ok hr
          · rw [if_neg hc]; exact hself
    · exact hself

/-- The one walk through the loop of `process_mode` (any mode, any fuel, any window type): an
invariant of decoder state, window and sink that `process_next` preserves and that does not look
at `partial_input_buf` holds at every successful exit. -/
theorem processLoop_inv {mode : Mode} {I : DState → ω → Sink → Prop}
    (hpb : ∀ {s : DState} {w : ω} {snk : Sink} (pb : Bytes),
      I s w snk → I { s with partialBuf := pb } w snk)
    (hnext : ∀ {s : DState} {w : ω} {rc rd snk snk' st s' w' rc' rd'},
      processNext s w rc rd snk = (snk', .ok (st, s', w', rc', rd')) → I s w snk → I s' w' snk') :
    ∀ (fuel : Nat) {s : DState} {w : ω} {rc : RC} {rd : Rd} {snk snk' : Sink} {s' : DState} {w' : ω}
      {rc' : RC} {rd' : Rd},
      processLoop mode fuel s w rc rd snk = (snk', .ok (s', w', rc', rd')) → I s w snk →
      I s' w' snk' := by
  intro fuel
  induction fuel with
  | zero => intro s w rc rd snk snk' s' w' rc' rd' h; cases h
  | succ fuel ih =>
    intro s w rc rd snk snk' s' w' rc' rd' h hi
    rw [processLoop_succ_eq] at h
    have hs2 := loopPre_state mode s (stopTest mode s w rc rd) (fun s b => s.tryProcessNext w b rc) rd
    rcases hp : loopPre mode s (stopTest mode s w rc rd) (fun s b => s.tryProcessNext w b rc) rd with
      e | ⟨s2, rd2⟩ | ⟨s2, rdN, staged, rd2⟩ <;> rw [hp] at h hs2
    · cases h
    · obtain ⟨pb, rfl⟩ := hs2
      obtain ⟨h, rfl⟩ := mPure_eq_ok.1 h
      cases h; exact hpb pb hi
    · obtain ⟨pb, rfl⟩ := hs2
      obtain ⟨⟨st, sa, wa, rca, rda⟩, s1, hn, h⟩ := mBind_eq_ok.1 h
      have hi1 := hnext hn (hpb pb hi)
      unfold loopPost at h
      dsimp only at h
      have hi2 : I (if staged then { sa with partialBuf := rda.rem } else sa) wa s1 := by
        split
        · exact hpb _ hi1
        · exact hi1
      split at h
      · obtain ⟨h, rfl⟩ := mPure_eq_ok.1 h
        cases h; exact hi2
      · exact ih h hi2

theorem processLoop_fields {mode : Mode} (fuel : Nat)
    (h : processLoop mode fuel s w rc rd snk = (snk', .ok (s', w', rc', rd'))) :
    s'.unpackedSize = s.unpackedSize ∧ s'.props = s.props :=
  processLoop_inv (I := fun t _ _ => t.unpackedSize = s.unpackedSize ∧ t.props = s.props)
    (fun _ hi => hi)
    (fun hn hi => let ⟨h1, h2, _⟩ := processNext_fields hn; ⟨h1.trans hi.1, h2.trans hi.2⟩)
    fuel h ⟨rfl, rfl⟩

theorem processMode_ok_iff {mode : Mode} :
    processMode mode s w rc rd snk = (snk', .ok (s', w', rc', rd')) ↔
      processLoop mode (loopFuel s rd) s w rc rd snk = (snk', .ok (s', w', rc', rd')) ∧
      (∀ n, s.unpackedSize = some n → mode = .finish → LzBuf.len w' = n) := by
  simp only [processMode, mBind_eq_ok]
  constructor
  · rintro ⟨⟨sa, wa, rca, rda⟩, s1, hl, h⟩
    have hf := (processLoop_fields _ hl).1
    simp only at h
    rcases hu : sa.unpackedSize with _ | n <;> simp only [hu] at h
    · obtain ⟨h, rfl⟩ := mPure_eq_ok.1 h; cases h
      exact ⟨hl, fun m hm => by rw [hf, hm] at hu; cases hu⟩
    · split at h
      · cases h
      · rename_i hc
        obtain ⟨h, rfl⟩ := mPure_eq_ok.1 h; cases h
        refine ⟨hl, fun m hm hmode => ?_⟩
        rw [hf, hm] at hu; cases hu
        exact (Decidable.not_not.1 fun hne => hc ⟨hmode, hne⟩).symm
  · rintro ⟨hl, hsz⟩
    refine ⟨_, _, hl, ?_⟩
    have hf := (processLoop_fields _ hl).1
    simp only
    rcases hu : s'.unpackedSize with _ | n <;> simp only
    · rfl
    · rw [if_neg fun hc => hc.2 (hsz n (hf ▸ hu) hc.1).symm]; rfl

theorem processMode_error_iff {mode : Mode} {s : DState} {w : ω} {rc : RC}
    {rd : Rd} {snk snk' : Sink} {e : Err} :
    processMode mode s w rc rd snk = (snk', .error e) ↔
      processLoop mode (loopFuel s rd) s w rc rd snk = (snk', .error e) ∨
      ∃ s' w' rc' rd' n, processLoop mode (loopFuel s rd) s w rc rd snk = (snk', .ok (s', w', rc', rd')) ∧
        s'.unpackedSize = some n ∧ mode = .finish ∧ n ≠ LzBuf.len w' ∧ e = .lzma := by
  unfold processMode
  generalize loopFuel s rd = fuel
  rw [mBind_eq_error]
  refine or_congr Iff.rfl ⟨?_, ?_⟩
  · rintro ⟨⟨s', w', rc', rd'⟩, s1, hl, h⟩
    simp only at h
    rcases hu : s'.unpackedSize with _ | n <;> simp only [hu] at h
    · exact (mPure_ne_error.mp h).elim
    · split at h
      · rename_i hc
        obtain ⟨rfl, rfl⟩ := throwM_eq_error.mp h
        exact ⟨s', w', rc', rd', n, hl, hu, hc.1, hc.2, rfl⟩
      · exact (mPure_ne_error.mp h).elim
  · rintro ⟨s', w', rc', rd', n, hl, hu, hm, hn, rfl⟩
    exact ⟨(s', w', rc', rd'), snk', hl, by simp [hu, hm, hn]⟩

theorem processMode_inv {mode : Mode} {I : DState → ω → Sink → Prop}
    (hpb : ∀ {s : DState} {w : ω} {snk : Sink} (pb : Bytes),
      I s w snk → I { s with partialBuf := pb } w snk)
    (hnext : ∀ {s : DState} {w : ω} {rc rd snk snk' st s' w' rc' rd'},
      processNext s w rc rd snk = (snk', .ok (st, s', w', rc', rd')) → I s w snk → I s' w' snk')
    (h : processMode mode s w rc rd snk = (snk', .ok (s', w', rc', rd'))) (hi : I s w snk) :
    I s' w' snk' :=
  processLoop_inv hpb hnext _ (processMode_ok_iff.1 h).1 hi

theorem processMode_finish_size {n : Nat}
    (h : processMode .finish s w rc rd snk = (snk', .ok (s', w', rc', rd')))
    (hn : s.unpackedSize = some n) : LzBuf.len w' = n :=
  (processMode_ok_iff.1 h).2 n hn rfl

theorem processMode_fields {mode : Mode}
    (h : processMode mode s w rc rd snk = (snk', .ok (s', w', rc', rd'))) :
    s'.unpackedSize = s.unpackedSize ∧ s'.props = s.props :=
  processLoop_fields _ (processMode_ok_iff.1 h).1

theorem stopTest_some {mode : Mode} {n : Nat}
    (h : s.unpackedSize = some n) : stopTest mode s w rc rd = .ok (decide (n ≤ LzBuf.len w)) := by
  simp [stopTest, h, pure, Except.pure]

theorem stopTest_none_finish
    (h : s.unpackedSize = none) (hp : s.partialBuf = []) :
    stopTest .finish s w rc rd = rc.isFinishedOk rd := by
  simp only [stopTest, h, hp, List.isEmpty_nil, Bool.and_true]
  cases rc.isFinishedOk rd <;> rfl

theorem isFinishedOk_eq (rc : RC) (rd : Rd) :
    rc.isFinishedOk rd = if rc.code = 0 then rd.isEof else .ok false := by
  unfold RC.isFinishedOk
  by_cases hc : rc.code = 0 <;> simp [hc, pure, Except.pure]

theorem isFinishedOk_iff :
    rc.isFinishedOk rd = .ok true ↔ rc.code = 0 ∧ rd.rem = [] ∧ rd.bad = false := by
  rw [isFinishedOk_eq, Rd.isEof]
  by_cases hc : rc.code = 0 <;> by_cases hr : rd.rem = [] <;> cases rd.bad <;> simp [hc, hr]

end

/-- configuration of the loop of `process_mode`: decoder state, window, range coder, reader, sink -/
structure Cfg (ω : Type) where
  s : DState
  w : ω
  rc : RC
  rd : Rd
  snk : Sink

/-- how a successful Finish-mode loop was left -/
inductive Exit where
  /-- top-of-loop test `output.len() >= unpacked_size` -/
  | sizeReached
  /-- top-of-loop test `is_finished_ok()` with no size in effect (finding K1 of DESIGN.md §6:
  no end marker needed) -/
  | cleanEof
  /-- `process_next` returned `Finished`: the end marker was decoded -/
  | marker
  deriving DecidableEq, Repr

/-- `FinishSteps c k c'`: starting from `c`, the loop performs `k` full iterations (test false,
`fill_buf` ok, `process_next` returns `Continue`) and is then at `c'` -/
inductive FinishSteps : Cfg ω → Nat → Cfg ω → Prop where
  | refl (c : Cfg ω) : FinishSteps c 0 c
  | step {c : Cfg ω} {s1 : DState} {w1 : ω} {rc1 : RC} {rd1 : Rd} {snk1 : Sink} {k : Nat} {c' : Cfg ω} :
      stopTest .finish c.s c.w c.rc c.rd = .ok false →
      c.rd.fillBuf = .ok () →
      processNext c.s c.w c.rc c.rd c.snk = (snk1, .ok (.continue, s1, w1, rc1, rd1)) →
      FinishSteps ⟨s1, w1, rc1, rd1, snk1⟩ k c' →
      FinishSteps c (k + 1) c'

/-- `FinishRun c k e c'`: starting from `c`, the Finish-mode loop calls `process_next` `k` times
and leaves successfully by exit `e` in configuration `c'` -/
inductive FinishRun : Cfg ω → Nat → Exit → Cfg ω → Prop where
  | sizeReached {c : Cfg ω} {n : Nat} :
      c.s.unpackedSize = some n → n ≤ LzBuf.len c.w → FinishRun c 0 .sizeReached c
  | cleanEof {c : Cfg ω} :
      c.s.unpackedSize = none → c.rc.isFinishedOk c.rd = .ok true → FinishRun c 0 .cleanEof c
  | marker {c : Cfg ω} {s' : DState} {w' : ω} {rc' : RC} {rd' : Rd} {snk' : Sink} :
      stopTest .finish c.s c.w c.rc c.rd = .ok false →
      c.rd.fillBuf = .ok () →
      processNext c.s c.w c.rc c.rd c.snk = (snk', .ok (.finished, s', w', rc', rd')) →
      FinishRun c 1 .marker ⟨s', w', rc', rd', snk'⟩
  | step {c : Cfg ω} {s1 : DState} {w1 : ω} {rc1 : RC} {rd1 : Rd} {snk1 : Sink} {k : Nat} {e : Exit}
      {c' : Cfg ω} :
      stopTest .finish c.s c.w c.rc c.rd = .ok false →
      c.rd.fillBuf = .ok () →
      processNext c.s c.w c.rc c.rd c.snk = (snk1, .ok (.continue, s1, w1, rc1, rd1)) →
      FinishRun ⟨s1, w1, rc1, rd1, snk1⟩ k e c' →
      FinishRun c (k + 1) e c'

theorem processLoop_finish_stop {c : Cfg ω} (hp : c.s.partialBuf = [])
    (hstop : stopTest .finish c.s c.w c.rc c.rd = .ok true) (fuel : Nat) :
    processLoop .finish (fuel + 1) c.s c.w c.rc c.rd c.snk =
      (c.snk, .ok (c.s, c.w, c.rc, c.rd)) := by
  rw [processLoop_finish_succ hp]
  simp only [bind_run, hstop, liftE_ok, if_true, pure_run]

theorem _root_.Lzma.processLoop_finish_next {c : Cfg ω} (hp : c.s.partialBuf = [])
    (hstop : stopTest .finish c.s c.w c.rc c.rd = .ok false) (hfill : c.rd.fillBuf = .ok ())
    (fuel : Nat) :
    processLoop .finish (fuel + 1) c.s c.w c.rc c.rd c.snk =
      match processNext c.s c.w c.rc c.rd c.snk with
      | (snk1, .ok (.continue, s1, w1, rc1, rd1)) => processLoop .finish fuel s1 w1 rc1 rd1 snk1
      | (snk1, .ok (.finished, r)) => (snk1, .ok r)
      | (snk1, .error x) => (snk1, .error x) := by
  rw [processLoop_finish_succ hp]
  simp only [bind_run, hstop, hfill, liftE_ok, Bool.false_eq_true, if_false]
  rcases processNext c.s c.w c.rc c.rd c.snk with ⟨snk1, x | ⟨st, s1, w1, rc1, rd1⟩⟩
  · rfl
  · cases st <;> rfl

theorem processLoop_finish_run : ∀ (fuel : Nat) {c : Cfg ω} {snk' : Sink} {s' : DState} {w' : ω}
    {rc' : RC} {rd' : Rd}, c.s.partialBuf = [] →
    processLoop .finish fuel c.s c.w c.rc c.rd c.snk = (snk', .ok (s', w', rc', rd')) →
    ∃ k e, FinishRun c k e ⟨s', w', rc', rd', snk'⟩ := by
  intro fuel
  induction fuel with
  | zero => intro c snk' s' w' rc' rd' _ h; simp [processLoop] at h
  | succ fuel ih =>
    intro c snk' s' w' rc' rd' hp h
    rw [processLoop_finish_succ hp] at h
    simp only [mBind_eq_ok, liftE_eq_ok] at h
    obtain ⟨stop, s1, ⟨hstop, rfl⟩, h⟩ := h
    cases stop with
    | true =>
      simp only [if_true, mPure_eq_ok] at h
      obtain ⟨h, rfl⟩ := h; cases h
      rcases hu : c.s.unpackedSize with _ | n
      · rw [stopTest_none_finish hu hp] at hstop
        exact ⟨0, .cleanEof, .cleanEof hu hstop⟩
      · rw [stopTest_some hu] at hstop
        have : n ≤ LzBuf.len c.w := by simpa using hstop
        exact ⟨0, .sizeReached, .sizeReached hu this⟩
    | false =>
      simp only [Bool.false_eq_true, if_false, mBind_eq_ok, liftE_eq_ok] at h
      obtain ⟨u, s2, ⟨hfill, rfl⟩, ⟨st, sb, wb, rcb, rdb⟩, s3, hn, h⟩ := h
      simp only at h
      cases st with
      | finished =>
        simp only [if_true, mPure_eq_ok] at h
        obtain ⟨h, rfl⟩ := h; cases h
        exact ⟨1, .marker, .marker hstop hfill hn⟩
      | «continue» =>
        simp only [reduceCtorEq, if_false] at h
        have hpb : sb.partialBuf = [] := (processNext_fields hn).2.2.trans hp
        obtain ⟨k, e, hrun⟩ := ih (c := ⟨sb, wb, rcb, rdb, s3⟩) hpb h
        exact ⟨k + 1, e, .step hstop hfill hn hrun⟩

theorem FinishSteps.loop_eq {c c' : Cfg ω} {k : Nat} (h : FinishSteps c k c') :
    c.s.partialBuf = [] → ∀ fuel,
    processLoop .finish (fuel + k) c.s c.w c.rc c.rd c.snk =
      processLoop .finish fuel c'.s c'.w c'.rc c'.rd c'.snk := by
  induction h with
  | refl c => intro _ fuel; rfl
  | step hstop hfill hn _ ih =>
    intro hp fuel
    rw [← Nat.add_assoc, processLoop_finish_next hp hstop hfill, hn]
    exact ih ((processNext_fields hn).2.2.trans hp) fuel

theorem FinishSteps.partialBuf {c c' : Cfg ω} {k : Nat} (h : FinishSteps c k c') :
    c.s.partialBuf = [] → c'.s.partialBuf = [] := by
  induction h with
  | refl c => exact id
  | step _ _ hn _ ih => intro hp; exact ih ((processNext_fields hn).2.2.trans hp)

theorem FinishSteps.fields {c c' : Cfg ω} {k : Nat} (h : FinishSteps c k c') :
    c'.s.unpackedSize = c.s.unpackedSize ∧ c'.s.props = c.s.props := by
  induction h with
  | refl c => exact ⟨rfl, rfl⟩
  | step _ _ hn _ ih =>
    have := processNext_fields hn
    exact ⟨ih.1.trans this.1, ih.2.trans this.2.1⟩

theorem FinishRun.loop_cases {c c' : Cfg ω} {k : Nat} {e : Exit} (h : FinishRun c k e c') :
    c.s.partialBuf = [] → ∀ fuel,
    processLoop .finish fuel c.s c.w c.rc c.rd c.snk = (c'.snk, .ok (c'.s, c'.w, c'.rc, c'.rd)) ∨
      (fuel ≤ k ∧ (processLoop .finish fuel c.s c.w c.rc c.rd c.snk).2 = .error .fuel) := by
  induction h with
  | @sizeReached c n hu hlen =>
    rintro hp (_ | f)
    · exact .inr ⟨Nat.le_refl 0, rfl⟩
    · exact .inl (processLoop_finish_stop hp (by rw [stopTest_some hu, decide_eq_true hlen]) f)
  | @cleanEof c hu hfin =>
    rintro hp (_ | f)
    · exact .inr ⟨Nat.le_refl 0, rfl⟩
    · exact .inl (processLoop_finish_stop hp (by rw [stopTest_none_finish hu hp, hfin]) f)
  | marker hstop hfill hn =>
    rintro hp (_ | f)
    · exact .inr ⟨Nat.zero_le _, rfl⟩
    · exact .inl (by rw [processLoop_finish_next hp hstop hfill, hn])
  | step hstop hfill hn _ ih =>
    rintro hp (_ | f)
    · exact .inr ⟨Nat.zero_le _, rfl⟩
    · rw [processLoop_finish_next hp hstop hfill, hn]
      exact (ih ((processNext_fields hn).2.2.trans hp) f).imp id
        fun h => ⟨Nat.succ_le_succ h.1, h.2⟩

theorem FinishRun.loop_ok {c c' : Cfg ω} {k : Nat} {e : Exit} (h : FinishRun c k e c')
    (hp : c.s.partialBuf = []) (fuel : Nat) (hk : k < fuel) :
    processLoop .finish fuel c.s c.w c.rc c.rd c.snk = (c'.snk, .ok (c'.s, c'.w, c'.rc, c'.rd)) :=
  (h.loop_cases hp fuel).resolve_right fun h' => Nat.not_lt.2 h'.1 hk

/-- for callers that get "the fuel does not run out" from the termination theorem
`processLoop_terminates` instead of counting iterations -/
theorem FinishRun.loop_ok_of_ne_fuel {c c' : Cfg ω} {k : Nat} {x : Exit} (h : FinishRun c k x c')
    (hp : c.s.partialBuf = []) (fuel : Nat)
    (hne : (processLoop .finish fuel c.s c.w c.rc c.rd c.snk).2 ≠ .error .fuel) :
    processLoop .finish fuel c.s c.w c.rc c.rd c.snk = (c'.snk, .ok (c'.s, c'.w, c'.rc, c'.rd)) :=
  (h.loop_cases hp fuel).resolve_right fun h' => hne h'.2

theorem FinishSteps.loop_err_of_ne_fuel {c c1 : Cfg ω} {k : Nat} (h : FinishSteps c k c1) :
    c.s.partialBuf = [] → ∀ {snk1 : Sink} {x : Err},
    stopTest .finish c1.s c1.w c1.rc c1.rd = .ok false → c1.rd.fillBuf = .ok () →
    processNext c1.s c1.w c1.rc c1.rd c1.snk = (snk1, .error x) → ∀ fuel,
    (processLoop .finish fuel c.s c.w c.rc c.rd c.snk).2 ≠ .error .fuel →
    processLoop .finish fuel c.s c.w c.rc c.rd c.snk = (snk1, .error x) := by
  induction h with
  | refl c =>
    rintro hp snk1 x hstop hfill hn (_ | f) hne
    · exact absurd rfl hne
    · rw [processLoop_finish_next hp hstop hfill, hn]
  | step hstop hfill hn _ ih =>
    rintro hp snk1 x hstop1 hfill1 hn1 (_ | f) hne
    · exact absurd rfl hne
    · rw [processLoop_finish_next hp hstop hfill, hn] at hne ⊢
      exact ih ((processNext_fields hn).2.2.trans hp) hstop1 hfill1 hn1 f hne

theorem FinishRun.fields {c c' : Cfg ω} {k : Nat} {e : Exit} (h : FinishRun c k e c') :
    c'.s.unpackedSize = c.s.unpackedSize ∧ c'.s.props = c.s.props := by
  induction h with
  | sizeReached _ _ => exact ⟨rfl, rfl⟩
  | cleanEof _ _ => exact ⟨rfl, rfl⟩
  | marker _ _ hn => have := processNext_fields hn; exact ⟨this.1, this.2.1⟩
  | step _ _ hn _ ih =>
    have := processNext_fields hn
    exact ⟨ih.1.trans this.1, ih.2.trans this.2.1⟩

theorem FinishRun.exit_spec {c c' : Cfg ω} {k : Nat} {e : Exit} (h : FinishRun c k e c') :
    match e with
    | .sizeReached => ∃ n, c.s.unpackedSize = some n ∧ n ≤ LzBuf.len c'.w
    | .cleanEof => c.s.unpackedSize = none ∧ c'.rc.isFinishedOk c'.rd = .ok true
    | .marker => 1 ≤ k ∧ c'.rc.isFinishedOk c'.rd = .ok true := by
  induction h with
  | sizeReached hu hlen => exact ⟨_, hu, hlen⟩
  | cleanEof hu hfin => exact ⟨hu, hfin⟩
  | marker _ _ hn =>
    obtain ⟨l, probs, -, hfin, -⟩ := processNext_finished_iff.1 hn
    exact ⟨Nat.le_refl 1, hfin⟩
  | @step c s1 w1 rc1 rd1 snk1 k e c' _ _ hn _ ih =>
    have := (processNext_fields hn).1
    cases e with
    | sizeReached => obtain ⟨n, h1, h2⟩ := ih; exact ⟨n, by rw [← this]; exact h1, h2⟩
    | cleanEof => exact ⟨by rw [← this]; exact ih.1, ih.2⟩
    | marker => exact ⟨by omega, ih.2⟩

theorem FinishRun.head {c c' : Cfg ω} {k : Nat} {e : Exit} (h : FinishRun c k e c') :
    (k = 0 ∧ c' = c) ∨ ∃ snk1 st s1 w1 rc1 rd1,
      stopTest .finish c.s c.w c.rc c.rd = .ok false ∧
      processNext c.s c.w c.rc c.rd c.snk = (snk1, .ok (st, s1, w1, rc1, rd1)) ∧
      (st = .finished → c' = ⟨s1, w1, rc1, rd1, snk1⟩) := by
  cases h with
  | sizeReached _ _ => exact .inl ⟨rfl, rfl⟩
  | cleanEof _ _ => exact .inl ⟨rfl, rfl⟩
  | marker hstop _ hn => exact .inr ⟨_, _, _, _, _, _, hstop, hn, fun _ => rfl⟩
  | step hstop _ hn _ => exact .inr ⟨_, _, _, _, _, _, hstop, hn, fun h => nomatch h⟩

/-- the loop is deterministic: a successful run extends every prefix of full iterations -/
theorem FinishSteps.run_split {c c1 : Cfg ω} {k : Nat} (hs : FinishSteps c k c1) :
    ∀ {k' : Nat} {e : Exit} {c' : Cfg ω}, FinishRun c k' e c' → c.s.partialBuf = [] →
    ∃ j, k' = k + j ∧ FinishRun c1 j e c' := by
  induction hs with
  | refl c => intro k' e c' hr _; exact ⟨k', by omega, hr⟩
  | step hstop hfill hn _ ih =>
    intro k' e c' hr hp
    cases hr with
    | sizeReached hu hlen =>
      rw [stopTest_some hu, decide_eq_true hlen] at hstop; cases hstop
    | cleanEof hu hfin =>
      rw [stopTest_none_finish hu hp, hfin] at hstop; cases hstop
    | marker _ _ hn' => rw [hn] at hn'; cases hn'
    | step _ _ hn' hr' =>
      rw [hn] at hn'; cases hn'
      obtain ⟨j, hj, hr''⟩ := ih hr' ((processNext_fields hn).2.2.trans hp)
      exact ⟨j, by omega, hr''⟩

theorem FinishSteps.append_run {c c1 : Cfg ω} {k : Nat} (hs : FinishSteps c k c1) :
    ∀ {j : Nat} {e : Exit} {c' : Cfg ω}, FinishRun c1 j e c' → FinishRun c (k + j) e c' := by
  induction hs with
  | refl c => intro j e c' hr; simpa using hr
  | @step _ _ _ _ _ _ k0 _ hstop hfill hn _ ih =>
    intro j e c' hr
    have := FinishRun.step hstop hfill hn (ih hr)
    rwa [show k0 + 1 + j = k0 + j + 1 by omega]

/-- run the Finish-mode loop for at most `fuel` iterations, recording the number of
`process_next` calls and the exit -/
def finishTrace : Nat → Cfg ω → Option (Nat × Exit × Cfg ω)
  | 0, _ => none
  | fuel + 1, c =>
    match stopTest .finish c.s c.w c.rc c.rd with
    | .ok true => some (0, if c.s.unpackedSize.isSome then .sizeReached else .cleanEof, c)
    | .ok false =>
      match c.rd.fillBuf, processNext c.s c.w c.rc c.rd c.snk with
      | .ok (), (snk1, .ok (.finished, s1, w1, rc1, rd1)) => some (1, .marker, ⟨s1, w1, rc1, rd1, snk1⟩)
      | .ok (), (snk1, .ok (.continue, s1, w1, rc1, rd1)) =>
        match finishTrace fuel ⟨s1, w1, rc1, rd1, snk1⟩ with
        | some (k, e, c') => some (k + 1, e, c')
        | none => none
      | _, _ => none
    | .error _ => none

theorem finishTrace_sound : ∀ (fuel : Nat) {c c' : Cfg ω} {k : Nat} {e : Exit},
    finishTrace fuel c = some (k, e, c') → c.s.partialBuf = [] → FinishRun c k e c' := by
  intro fuel
  induction fuel with
  | zero => intro c c' k e h; simp [finishTrace] at h
  | succ fuel ih =>
    intro c c' k e h hp
    unfold finishTrace at h
    split at h
    · rename_i hstop
      simp only [Option.some.injEq, Prod.mk.injEq] at h
      obtain ⟨rfl, rfl, rfl⟩ := h
      rcases hu : c.s.unpackedSize with _ | n
      · rw [stopTest_none_finish hu hp] at hstop
        simpa using FinishRun.cleanEof hu hstop
      · rw [stopTest_some hu] at hstop
        have : n ≤ LzBuf.len c.w := by simpa using hstop
        simpa using FinishRun.sizeReached hu this
    · rename_i hstop
      split at h
      · rename_i hfill hn
        simp only [Option.some.injEq, Prod.mk.injEq] at h
        obtain ⟨rfl, rfl, rfl⟩ := h
        exact .marker hstop hfill hn
      · rename_i hfill hn
        split at h
        · rename_i k0 e0 c0 hrec
          simp only [Option.some.injEq, Prod.mk.injEq] at h
          obtain ⟨rfl, rfl, rfl⟩ := h
          exact .step hstop hfill hn (ih hrec ((processNext_fields hn).2.2.trans hp))
        · cases h
      · cases h
    · cases h

/-- `finishTrace` computes every run, given more fuel than iterations: `FinishRun` is its graph -/
theorem FinishRun.trace {c c' : Cfg ω} {k : Nat} {e : Exit} (h : FinishRun c k e c') :
    c.s.partialBuf = [] → ∀ fuel, k < fuel → finishTrace fuel c = some (k, e, c') := by
  induction h with
  | @sizeReached c n hu hlen =>
    intro hp fuel hk
    obtain ⟨f, rfl⟩ : ∃ f, fuel = f + 1 := ⟨fuel - 1, by omega⟩
    simp [finishTrace, stopTest_some hu, hlen, hu]
  | @cleanEof c hu hfin =>
    intro hp fuel hk
    obtain ⟨f, rfl⟩ : ∃ f, fuel = f + 1 := ⟨fuel - 1, by omega⟩
    simp [finishTrace, stopTest_none_finish hu hp, hfin, hu]
  | marker hstop hfill hn =>
    intro hp fuel hk
    obtain ⟨f, rfl⟩ : ∃ f, fuel = f + 1 := ⟨fuel - 1, by omega⟩
    simp [finishTrace, hstop, hfill, hn]
  | step hstop hfill hn _ ih =>
    intro hp fuel hk
    obtain ⟨f, rfl⟩ : ∃ f, fuel = f + 1 := ⟨fuel - 1, by omega⟩
    simp [finishTrace, hstop, hfill, hn, ih ((processNext_fields hn).2.2.trans hp) f (by omega)]

theorem FinishRun.unique {c c1 : Cfg ω} {k1 : Nat} {e1 : Exit} (h1 : FinishRun c k1 e1 c1) :
    ∀ {k2 : Nat} {e2 : Exit} {c2 : Cfg ω}, FinishRun c k2 e2 c2 → c.s.partialBuf = [] →
    k1 = k2 ∧ e1 = e2 ∧ c1 = c2 := by
  intro k2 e2 c2 h2 hp
  have := (h1.trace hp (k1 + k2 + 1) (by omega)).symm.trans (h2.trace hp (k1 + k2 + 1) (by omega))
  cases this
  exact ⟨rfl, rfl, rfl⟩

theorem processMode_finish_run {c : Cfg ω} {snk' : Sink} {s' : DState} {w' : ω} {rc' : RC} {rd' : Rd}
    (hp : c.s.partialBuf = [])
    (h : processMode .finish c.s c.w c.rc c.rd c.snk = (snk', .ok (s', w', rc', rd'))) :
    ∃ k e, FinishRun c k e ⟨s', w', rc', rd', snk'⟩ ∧
      (∀ n, c.s.unpackedSize = some n → LzBuf.len w' = n) := by
  obtain ⟨hl, hsz⟩ := processMode_ok_iff.1 h
  obtain ⟨k, e, hr⟩ := processLoop_finish_run _ hp hl
  exact ⟨k, e, hr, fun n hn => hsz n hn rfl⟩

/-- Determinism, failure form: after `k` full iterations at `c1`, with size `n` in effect, if no
run from `c1` ends with exactly `n` bytes in the window then `process_mode` does not succeed. -/
theorem FinishSteps.processMode_ne_ok {c c1 : Cfg ω} {k n : Nat} (hp : c.s.partialBuf = [])
    (hs : FinishSteps c k c1) (hn : c.s.unpackedSize = some n)
    (hno : ∀ {j e c'}, FinishRun c1 j e c' → LzBuf.len c'.w ≠ n)
    (snk' : Sink) (r : DState × ω × RC × Rd) :
    processMode .finish c.s c.w c.rc c.rd c.snk ≠ (snk', .ok r) := by
  intro h
  obtain ⟨s', w', rc', rd'⟩ := r
  obtain ⟨k', e', hr, hsz⟩ := processMode_finish_run hp h
  obtain ⟨j, -, hr1⟩ := hs.run_split hr hp
  exact hno hr1 (hsz n hn)

theorem FinishRun.partialBuf {c c' : Cfg ω} {k : Nat} {e : Exit} (h : FinishRun c k e c') :
    c.s.partialBuf = [] → c'.s.partialBuf = [] := by
  induction h with
  | sizeReached _ _ => exact id
  | cleanEof _ _ => exact id
  | marker _ _ hn => intro hp; exact (processNext_fields hn).2.2.trans hp
  | step _ _ hn _ ih => intro hp; exact ih ((processNext_fields hn).2.2.trans hp)

theorem processMode_finish_partialBuf {s : DState} {w : ω} {rc : RC} {rd : Rd}
    {snk snk' : Sink} {s' : DState} {w' : ω} {rc' : RC} {rd' : Rd}
    (h : processMode .finish s w rc rd snk = (snk', .ok (s', w', rc', rd')))
    (hp : s.partialBuf = []) : s'.partialBuf = [] :=
  let ⟨_, _, hr, _⟩ := processMode_finish_run (c := ⟨s, w, rc, rd, snk⟩) hp h
  hr.partialBuf hp

theorem processMode_finish_nosize {s : DState} {w : ω} {rc : RC} {rd : Rd}
    {snk snk' : Sink} {s' : DState} {w' : ω} {rc' : RC} {rd' : Rd}
    (h : processMode .finish s w rc rd snk = (snk', .ok (s', w', rc', rd')))
    (hn : s.unpackedSize = none) (hp : s.partialBuf = []) :
    rc'.code = 0 ∧ rd'.rem = [] ∧ rd'.bad = false := by
  obtain ⟨k, e, hr, -⟩ := processMode_finish_run (c := ⟨s, w, rc, rd, snk⟩) hp h
  have hs := hr.exit_spec
  cases e with
  | sizeReached => obtain ⟨n, h1, -⟩ := hs; rw [hn] at h1; cases h1
  | cleanEof => exact isFinishedOk_iff.1 hs.2
  | marker => exact isFinishedOk_iff.1 hs.2

theorem FinishRun.marker_last {c c' : Cfg ω} {k : Nat} {e : Exit} (h : FinishRun c k e c') :
    e = .marker → ∃ j c1 l probs, k = j + 1 ∧ FinishSteps c j c1 ∧
      runDec true (symTree (c1.s.mkCtx c1.w)) c1.s.probs c1.rc c1.rd =
        .ok (.mtch l 0xFFFFFFFF, probs, c'.rc, c'.rd) ∧
      c'.rc.isFinishedOk c'.rd = .ok true ∧ c'.w = c1.w ∧ c'.snk = c1.snk ∧
      c'.s = markerState { c1.s with probs := probs } := by
  induction h with
  | sizeReached _ _ => intro h; cases h
  | cleanEof _ _ => intro h; cases h
  | @marker c s' w' rc' rd' snk' hstop hfill hn =>
    intro _
    obtain ⟨l, probs, h1, h2, h3, h4, h5⟩ := processNext_finished_iff.1 hn
    exact ⟨0, c, l, probs, rfl, .refl c, h1, h2, h4, h3, h5⟩
  | step hstop hfill hn _ ih =>
    intro he
    obtain ⟨j, c1, l, probs, hk, hs, h1⟩ := ih he
    exact ⟨j + 1, c1, l, probs, by omega, .step hstop hfill hn hs, h1⟩

/-- perform exactly `k` full iterations, if possible: an executable witness of `FinishSteps` for
concrete streams -/
def stepsTrace : Nat → Cfg ω → Option (Cfg ω)
  | 0, c => some c
  | k + 1, c =>
    match stopTest .finish c.s c.w c.rc c.rd, c.rd.fillBuf, processNext c.s c.w c.rc c.rd c.snk with
    | .ok false, .ok (), (snk1, .ok (.continue, s1, w1, rc1, rd1)) => stepsTrace k ⟨s1, w1, rc1, rd1, snk1⟩
    | _, _, _ => none

theorem stepsTrace_sound : ∀ (k : Nat) {c c' : Cfg ω}, stepsTrace k c = some c' → FinishSteps c k c' := by
  intro k
  induction k with
  | zero => intro c c' h; simp only [stepsTrace, Option.some.injEq] at h; subst h; exact .refl c
  | succ k ih =>
    intro c c' h
    unfold stepsTrace at h
    split at h
    · rename_i h1 h2 h3
      exact .step h1 h2 h3 (ih h)
    · cases h

theorem lt_loopFuel (s : DState) (rd : Rd) : U32 < loopFuel s rd := by
  unfold loopFuel U32; omega

theorem processMode_size_mismatch {s : DState} {w : ω} {rc : RC} {rd : Rd}
    {snk snk' : Sink} {s' : DState} {w' : ω} {rc' : RC} {rd' : Rd} {n : Nat}
    (hl : processLoop .finish (loopFuel s rd) s w rc rd snk = (snk', .ok (s', w', rc', rd')))
    (hn : s.unpackedSize = some n) (hne : LzBuf.len w' ≠ n) :
    processMode .finish s w rc rd snk = (snk', .error .lzma) :=
  processMode_error_iff.mpr (.inr ⟨s', w', rc', rd', n, hl, ((processLoop_fields _ hl).1).trans hn,
    rfl, Ne.symm hne, rfl⟩)

theorem processMode_loop_error {mode : Mode} {s : DState} {w : ω} {rc : RC} {rd : Rd}
    {snk snk' : Sink} {e : Err}
    (hl : processLoop mode (loopFuel s rd) s w rc rd snk = (snk', .error e)) :
    processMode mode s w rc rd snk = (snk', .error e) :=
  processMode_error_iff.mpr (.inl hl)

/-- the marker exit leaves the window where the last top-of-loop test saw it: below the size -/
theorem FinishRun.marker_len {c c' : Cfg ω} {k : Nat} {e : Exit} (h : FinishRun c k e c') :
    e = .marker → ∀ n, c.s.unpackedSize = some n → LzBuf.len c'.w < n := by
  induction h with
  | sizeReached _ _ => intro h; cases h
  | cleanEof _ _ => intro h; cases h
  | marker hstop _ hn =>
    intro _ n hu
    obtain ⟨l, probs, -, -, -, hw, -⟩ := processNext_finished_iff.1 hn
    rw [stopTest_some hu] at hstop
    simp only [hw]
    simpa using hstop
  | step _ _ hn _ ih =>
    intro he n hu
    exact ih he n ((processNext_fields hn).1.trans hu)

theorem FinishRun.exit_of_size {c c' : Cfg ω} {k : Nat} {e : Exit} (h : FinishRun c k e c') {n : Nat}
    (hu : c.s.unpackedSize = some n) (hlen : LzBuf.len c'.w = n) : e = .sizeReached := by
  cases e with
  | sizeReached => rfl
  | cleanEof => have := h.exit_spec; simp only at this; rw [hu] at this; cases this.1
  | marker => have := h.marker_len rfl n hu; omega

theorem FinishRun.inv {I : ω → Sink → Prop}
    (hlit : ∀ w b snk snk' w', LzBuf.appendLiteral w b snk = (snk', .ok w') → I w snk → I w' snk')
    (hlz : ∀ w l d snk snk' w', LzBuf.appendLz w l d snk = (snk', .ok w') → I w snk → I w' snk')
    {c c' : Cfg ω} {k : Nat} {e : Exit} (h : FinishRun c k e c') : I c.w c.snk → I c'.w c'.snk := by
  induction h with
  | sizeReached _ _ => exact id
  | cleanEof _ _ => exact id
  | marker _ _ hn =>
    intro hi
    obtain ⟨sym, probs, -, ha⟩ := processNext_ok_iff.1 hn
    exact applySym_inv hlit hlz ha hi
  | step _ _ hn _ ih =>
    intro hi
    obtain ⟨sym, probs, -, ha⟩ := processNext_ok_iff.1 hn
    exact ih (applySym_inv hlit hlz ha hi)

theorem new_eq_map (p : Props) (u : Option Nat) :
    DState.new p u = p.validate.map fun _ =>
      { props := p, unpackedSize := u, probs := Probs.init (1 <<< (p.lc + p.lp)) } := by
  unfold DState.new
  cases p.validate <;> rfl

theorem new_eq {p : Props} {u : Option Nat} {s : DState} (h : DState.new p u = .ok s) :
    s = { props := p, unpackedSize := u, probs := Probs.init (1 <<< (p.lc + p.lp)) } ∧
    p.validate = .ok () := by
  rw [new_eq_map] at h
  cases hv : p.validate <;> rw [hv] at h <;> cases h
  exact ⟨rfl, rfl⟩

theorem new_of_valid {p : Props} (u : Option Nat) (hv : p.validate = .ok ()) :
    DState.new p u =
      .ok { props := p, unpackedSize := u, probs := Probs.init (1 <<< (p.lc + p.lp)) } := by
  rw [new_eq_map, hv]; rfl

theorem new_of_invalid {p : Props} (u : Option Nat) {e : Err} (hv : p.validate = .error e) :
    DState.new p u = .error e := by
  rw [new_eq_map, hv]; rfl

theorem new_ok {props : Props} {u : Option Nat} {st : DState} (h : DState.new props u = .ok st) :
    st.partialBuf = [] ∧ st.unpackedSize = u ∧ st.props = props := by
  obtain ⟨rfl, -⟩ := new_eq h
  exact ⟨rfl, rfl, rfl⟩

end DState

theorem LzmaDecoder.new_ok_iff {params : LzmaParams} {ml : Option Nat} {d : LzmaDecoder} :
    LzmaDecoder.new params ml = .ok d ↔
      params.dictSize ≠ 0 ∧ params.props.validate = .ok () ∧
      d = { params := params, memlimit := ml.getD USIZE_MAX,
            state := { props := params.props, unpackedSize := params.unpackedSize,
                       probs := Probs.init (1 <<< (params.props.lc + params.props.lp)) } } := by
  unfold LzmaDecoder.new
  by_cases hd : params.dictSize = 0
  · simp [hd, bind, Except.bind, throw, throwThe, MonadExceptOf.throw]
  · cases hv : params.props.validate with
    | error e =>
      simp [hd, DState.new_of_invalid _ hv, bind, Except.bind]
    | ok x =>
      simp only [hd, if_false, DState.new_of_valid _ hv, bind, Except.bind, pure, Except.pure,
        Except.ok.injEq, ne_eq, not_false_eq_true, true_and]
      exact eq_comm

theorem LzmaDecoder.new_ok {params : LzmaParams} {ml : Option Nat} {dec : LzmaDecoder}
    (h : LzmaDecoder.new params ml = .ok dec) :
    dec.params = params ∧ dec.memlimit = ml.getD USIZE_MAX ∧ dec.state.partialBuf = [] ∧
      dec.state.unpackedSize = params.unpackedSize ∧ dec.state.props = params.props := by
  obtain ⟨-, -, rfl⟩ := new_ok_iff.1 h
  exact ⟨rfl, rfl, rfl, rfl, rfl⟩

theorem lzmaDecompress_ok_iff {rd : Rd} {opts : Options} {snk snk' : Sink} {rd' : Rd} :
    lzmaDecompress rd opts snk = (snk', .ok rd') ↔
      ∃ params rd1 dec rc rd2 s' w' rc' snk1,
        readHeader rd opts = .ok (params, rd1) ∧
        LzmaDecoder.new params opts.memlimit = .ok dec ∧
        RC.new rd1 = .ok (rc, rd2) ∧
        dec.state.processMode .finish
          (Circ.fromStream params.dictSize (opts.memlimit.getD USIZE_MAX)) rc rd2 snk =
            (snk1, .ok (s', w', rc', rd')) ∧
        w'.finish snk1 = (snk', .ok ()) := by
  simp only [lzmaDecompress, LzmaDecoder.decompress, mBind_eq_ok, liftE_eq_ok, mPure_eq_ok]
  constructor
  · rintro ⟨⟨params, rd1⟩, s1, ⟨hh, rfl⟩, dec, s2, ⟨hd, rfl⟩, ⟨dec', rd3⟩, s3,
      ⟨⟨rc, rd2⟩, s4, ⟨hrc, rfl⟩, ⟨s', w', rc', rd4⟩, s5, hpm, u, s6, hfin, hx, rfl⟩, rfl, rfl⟩
    cases hx
    obtain ⟨hp, hm, -⟩ := LzmaDecoder.new_ok hd
    rw [hp, hm] at hpm
    refine ⟨params, rd1, dec, rc, rd2, s', w', rc', s5, hh, hd, ?_, hpm, hfin⟩
    rcases hr : RC.new rd1 with e | x
    · simp [hr] at hrc
    · simp only [hr] at hrc; cases hrc; rfl
  · rintro ⟨params, rd1, dec, rc, rd2, s', w', rc', snk1, hh, hd, hrc, hpm, hfin⟩
    obtain ⟨hp, hm, -⟩ := LzmaDecoder.new_ok hd
    rw [← hp, ← hm] at hpm
    exact ⟨(params, rd1), snk, ⟨hh, rfl⟩, dec, snk, ⟨hd, rfl⟩, (_, rd'), snk',
      ⟨(rc, rd2), snk, ⟨by rw [hrc], rfl⟩, (s', w', rc', rd'), snk1, hpm, (), snk', hfin, rfl, rfl⟩,
      rfl, rfl⟩

theorem lzmaDecompress_processMode_error {rd : Rd} {opts : Options} {snk snk1 : Sink}
    {params : LzmaParams} {rd1 : Rd} {dec : LzmaDecoder} {rc : RC} {rd2 : Rd} {e : Err}
    (hh : readHeader rd opts = .ok (params, rd1))
    (hd : LzmaDecoder.new params opts.memlimit = .ok dec) (hrc : RC.new rd1 = .ok (rc, rd2))
    (hpm : dec.state.processMode .finish
      (Circ.fromStream params.dictSize (opts.memlimit.getD USIZE_MAX)) rc rd2 snk =
        (snk1, .error e)) :
    lzmaDecompress rd opts snk = (snk1, .error e) := by
  obtain ⟨hp, hm, -⟩ := LzmaDecoder.new_ok hd
  rw [← hp, ← hm] at hpm
  unfold lzmaDecompress
  rw [hh, bind_run_ok (liftE_ok _ _)]
  dsimp only
  rw [hd, bind_run_ok (liftE_ok _ _)]
  refine bind_run_error ?_
  unfold LzmaDecoder.decompress
  rw [hrc, bind_run_ok (liftE_ok _ _)]
  exact bind_run_error hpm

/-- which size is in effect after `read_header` -/
theorem readHeader_unpackedSize {rd rd1 : Rd} {opts : Options} {params : LzmaParams}
    (h : readHeader rd opts = .ok (params, rd1)) :
    params.unpackedSize =
      match opts.unpackedSize with
      | .readFromHeader =>
        if leVal ((rd.rem.drop 5).take 8) = 0xFFFFFFFFFFFFFFFF then none
        else some (leVal ((rd.rem.drop 5).take 8))
      | .readHeaderButUseProvided x => x
      | .useProvided x => x := by
  obtain ⟨b, rest, hr, -, -, rfl, -⟩ := readHeader_ok_iff.1 h
  rw [hr]
  cases opts.unpackedSize <;> rfl

/-- `lzma_decompress` with no unpacked size in effect accepts only input that it consumed
completely: both loop exits (marker and marker-less) go through `is_finished_ok`. -/
theorem lzmaDecompress_no_size_eof {rd : Rd} {opts : Options}
    (hn : ∀ params rd1, readHeader rd opts = .ok (params, rd1) → params.unpackedSize = none) :
    Post (lzmaDecompress rd opts) fun rd' => rd'.rem = [] ∧ rd'.bad = false := by
  unfold lzmaDecompress
  refine .bind (.liftE fun _ => id) fun (params, rd1) h1 => .bind (.liftE fun _ => id) fun dec h2 =>
    .bind ?_ fun _ h => .pure h
  obtain ⟨-, -, hp, hu, -⟩ := LzmaDecoder.new_ok h2
  unfold LzmaDecoder.decompress
  exact .bind' fun _ => .bind
    (fun _ _ _ h => (DState.processMode_finish_nosize h (hu.trans (hn _ _ h1)) hp).2)
    fun _ h => .bind' fun _ => .pure h

end Lzma
