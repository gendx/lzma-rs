/-
  C07 (decoders are total): a result is safe (`ESafe P x`) when it is `.ok a` with `P a` or an
  ordinary error, i.e. neither a model panic nor a loop-bound hit (`bad`); `MSafe P m` says so for
  every sink.  Safety is shown function by function, composing with `ESafe.bind`/`MSafe.bind`;
  here for the sink calls, the reader and the range decoder.
-/
import LzmaProofs.Lemmas.Stages
import LzmaProofs.Lemmas.Header
import LzmaProofs.Lemmas.SinkCalls
import LzmaProofs.Lemmas.RcDec
namespace Lzma
namespace Safety

/-- the two results C07 excludes: where a checked Rust build would panic, and a loop bound hit -/
def bad : Err → Bool
  | .panic _ => true
  | .fuel => true
  | _ => false

@[simp] theorem bad_io : bad .io = false := rfl
@[simp] theorem bad_eof : bad .eof = false := rfl
@[simp] theorem bad_lzma : bad .lzma = false := rfl
@[simp] theorem bad_xz : bad .xz = false := rfl
@[simp] theorem bad_hts : bad .headerTooShort = false := rfl
@[simp] theorem bad_panic (w : String) : bad (.panic w) = true := rfl
@[simp] theorem bad_fuel : bad .fuel = true := rfl

theorem bad_false_iff (e : Err) : bad e = false ↔ (∀ w, e ≠ .panic w) ∧ e ≠ .fuel := by
  cases e <;> simp [bad]

def ESafe (P : α → Prop) : Except Err α → Prop
  | .ok a => P a
  | .error e => bad e = false

def MSafe (P : α → Prop) (m : M α) : Prop := ∀ s, ESafe P (m s).2

@[simp] theorem ESafe_ok {P : α → Prop} {a : α} : ESafe P (.ok a) ↔ P a := Iff.rfl
@[simp] theorem ESafe_error {P : α → Prop} {e : Err} : ESafe P (.error e : Except Err α) ↔ bad e = false :=
  Iff.rfl
@[simp] theorem ESafe_pure {P : α → Prop} {a : α} : ESafe P (pure a : Except Err α) ↔ P a := Iff.rfl
@[simp] theorem ESafe_throw {P : α → Prop} {e : Err} :
    ESafe P (throw e : Except Err α) ↔ bad e = false := Iff.rfl

theorem ok_bind {a : α} {f : α → Except Err β} : (Except.ok a >>= f) = f a := rfl
theorem error_bind {e : Err} {f : α → Except Err β} : ((Except.error e : Except Err α) >>= f) = .error e := rfl

/-- `if c { return Err(e) }` in front of the rest `k` of a block -/
theorem ESafe_guard {Q : β → Prop} {c : Prop} [Decidable c] {e : Err} {k : PUnit → Except Err β}
    (he : bad e = false) (hk : ESafe Q (k ())) :
    ESafe Q (if c then (throw e : Except Err PUnit) >>= k else k ()) := by
  split
  · exact he
  · exact hk

def EErr (E : Err → Prop) (x : Except Err α) : Prop := ∀ e, x = .error e → E e

theorem EErr_ok {E : Err → Prop} {a : α} : EErr E (.ok a : Except Err α) := fun _ h => nomatch h

theorem EErr_error {E : Err → Prop} {e : Err} : EErr E (.error e : Except Err α) ↔ E e :=
  ⟨fun h => h e rfl, fun h _ h' => by cases h'; exact h⟩

theorem EErr.bind {E : Err → Prop} {x : Except Err α} {f : α → Except Err β} (hx : EErr E x)
    (hf : ∀ a, EErr E (f a)) : EErr E (x >>= f) := by
  cases x with
  | ok a => exact hf a
  | error e => exact EErr_error.2 (hx e rfl)

theorem EErr.mono {E E' : Err → Prop} {x : Except Err α} (h : EErr E x) (hE : ∀ e, E e → E' e) :
    EErr E' x :=
  fun e he => hE e (h e he)

theorem EErr.safe {x : Except Err α} (h : EErr (fun e => bad e = false) x) :
    ESafe (fun _ => True) x := by
  cases x with
  | ok a => trivial
  | error e => exact h e rfl

theorem ESafe.mono {P Q : α → Prop} {x : Except Err α} (h : ESafe P x) (hpq : ∀ a, P a → Q a) :
    ESafe Q x := by
  cases x with
  | ok a => exact hpq a h
  | error e => exact h

theorem ESafe.bind {P : α → Prop} {Q : β → Prop} {x : Except Err α} {f : α → Except Err β}
    (hx : ESafe P x) (hf : ∀ a, P a → ESafe Q (f a)) : ESafe Q (x >>= f) := by
  cases x with
  | ok a => exact hf a hx
  | error e => exact hx

theorem ESafe.and {P Q : α → Prop} {x : Except Err α} (h1 : ESafe P x) (h2 : ESafe Q x) :
    ESafe (fun a => P a ∧ Q a) x := by
  cases x with
  | ok a => exact ⟨h1, h2⟩
  | error e => exact h1

theorem ESafe_map {P : β → Prop} {f : α → β} {x : Except Err α} :
    ESafe P (x.map f) ↔ ESafe (fun a => P (f a)) x := by
  cases x <;> exact Iff.rfl

theorem MSafe.mono {P Q : α → Prop} {m : M α} (h : MSafe P m) (hpq : ∀ a, P a → Q a) :
    MSafe Q m := fun s => (h s).mono hpq

theorem MSafe.bind {P : α → Prop} {Q : β → Prop} {m : M α} {f : α → M β}
    (hm : MSafe P m) (hf : ∀ a, P a → MSafe Q (f a)) : MSafe Q (m >>= f) := by
  intro s
  rw [bind_run]
  have h := hm s
  rcases hms : m s with ⟨s', r⟩
  rw [hms] at h
  cases r with
  | ok a => exact hf a h s'
  | error e => exact h

@[simp] theorem MSafe_pure {P : α → Prop} {a : α} : MSafe P (pure a : M α) ↔ P a :=
  ⟨fun h => h default, fun h _ => h⟩
@[simp] theorem MSafe_Mpure {P : α → Prop} {a : α} : MSafe P (M.pure a : M α) ↔ P a :=
  ⟨fun h => h default, fun h _ => h⟩
@[simp] theorem MSafe_throwM {P : α → Prop} {e : Err} : MSafe P (throwM e : M α) ↔ bad e = false :=
  ⟨fun h => h default, fun h _ => h⟩

theorem MSafe.liftE {P : α → Prop} {x : Except Err α} (h : ESafe P x) : MSafe P (liftE x) := by
  cases x with
  | ok a => exact fun _ => h
  | error e => exact fun _ => h

theorem MSafe_liftE_iff {P : α → Prop} {x : Except Err α} : MSafe P (Lzma.liftE x) ↔ ESafe P x := by
  constructor
  · intro h
    cases x with
    | ok a => exact h default
    | error e => exact h default
  · exact MSafe.liftE

theorem MSafe_guard {Q : β → Prop} {c : Prop} [Decidable c] {e : Err} {k : PUnit → M β}
    (he : bad e = false) (hk : MSafe Q (k ())) :
    MSafe Q (if c then (throwM e : M PUnit) >>= k else k ()) := by
  split
  · exact fun _ => he
  · exact hk

theorem MSafe.of_run {P : α → Prop} {m : M α} (h : ∀ s, ESafe P (m s).2) : MSafe P m := h

theorem ESafe.ne_panic {P : α → Prop} {r : Except Err α} (h : ESafe P r) (w : String) :
    r ≠ .error (.panic w) := by
  intro he; rw [he] at h; exact absurd h (by simp)

theorem ESafe.ne_fuel {P : α → Prop} {r : Except Err α} (h : ESafe P r) : r ≠ .error .fuel := by
  intro he; rw [he] at h; exact absurd h (by simp)

theorem ESafe.of_ok {P : α → Prop} {r : Except Err α} {a : α} (h : ESafe P r) (e : r = .ok a) : P a := by
  subst e; exact h

theorem MSafe.of_ok {P : α → Prop} {m : M α} {s s' : Sink} {a : α} (h : MSafe P m)
    (e : m s = (s', .ok a)) : P a :=
  (h s).of_ok (congrArg Prod.snd e)

theorem writeAll_safe (bs : Array UInt8) : MSafe (fun _ => True) (writeAll bs) := by
  intro s
  rcases (writeAll_spec bs s).2 with ⟨h, _⟩ | ⟨h, _⟩
  · rw [h]; trivial
  · rw [h]; rfl

theorem writeBytes_safe (bs : Bytes) : MSafe (fun _ => True) (writeBytes bs) := writeAll_safe _

theorem flushSink_safe : MSafe (fun _ => True) flushSink := by
  intro s
  unfold flushSink
  split <;> simp

theorem subChk_safe {what : String} {a b : Nat} (h : b ≤ a) : subChk what a b = .ok (a - b) := by
  simp [subChk, h]

theorem addChk_safe {what : String} {bound a b : Nat} (h : a + b < bound) :
    addChk bound what a b = .ok (a + b) := by
  simp [addChk, h]

theorem mulChk_safe {what : String} {bound a b : Nat} (h : a * b < bound) :
    mulChk bound what a b = .ok (a * b) := by
  simp [mulChk, h]

theorem bad_endErr (r : Rd) : bad r.endErr = false := by
  unfold Rd.endErr; split <;> rfl

theorem readU8_safe (r : Rd) :
    ESafe (fun x => x.2.rem.length + 1 = r.rem.length) r.readU8 := by
  unfold Rd.readU8
  split
  · rename_i h; simp [h]
  · simp [bad_endErr]

theorem readExact_safe (r : Rd) (n : Nat) :
    ESafe (fun x => x.2.rem.length + n = r.rem.length ∧ x.1.length = n) (r.readExact n) := by
  unfold Rd.readExact
  split
  · simp; omega
  · simp [bad_endErr]

theorem fillBuf_safe (r : Rd) : ESafe (fun _ => True) r.fillBuf := by
  unfold Rd.fillBuf; split <;> simp

theorem isEof_safe (r : Rd) : ESafe (fun _ => True) r.isEof := by
  unfold Rd.isEof; split
  · split <;> simp
  · simp

theorem readInt_safe {val : Bytes → Nat} (hval : ∀ bs, val bs < 256 ^ bs.length) (r : Rd) (n : Nat) :
    ESafe (fun x => x.2.rem.length + n = r.rem.length ∧ x.1 < 256 ^ n)
      (do let (bs, r') ← r.readExact n; pure (val bs, r')) :=
  (readExact_safe r n).bind fun ⟨bs, _⟩ ⟨h1, h2⟩ => ⟨h1, h2 ▸ hval bs⟩

theorem readU16BE_safe (r : Rd) :
    ESafe (fun x => x.2.rem.length + 2 = r.rem.length ∧ x.1 < 65536) r.readU16BE :=
  readInt_safe RcArith.beVal_lt r 2

theorem readU32BE_safe (r : Rd) :
    ESafe (fun x => x.2.rem.length + 4 = r.rem.length ∧ x.1 < 4294967296) r.readU32BE :=
  readInt_safe RcArith.beVal_lt r 4

theorem readU32LE_safe (r : Rd) :
    ESafe (fun x => x.2.rem.length + 4 = r.rem.length ∧ x.1 < 4294967296) r.readU32LE :=
  readInt_safe leVal_lt r 4

theorem readU64LE_safe (r : Rd) :
    ESafe (fun x => x.2.rem.length + 8 = r.rem.length ∧ x.1 < 18446744073709551616) r.readU64LE :=
  readInt_safe leVal_lt r 8

theorem readTag_safe (r : Rd) (tag : Bytes) :
    ESafe (fun x => x.2.rem.length + tag.length = r.rem.length) (r.readTag tag) := by
  unfold Rd.readTag
  refine (readExact_safe r tag.length).bind ?_
  rintro ⟨bs, r'⟩ ⟨h1, _⟩
  exact h1

theorem flushZeroPadding_safe (r : Rd) :
    ESafe (fun x => x.2.rem.length ≤ r.rem.length) r.flushZeroPadding := by
  unfold Rd.flushZeroPadding
  split
  · split <;> simp
  · split
    · split <;> simp
    · simp

theorem split_length (r : Rd) (n : Nat) :
    (r.split n).1.rem.length + (r.split n).2.length = r.rem.length := by
  simp [Rd.split]; omega

theorem unsplit_length (r inner : Rd) (rest : Bytes) :
    (r.unsplit inner rest).rem.length = inner.rem.length + rest.length := by
  simp [Rd.unsplit]

/-! ## the range decoder: safe under `RCInv`, keeps `RCInv`, and every decoded bit strictly
decreases the measure `mu = remaining bytes * 2^32 + range` -/

/-- a stored probability: `31 ≤ v ≤ 2017` (so `0 < v < 0x800`) -/
def PVal (v : Nat) : Prop := 31 ≤ v ∧ v ≤ 2017

theorem PVal_init : PVal 0x400 := by unfold PVal; omega

/-- the range-decoder invariant between two bits -/
def RCInv (rc : RC) : Prop := 0x1000000 ≤ rc.range ∧ rc.range < 4294967296 ∧ rc.code < 4294967296

/-- termination measure of the symbol loop -/
def mu (rd : Rd) (rc : RC) : Nat := rd.rem.length * 4294967296 + rc.range

theorem RC_new_safe (rd : Rd) :
    ESafe (fun x => RCInv x.1 ∧ x.2.rem.length + 5 = rd.rem.length) (RC.new rd) := by
  unfold RC.new
  refine (readU8_safe rd).bind ?_
  rintro ⟨b, rd1⟩ h1
  refine (readU32BE_safe rd1).bind ?_
  rintro ⟨code, rd2⟩ ⟨h2, h3⟩
  simp only [ESafe_pure, RCInv]
  simp at h1 h2 h3 ⊢
  omega

theorem normalize_safe (rc : RC) (rd : Rd) (h1 : 0x10000 ≤ rc.range) (h2 : rc.range < 4294967296)
    (h3 : rc.code < 4294967296) :
    ESafe (fun x => RCInv x.1 ∧ x.2.rem.length ≤ rd.rem.length ∧ mu x.2 x.1 ≤ mu rd rc)
      (RC.normalize rc rd) := by
  rcases RC.normalize_cases rc rd with ⟨hr, e⟩ | ⟨_, _, e⟩ | ⟨hr, b, rest, hrem, e⟩ <;> rw [e]
  · exact ⟨⟨hr, h2, h3⟩, Nat.le_refl _, Nat.le_refl _⟩
  · exact bad_endErr rd
  · have hx : shlU32 rc.code 8 ^^^ b.toNat < 2 ^ 32 :=
      Nat.xor_lt_two_pow (Nat.mod_lt _ (by decide)) (Nat.lt_trans b.toNat_lt (by decide))
    simp only [ESafe_ok, RCInv, mu, hrem, List.length_cons]
    omega

/-- a bit narrows the range to at least `2^16` and strictly below the old range; the
following `normalize` then restores `RCInv` and does not increase the measure -/
theorem narrowed_safe {rc m : RC} (rd : Rd) (h : RCInv rc) (h1 : 0x10000 ≤ m.range)
    (h2 : m.range < rc.range) (h3 : m.code ≤ rc.code) :
    ESafe (fun x => RCInv x.1 ∧ x.2.rem.length ≤ rd.rem.length ∧ mu x.2 x.1 < mu rd rc)
      (RC.normalize m rd) := by
  obtain ⟨_, g2, g3⟩ := h
  refine (normalize_safe m rd h1 (by omega) (by omega)).mono fun x ⟨hi, hl, hm⟩ => ⟨hi, hl, ?_⟩
  simp only [mu] at hm ⊢
  omega

theorem getBit_safe (rc : RC) (rd : Rd) (h : RCInv rc) :
    ESafe (fun x => RCInv x.2.1 ∧ x.2.2.rem.length ≤ rd.rem.length ∧ mu x.2.2 x.2.1 < mu rd rc)
      (RC.getBit rc rd) := by
  have hr : rc.range >>> 1 = rc.range / 2 := Nat.shiftRight_eq_div_pow _ 1
  have h1 := h.1
  rw [RC.getBit_eq, ESafe_map]
  refine narrowed_safe rd h ?_ ?_ ?_ <;> simp only [hr]
  · omega
  · omega
  · split <;> omega

theorem decodeBit_safe (u : Bool) (p : Nat) (rc : RC) (rd : Rd) (hp : PVal p) (h : RCInv rc) :
    ESafe (fun x => PVal x.2.1 ∧ RCInv x.2.2.1 ∧ x.2.2.2.rem.length ≤ rd.rem.length ∧
        mu x.2.2.2 x.2.2.1 < mu rd rc)
      (RC.decodeBit u p rc rd) := by
  obtain ⟨b1, b2⟩ := REnc.bound_facts h.1 h.2.1 hp
  rw [RC.decodeBit_spec u p rc rd (by have := hp.2; omega)
    (RC.bound_lt (by have := hp.2; omega) h.2.1), ESafe_map]
  have hp' : PVal (if u = true then updP p (decide ((rc.range >>> 11) * p ≤ rc.code)) else p) := by
    cases u
    · exact hp
    · exact ProbOk.upd hp _
  refine (narrowed_safe rd h ?_ ?_ ?_).mono fun x hx => ⟨hp', hx⟩ <;> split <;> simp only <;> omega

/-- a bit succeeds or fails with an ordinary error -/
theorem decodeBit_ok_or_eof (u : Bool) (p : Nat) (rc : RC) (rd : Rd) (hp : PVal p) (h : RCInv rc) :
    (∃ x, RC.decodeBit u p rc rd = .ok x) ∨ RC.decodeBit u p rc rd = .error rd.endErr ∨
      ∃ e, RC.decodeBit u p rc rd = .error e ∧ bad e = false := by
  have := decodeBit_safe u p rc rd hp h
  cases hx : RC.decodeBit u p rc rd with
  | ok x => exact .inl ⟨x, rfl⟩
  | error e => rw [hx] at this; exact .inr (.inr ⟨e, rfl, this⟩)

end Safety
end Lzma
