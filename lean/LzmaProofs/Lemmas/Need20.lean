/-
  C05 — the 20-byte look-ahead bound, arithmetic and generic part.

  One probability-coded bit shrinks `range` by at most the factor
  `253921 / 2^24` (`253921 = 31 * 8191`), one direct bit by at most
  `(2^24 - 1) / 2^25`; every consumed input byte multiplies `range` by exactly
  256, and `2^24 ≤ range < 2^32` between bits.  Hence along a run with `a`
  probability bits, `b` direct bits and `n` consumed bytes

      range₀ * 253921^a * (2^24-1)^b * 256^n ≤ range * 2^(24a + 25b)

  which bounds `n` for every tree whose paths have bounded `a` and `b` (`Safety.Paths`).
-/
import LzmaProofs.Lemmas.SafetyTree
namespace Lzma
namespace Need20
open Safety

/-- numerator of the shrink factor of `a` probability bits and `b` direct bits -/
def W (a b : Nat) : Nat := 253921 ^ a * 16777215 ^ b
/-- denominator of the shrink factor -/
def D (a b : Nat) : Nat := 2 ^ (24 * a + 25 * b)

theorem W_zero : W 0 0 = 1 := rfl
theorem D_zero : D 0 0 = 1 := rfl
theorem W_succ_a (a b : Nat) : W (a + 1) b = 253921 * W a b := by
  simp only [W, Nat.pow_succ]; ac_rfl
theorem W_succ_b (a b : Nat) : W a (b + 1) = 16777215 * W a b := by
  simp only [W, Nat.pow_succ]; ac_rfl
theorem D_succ_a (a b : Nat) : D (a + 1) b = D a b * 16777216 := by
  have e : 24 * (a + 1) + 25 * b = (24 * a + 25 * b) + 24 := by omega
  simp only [D, e, Nat.pow_add]
theorem D_succ_b (a b : Nat) : D a (b + 1) = D a b * 33554432 := by
  have e : 24 * a + 25 * (b + 1) = (24 * a + 25 * b) + 25 := by omega
  simp only [D, e, Nat.pow_add]
theorem D_pos (a b : Nat) : 0 < D a b := Nat.pow_pos (by omega)

/-- chaining one bit (`r0 → r1`, factor `k/d`, `Pm = 256^m`) with the rest of the run -/
theorem chain_le {r0 r1 r2 k d Wt Dt Pm P : Nat} (h1 : r0 * k * Pm ≤ r1 * d)
    (h2 : r1 * Wt * P ≤ r2 * Dt) : r0 * (k * Wt) * (Pm * P) ≤ r2 * (Dt * d) := by
  have e1 : r0 * (k * Wt) * (Pm * P) = (r0 * k * Pm) * (Wt * P) := by ac_rfl
  have e2 : r1 * d * (Wt * P) = (r1 * Wt * P) * d := by ac_rfl
  have e3 : r2 * (Dt * d) = r2 * Dt * d := by ac_rfl
  rw [e1, e3]
  exact Nat.le_trans (Nat.mul_le_mul_right _ h1) (e2 ▸ Nat.mul_le_mul_right _ h2)

theorem chain_lt {r0 r1 k d Wt Dt Pm P T : Nat} (hd : 0 < d) (h1 : r0 * k * Pm ≤ r1 * d)
    (h2 : r1 * Wt * P < T * Dt) : r0 * (k * Wt) * (Pm * P) < T * (Dt * d) := by
  have e1 : r0 * (k * Wt) * (Pm * P) = (r0 * k * Pm) * (Wt * P) := by ac_rfl
  have e2 : r1 * d * (Wt * P) = (r1 * Wt * P) * d := by ac_rfl
  have e3 : T * (Dt * d) = T * Dt * d := by ac_rfl
  rw [e1, e3]
  exact Nat.lt_of_le_of_lt (Nat.mul_le_mul_right _ h1) (e2 ▸ Nat.mul_lt_mul_of_pos_right h2 hd)

/-- `w1/d1 ≤ w2/d2 ≤ w3/d3`, cross-multiplied -/
theorem dom_trans {w1 d1 w2 d2 w3 d3 : Nat} (hd : 0 < d2) (h12 : w1 * d2 ≤ w2 * d1)
    (h23 : w2 * d3 ≤ w3 * d2) : w1 * d3 ≤ w3 * d1 := by
  apply Nat.le_of_mul_le_mul_right (c := d2) _ hd
  have e1 : w1 * d3 * d2 = (w1 * d2) * d3 := by ac_rfl
  have e2 : w2 * d1 * d3 = (w2 * d3) * d1 := by ac_rfl
  have e3 : w3 * d1 * d2 = (w3 * d2) * d1 := by ac_rfl
  rw [e1, e3]
  exact Nat.le_trans (Nat.mul_le_mul_right _ h12) (e2 ▸ Nat.mul_le_mul_right _ h23)

/-- the shrink factor of `(a, b)` bits is at most that of `(a', b')` bits -/
def Dom (a b a' b' : Nat) : Prop := W a b * D a' b' ≤ W a' b' * D a b

theorem Dom.trans {a1 b1 a2 b2 a3 b3 : Nat} (h12 : Dom a1 b1 a2 b2) (h23 : Dom a2 b2 a3 b3) :
    Dom a1 b1 a3 b3 :=
  dom_trans (D_pos a2 b2) h12 h23

/-- the per-bit factors are below 1 -/
theorem Dom.succ_a (a b : Nat) : Dom (a + 1) b a b := by
  unfold Dom
  rw [W_succ_a, D_succ_a, Nat.mul_assoc, Nat.mul_comm 253921, ← Nat.mul_assoc (W a b)]
  exact Nat.mul_le_mul_left _ (by decide)

theorem Dom.succ_b (a b : Nat) : Dom a (b + 1) a b := by
  unfold Dom
  rw [W_succ_b, D_succ_b, Nat.mul_assoc, Nat.mul_comm 16777215, ← Nat.mul_assoc (W a b)]
  exact Nat.mul_le_mul_left _ (by decide)

theorem Dom.add_a (a b : Nat) : ∀ d, Dom (a + d) b a b
  | 0 => Nat.le_refl _
  | d + 1 => (Dom.succ_a (a + d) b).trans (Dom.add_a a b d)

theorem Dom.add_b (a b : Nat) : ∀ e, Dom a (b + e) a b
  | 0 => Nat.le_refl _
  | e + 1 => (Dom.succ_b a (b + e)).trans (Dom.add_b a b e)

/-- a bound for fewer bits is a bound for more bits -/
theorem Dom.of_le {a' b' a b : Nat} (ha : a' ≤ a) (hb : b' ≤ b) : Dom a b a' b' := by
  obtain ⟨d, rfl⟩ := Nat.exists_eq_add_of_le ha
  obtain ⟨e, rfl⟩ := Nat.exists_eq_add_of_le hb
  exact (Dom.add_a a' (b' + e) d).trans (Dom.add_b a' b' e)

/-- lifting a strict bound from the actual counts `(a', b')` to a dominating pair `(A, B)` -/
theorem lift_lt_dom {a' b' A B X Y : Nat} (hm : Dom A B a' b')
    (h : X * W a' b' < Y * D a' b') : X * W A B < Y * D A B := by
  have hpos := D_pos a' b'
  apply Nat.lt_of_mul_lt_mul_right (a := D a' b')
  have e1 : X * W A B * D a' b' = X * (W A B * D a' b') := by ac_rfl
  have e2 : Y * D A B * D a' b' = (Y * D a' b') * D A B := by ac_rfl
  have e3 : X * (W a' b' * D A B) = (X * W a' b') * D A B := by ac_rfl
  rw [e1, e2]
  exact Nat.lt_of_le_of_lt (Nat.mul_le_mul_left _ hm)
    (e3 ▸ Nat.mul_lt_mul_of_pos_right h (D_pos A B))

/-- the range at the start of a run is at least `2^24` -/
theorem range_floor {r w n : Nat} (hr : 16777216 ≤ r) : 256 ^ n * 2 ^ 24 * w ≤ r * w * 256 ^ n := by
  have e : 256 ^ n * 2 ^ 24 * w = 2 ^ 24 * (w * 256 ^ n) := by ac_rfl
  rw [e, Nat.mul_assoc]
  exact Nat.mul_le_mul_right _ hr

/-- if `n` bytes were consumed on a path with counts `(a', b')` dominated by `(A, B)`,
and `N + 1` bytes are impossible for `(A, B)`, then `n ≤ N` -/
theorem count_le {a' b' A B N n r : Nat} (hr : 16777216 ≤ r)
    (hm : Dom A B a' b')
    (hN : 2 ^ 32 * D A B ≤ 256 ^ (N + 1) * 2 ^ 24 * W A B)
    (h : r * W a' b' * 256 ^ n < 4294967296 * D a' b') : n ≤ N := by
  have h2 : 256 ^ n * 2 ^ 24 * W A B < 2 ^ 32 * D A B :=
    lift_lt_dom hm (Nat.lt_of_le_of_lt (range_floor hr) h)
  have h3 : 256 ^ n * (2 ^ 24 * W A B) < 256 ^ (N + 1) * (2 ^ 24 * W A B) := by
    rw [← Nat.mul_assoc, ← Nat.mul_assoc]
    exact Nat.lt_of_lt_of_le h2 hN
  have h4 : 256 ^ n < 256 ^ (N + 1) := Nat.lt_of_mul_lt_mul_right h3
  have := (Nat.pow_lt_pow_iff_right (by omega : 1 < 256)).1 h4
  omega

def NoEnd (e : Err) : Prop := e ≠ .eof ∧ e ≠ .io

theorem NoEnd.ne_endErr {e : Err} (h : NoEnd e) (rd : Rd) : e ≠ rd.endErr := by
  unfold Rd.endErr; split
  · exact h.2
  · exact h.1

theorem NoEnd_panic (w : String) : NoEnd (.panic w) := ⟨by simp, by simp⟩
theorem NoEnd_lzma : NoEnd .lzma := ⟨by simp, by simp⟩

/-- What one bit with shrink factor `num / den` does to `(range, reader)`:
on success `m ∈ {0, 1}` bytes are consumed and
`range * num * 256^m ≤ range' * den`; an end-of-data error means that the
reader was empty although one more byte was due. -/
def BitSpec (num den : Nat) (rc : RC) (rd : Rd) : Except Err (RC × Rd) → Prop
  | .ok (rc', rd') => rd'.bad = rd.bad ∧ ∃ m, rd'.rem.length + m = rd.rem.length ∧
      rc.range * num * 256 ^ m ≤ rc'.range * den
  | .error e => e = rd.endErr → rd.rem.length = 0 ∧ rc.range * num * 256 < 4294967296 * den

theorem normalize_spec {num den : Nat} (rc0 rc1 : RC) (rd : Rd) (hden : 0 < den)
    (h : rc0.range * num ≤ rc1.range * den) :
    BitSpec num den rc0 rd (RC.normalize rc1 rd) := by
  rcases RC.normalize_cases rc1 rd with ⟨_, e⟩ | ⟨hr, hrem, e⟩ | ⟨hr, b, rest, hrem, e⟩ <;> rw [e]
  · exact ⟨rfl, 0, rfl, by simpa using h⟩
  · refine fun _ => ⟨by rw [hrem]; rfl, ?_⟩
    have h2 : rc1.range * den ≤ 16777215 * den := Nat.mul_le_mul_right _ (by omega)
    generalize rc0.range * num = A at *
    generalize rc1.range * den = X at *
    omega
  · refine ⟨rfl, 1, by rw [hrem]; rfl, ?_⟩
    show rc0.range * num * 256 ^ 1 ≤ rc1.range * 256 * den
    rw [Nat.pow_one, Nat.mul_right_comm rc1.range 256 den]
    exact Nat.mul_le_mul_right _ h

theorem BitSpec_map {α : Type} {num den : Nat} {rc : RC} {rd : Rd} {f : RC × Rd → α} {π : α → RC × Rd}
    {N : Except Err (RC × Rd)} (h : BitSpec num den rc rd N) (hf : ∀ y, π (f y) = y) :
    BitSpec num den rc rd ((N.map f).map π) := by
  cases N with
  | ok y => show BitSpec num den rc rd (.ok (π (f y))); rw [hf y]; exact h
  | error e => exact h

/-- a direct bit: factor `(2^24 - 1) / 2^25` -/
theorem getBit_spec (rc : RC) (rd : Rd) (h : RCInv rc) :
    BitSpec 16777215 33554432 rc rd ((RC.getBit rc rd).map (fun x => x.2)) := by
  have h1 := h.1
  rw [RC.getBit_eq]
  refine BitSpec_map (normalize_spec rc _ rd (by omega) ?_) (fun _ => rfl)
  show rc.range * 16777215 ≤ (rc.range >>> 1) * 33554432
  rw [Nat.shiftRight_eq_div_pow]
  omega

/-- a probability bit: factor `31 * 8191 / 2^24` -/
theorem decodeBit_spec (u : Bool) (p : Nat) (rc : RC) (rd : Rd) (hp : PVal p) (h : RCInv rc) :
    BitSpec 253921 16777216 rc rd ((RC.decodeBit u p rc rd).map (fun x => x.2.2)) := by
  obtain ⟨h1, h2, _⟩ := h
  obtain ⟨hp1, hp2⟩ := hp
  rw [RC.decodeBit_spec u p rc rd (by omega) (RC.bound_lt (by omega) h2)]
  refine BitSpec_map (normalize_spec rc _ rd (by omega) ?_) (fun _ => rfl)
  have hb1 : rc.range / 2 ^ 11 * 31 ≤ rc.range / 2 ^ 11 * p := Nat.mul_le_mul_left _ hp1
  have hb2 : rc.range / 2 ^ 11 * p ≤ rc.range / 2 ^ 11 * 2017 := Nat.mul_le_mul_left _ hp2
  rw [Nat.shiftRight_eq_div_pow]
  split <;> simp only <;> omega

/-- every root-to-leaf path of the tree has at most `a` probability bits and at
most `b` direct bits; every returned value satisfies `Q`; no `.fail` leaf
carries an end-of-data error -/
inductive BitBound {ι α : Type} (Q : α → Prop) : Nat → Nat → Coder ι α → Prop
  | ret {a b : Nat} {x : α} : Q x → BitBound Q a b (.ret x)
  | fail {a b : Nat} {e : Err} : NoEnd e → BitBound Q a b (.fail e)
  | bit {a b : Nat} {i : ι} {k : Bool → Coder ι α} :
      (∀ c, BitBound Q a b (k c)) → BitBound Q (a + 1) b (.bit i k)
  | direct {a b : Nat} {k : Bool → Coder ι α} :
      (∀ c, BitBound Q a b (k c)) → BitBound Q a (b + 1) (.direct k)

theorem BitBound.paths {ι α : Type} {Q : α → Prop} {a b : Nat} {t : Coder ι α}
    (h : BitBound Q a b t) : Bits (fun _ => True) NoEnd Q a b t := by
  induction h with
  | ret hq => exact .ret hq
  | fail he => exact .fail he
  | bit _ ih => exact .bit trivial ih
  | direct _ ih => exact .direct ih

/-- what the bound needs from a probability store with invariant `I` -/
structure StoreOk {σ ι : Type} [ProbStore σ ι] (I : σ → Prop) : Prop where
  get_ok : ∀ s i v, I s → ProbStore.get s i = .ok v → PVal v
  get_err : ∀ s i e, I s → ProbStore.get s i = .error e → NoEnd e
  set_ok : ∀ s i v, I s → PVal v → I (ProbStore.set s i v)

/-- The run invariant.  On success: the path taken has `a'` probability bits and
`b'` direct bits with `P a' b'`, `n` bytes were consumed and
`range * W a' b' * 256^n ≤ range' * D a' b'`.
On an end-of-data error: the whole reader plus one more byte would have been
consumed by a path prefix with counts `(a', b')`, `P a' b'`. -/
def RunSpec {σ α : Type} (I : σ → Prop) (Q : α → Prop) (P : Nat → Nat → Prop) (rc : RC) (rd : Rd) :
    Except Err (α × σ × RC × Rd) → Prop
  | .ok (x, s', rc', rd') => Q x ∧ I s' ∧ RCInv rc' ∧ rd'.bad = rd.bad ∧
      ∃ a' b' n, P a' b' ∧ rd'.rem.length + n = rd.rem.length ∧
        rc.range * W a' b' * 256 ^ n ≤ rc'.range * D a' b'
  | .error e => e = rd.endErr → ∃ a' b', P a' b' ∧
      rc.range * W a' b' * 256 ^ (rd.rem.length + 1) < 4294967296 * D a' b'

theorem endErr_congr {rd rd' : Rd} (h : rd'.bad = rd.bad) : rd'.endErr = rd.endErr := by
  simp [Rd.endErr, h]

theorem RunSpec_step {σ α : Type} {I : σ → Prop} {Q : α → Prop} {P P1 : Nat → Nat → Prop}
    {k d : Nat} {rc rc1 : RC} {rd rd1 : Rd} {r : Except Err (α × σ × RC × Rd)}
    (hd : 0 < d)
    (hW : ∀ a' b', P1 a' b' → ∃ a'' b'', P a'' b'' ∧
      W a'' b'' = k * W a' b' ∧ D a'' b'' = D a' b' * d)
    (hbit : BitSpec k d rc rd (.ok (rc1, rd1))) (h : RunSpec I Q P1 rc1 rd1 r) :
    RunSpec I Q P rc rd r := by
  obtain ⟨hbad, m, hm, hle⟩ := hbit
  cases r with
  | error e =>
    intro he
    rw [← endErr_congr hbad] at he
    obtain ⟨a', b', hP', hlt⟩ := h he
    obtain ⟨a'', b'', hP'', eW, eD⟩ := hW a' b' hP'
    refine ⟨a'', b'', hP'', ?_⟩
    have e : rd.rem.length + 1 = m + (rd1.rem.length + 1) := by omega
    rw [eW, eD, e, Nat.pow_add]
    exact chain_lt hd hle hlt
  | ok z =>
    obtain ⟨x, s', rc', rd'⟩ := z
    obtain ⟨hq, hI, hrc', hbad', a', b', n, hP', hn, hle'⟩ := h
    obtain ⟨a'', b'', hP'', eW, eD⟩ := hW a' b' hP'
    refine ⟨hq, hI, hrc', hbad'.trans hbad, a'', b'', m + n, hP'', by omega, ?_⟩
    rw [eW, eD, Nat.pow_add]
    exact chain_le hle hle'

theorem runDec_spec {σ ι α : Type} [ProbStore σ ι] {I : σ → Prop} (SO : StoreOk I) (u : Bool)
    {V : ι → Prop} {Q : α → Prop} {P : Nat → Nat → Prop} {t : Coder ι α} (h : Paths V NoEnd Q P t) :
    ∀ (s : σ) (rc : RC) (rd : Rd), I s → RCInv rc →
      RunSpec I Q P rc rd (runDec u t s rc rd) := by
  induction h with
  | ret h0 hq =>
    intro s rc rd hI hrc
    exact ⟨hq, hI, hrc, rfl, 0, 0, 0, h0, rfl, by simp [W_zero, D_zero]⟩
  | fail _ he =>
    intro s rc rd hI hrc
    exact fun h => absurd h (he.ne_endErr rd)
  | @bit P i k _ _ hk ih =>
    intro s rc rd hI hrc
    cases hg : ProbStore.get s i with
    | error e =>
      simp only [runDec, hg]
      exact fun h => absurd h ((SO.get_err s i e hI hg).ne_endErr rd)
    | ok p =>
      simp only [runDec, hg]
      have hpv := SO.get_ok s i p hI hg
      have hsafe := decodeBit_safe u p rc rd hpv hrc
      have hspec := decodeBit_spec u p rc rd hpv hrc
      cases hx : RC.decodeBit u p rc rd with
      | error e =>
        rw [hx] at hspec
        simp only []
        intro he
        obtain ⟨hl, hlt⟩ := hspec he
        refine ⟨1, 0, (hk true).root, ?_⟩
        rw [hl]
        simpa [W, D] using hlt
      | ok y =>
        obtain ⟨c, p', rc1, rd1⟩ := y
        rw [hx] at hspec hsafe
        obtain ⟨hpv', hrc1, _, _⟩ := hsafe
        have hI' : I (if u = true then ProbStore.set s i p' else s) := by
          split
          · exact SO.set_ok s i p' hI hpv'
          · exact hI
        have := ih c _ rc1 rd1 hI' hrc1
        simp only []
        refine RunSpec_step (k := 253921) (d := 16777216) (by omega) ?_ hspec this
        intro a' b' hP'
        exact ⟨a' + 1, b', hP', W_succ_a a' b', D_succ_a a' b'⟩
  | @direct P k _ hk ih =>
    intro s rc rd hI hrc
    simp only [runDec]
    have hsafe := getBit_safe rc rd hrc
    have hspec := getBit_spec rc rd hrc
    cases hx : RC.getBit rc rd with
    | error e =>
      rw [hx] at hspec
      simp only []
      intro he
      obtain ⟨hl, hlt⟩ := hspec he
      refine ⟨0, 1, (hk true).root, ?_⟩
      rw [hl]
      simpa [W, D] using hlt
    | ok y =>
      obtain ⟨c, rc1, rd1⟩ := y
      rw [hx] at hspec hsafe
      obtain ⟨hrc1, _, _⟩ := hsafe
      have := ih c s rc1 rd1 hI hrc1
      simp only []
      refine RunSpec_step (k := 16777215) (d := 33554432) (by omega) ?_ hspec this
      intro a' b' hP'
      exact ⟨a', b' + 1, hP', W_succ_b a' b', D_succ_b a' b'⟩

/-- The number of consumed bytes.  `(A, B)` dominates every path prefix (`hdom`) and `N + 1`
bytes are arithmetically impossible for `(A, B)` (`hN`): a successful run
consumes at most `N` bytes, and with at least `N` bytes available the run never
fails with the reader's end-of-data error. -/
theorem runDec_bytes_le {σ ι α : Type} [ProbStore σ ι] {I : σ → Prop} (SO : StoreOk I) (u : Bool)
    {V : ι → Prop} {Q : α → Prop} {P : Nat → Nat → Prop} {t : Coder ι α} (h : Paths V NoEnd Q P t)
    {A B N : Nat}
    (hdom : ∀ a' b', P a' b' → Dom A B a' b')
    (hN : 2 ^ 32 * D A B ≤ 256 ^ (N + 1) * 2 ^ 24 * W A B)
    {s : σ} {rc : RC} {rd : Rd} (hI : I s) (hrc : RCInv rc) :
    (N ≤ rd.rem.length → runDec u t s rc rd ≠ .error rd.endErr) ∧
    (∀ x s' rc' rd', runDec u t s rc rd = .ok (x, s', rc', rd') →
      Q x ∧ I s' ∧ RCInv rc' ∧ rd'.bad = rd.bad ∧
        ∃ n, rd'.rem.length + n = rd.rem.length ∧ n ≤ N) := by
  have hs := runDec_spec SO u h s rc rd hI hrc
  constructor
  · intro hlen he
    rw [he] at hs
    obtain ⟨a', b', hP, hlt⟩ := hs rfl
    have := count_le hrc.1 (hdom a' b' hP) hN hlt
    omega
  · intro x s' rc' rd' he
    rw [he] at hs
    obtain ⟨hq, hI', hrc', hbad, a', b', n, hP, hn, hle⟩ := hs
    refine ⟨hq, hI', hrc', hbad, n, hn, ?_⟩
    refine count_le hrc.1 (hdom a' b' hP) hN (Nat.lt_of_le_of_lt hle ?_)
    exact Nat.mul_lt_mul_of_pos_right hrc'.2.1 (D_pos a' b')

/-- A successful run on a tree with at most `a`
probability bits and `b` direct bits per path took a path with `a' ≤ a`, `b' ≤ b`
bits, consumed `n` bytes, and satisfies the range invariant; in particular `n`
is bounded by the closed inequality for `(a', b')` and for `(a, b)`. -/
theorem runDec_bytes_bound {σ ι α : Type} [ProbStore σ ι] {I : σ → Prop} (SO : StoreOk I) (u : Bool)
    {Q : α → Prop} {a b : Nat} {t : Coder ι α} (h : BitBound Q a b t)
    {s s' : σ} {rc rc' : RC} {rd rd' : Rd} {x : α} (hI : I s) (hrc : RCInv rc)
    (hr : runDec u t s rc rd = .ok (x, s', rc', rd')) :
    Q x ∧ I s' ∧ RCInv rc' ∧ rd'.bad = rd.bad ∧
      ∃ a' b' n, a' ≤ a ∧ b' ≤ b ∧ rd'.rem.length + n = rd.rem.length ∧
        rc.range * (253921 ^ a' * (2 ^ 24 - 1) ^ b') * 256 ^ n ≤ rc'.range * 2 ^ (24 * a' + 25 * b') ∧
        256 ^ n * 2 ^ 24 * (253921 ^ a' * (2 ^ 24 - 1) ^ b') < 2 ^ 32 * 2 ^ (24 * a' + 25 * b') ∧
        256 ^ n * 2 ^ 24 * (253921 ^ a * (2 ^ 24 - 1) ^ b) < 2 ^ 32 * 2 ^ (24 * a + 25 * b) := by
  have hs := runDec_spec SO u h.paths s rc rd hI hrc
  rw [hr] at hs
  obtain ⟨hq, hI', hrc', hbad, a', b', n, ⟨ha, hb⟩, hn, hle⟩ := hs
  refine ⟨hq, hI', hrc', hbad, a', b', n, ha, hb, hn, hle, ?_⟩
  have h2 : 256 ^ n * 2 ^ 24 * W a' b' < 2 ^ 32 * D a' b' :=
    Nat.lt_of_le_of_lt (Nat.le_trans (range_floor hrc.1) hle)
      (Nat.mul_lt_mul_of_pos_right hrc'.2.1 (D_pos a' b'))
  exact ⟨h2, lift_lt_dom (Dom.of_le ha hb) h2⟩

/-- `N + 1` bytes being arithmetically impossible for `(a, b)`,
a run with at least `N` bytes available never fails with the reader's
end-of-data error (`.eof` for an ordinary reader), and a successful run
consumes at most `N` bytes. -/
theorem runDec_no_eof {σ ι α : Type} [ProbStore σ ι] {I : σ → Prop} (SO : StoreOk I) (u : Bool)
    {Q : α → Prop} {a b N : Nat} {t : Coder ι α} (h : BitBound Q a b t)
    (hN : 2 ^ 32 * 2 ^ (24 * a + 25 * b) ≤ 256 ^ (N + 1) * 2 ^ 24 * (253921 ^ a * (2 ^ 24 - 1) ^ b))
    {s : σ} {rc : RC} {rd : Rd} (hI : I s) (hrc : RCInv rc) :
    (N ≤ rd.rem.length → runDec u t s rc rd ≠ .error rd.endErr) ∧
    (N ≤ rd.rem.length → rd.bad = false → runDec u t s rc rd ≠ .error .eof) ∧
    (∀ x s' rc' rd', runDec u t s rc rd = .ok (x, s', rc', rd') →
      ∃ n, rd'.rem.length + n = rd.rem.length ∧ n ≤ N) := by
  have := runDec_bytes_le SO u h.paths (A := a) (B := b) (N := N)
    (fun a' b' hP => Dom.of_le hP.1 hP.2) hN hI hrc (rd := rd)
  refine ⟨this.1, ?_, fun x s' rc' rd' he => (this.2 x s' rc' rd' he).2.2.2.2⟩
  intro hlen hbad
  have := this.1 hlen
  simpa [Rd.endErr, hbad] using this

/-- `ProbsInv` is all the bound needs from the tables – no index validity: an
out-of-bounds index yields a panic, not an end-of-data error. -/
theorem probs_storeOk : StoreOk (σ := Probs) ProbsInv where
  get_ok := fun _ _ _ hI hg => Probs.get_pval hI hg
  get_err := fun _ _ _ hI hg => Probs.get_error hI hg ▸ NoEnd_panic _
  set_ok := fun _ i _ hI hv => (Probs.set_inv hI hv i).1

end Need20
end Lzma
