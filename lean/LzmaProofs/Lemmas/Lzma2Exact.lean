/-
  A format-level specification of LZMA2 chunk sequences (`SChunk`: reference encoder `encode2`,
  meaning `expand2`, well-formedness `WF2`), and the payload lemma: what the reference encoder emits
  for a symbol program from ANY coupled coder state (adapted probabilities, any `state`/`rep`s,
  non-empty history) is decoded exactly by `process_mode(Finish)` on the accumulating window.
-/
import LzmaProofs.Lemmas.DecodeExact
import LzmaProofs.Lemmas.Lzma2
import LzmaProofs.Lemmas.SafetyLzma2
namespace Lzma
namespace L2E
open DState REnc L2

/-- distances are limited by the history only (`LzAccumBuffer` does not know the dictionary
size); the format caps them at `2^32 - 1` -/
def dictLim : Nat := 0xFFFFFFFF

/-- one LZMA2 chunk at the format level -/
inductive SChunk where
  /-- uncompressed chunk, with (control 1) or without (control 2) dictionary reset -/
  | raw (resetDict : Bool) (data : Bytes)
  /-- LZMA chunk.  `cls`: 0 nothing, 1 state reset, 2 state reset + new properties,
  3 state reset + new properties + dictionary reset.  `props` only matters for `cls ≥ 2`. -/
  | lzma (cls : Nat) (props : Props) (prog : List Sym)
  deriving Repr, Inhabited

/-- the coder state a compressed chunk of class `cls` starts its program in: `cls = 0` continues,
a state reset zeroes `state`/`rep`s, a dictionary reset also empties the history -/
def startSpec (cls : Nat) (sp : SpecSt) : SpecSt :=
  if cls = 0 then sp else if cls = 3 then {} else { hist := sp.hist }

def propsInForce (cls : Nat) (new cur : Props) : Props := if cls ≥ 2 then new else cur

/-- the encoder state a compressed chunk starts in (fresh probabilities after a state reset) -/
def startEnc (cls : Nat) (props : Props) (es : EncSt) : EncSt :=
  if cls = 0 then es
  else { EncSt.new (propsInForce cls props es.props) with spec := startSpec cls es.spec }

def rawAfter (rd : Bool) (data : Bytes) (sp : SpecSt) : SpecSt :=
  { sp with hist := (if rd then #[] else sp.hist) ++ data.toArray }

/-- the payload of a compressed chunk: reference encoding of the program from the current coder
state with a FRESH range encoder, then the 5-byte flush.  Returns the sink holding the payload
and the coder state after the program. -/
def encPayload (es0 : EncSt) (prog : List Sym) : Sink × Except Err EncSt :=
  (do
    let (s, e) ← encodeProg dictLim prog es0 {}
    let _ ← e.finish
    pure s : M EncSt) {}

def propsByte (p : Props) : UInt8 := UInt8.ofNat (p.lc + 9 * (p.lp + 5 * p.pb))

/-- reference encoder for one chunk: its bytes and the coder state after it -/
def encChunk (es : EncSt) : SChunk → Bytes × EncSt
  | .raw rd data =>
    ((if rd then 1 else 2) :: (beBytes 2 (data.length - 1) ++ data),
      { es with spec := rawAfter rd data es.spec })
  | .lzma cls props prog =>
    match encPayload (startEnc cls props es) prog with
    | (snk, .ok es') =>
      let payload := snk.out.toList
      let u := es'.spec.hist.size - (startEnc cls props es).spec.hist.size
      (UInt8.ofNat (0x80 + cls * 32 + ((u - 1) >>> 16)) ::
        (beBytes 2 ((u - 1) % 65536) ++ (beBytes 2 (payload.length - 1) ++
          ((if cls ≥ 2 then [propsByte props] else []) ++ payload))), es')
    | (_, .error _) => ([], es)

/-- reference encoder for a chunk sequence (without the end byte `0x00`) -/
def encode2Aux : EncSt → List SChunk → Bytes
  | _, [] => []
  | es, c :: cs => (encChunk es c).1 ++ encode2Aux (encChunk es c).2 cs

/-- the decoder starts with properties `lc = lp = pb = 0` (`Lzma2Decoder::new`) -/
def encode2 (cs : List SChunk) : Bytes := encode2Aux (EncSt.new { lc := 0, lp := 0, pb := 0 }) cs

/-- meaning of one chunk in coder state `sp` (history since the last dictionary reset): the new
state and the bytes the chunk produces -/
def SChunk.sem (sp : SpecSt) : SChunk → Option (SpecSt × Bytes)
  | .raw rd data => some (rawAfter rd data sp, data)
  | .lzma cls _ prog =>
    match SpecSt.run dictLim (startSpec cls sp) prog with
    | some (sp', false) => some (sp', sp'.hist.toList.drop (startSpec cls sp).hist.size)
    | _ => none

def expand2Aux : SpecSt → List SChunk → Option Bytes
  | _, [] => some []
  | sp, c :: cs =>
    match c.sem sp with
    | none => none
    | some (sp', out) => (expand2Aux sp' cs).map (out ++ ·)

/-- the bytes a chunk sequence denotes -/
def expand2 (cs : List SChunk) : Option Bytes := expand2Aux {} cs

/-- the result of running a chunk's program in the spec: it is well-formed and produces 1 .. 2^21
bytes; the window (`base` bytes before the chunk) stays below `usize::MAX`, the memory limit of
the accumulating window -/
def ProgOk (base : Nat) : Option (SpecSt × Bool) → Prop
  | some (sp', _) =>
    1 ≤ sp'.hist.size - base ∧ sp'.hist.size - base ≤ 2097152 ∧ sp'.hist.size ≤ USIZE_MAX
  | none => False

instance (base : Nat) (o : Option (SpecSt × Bool)) : Decidable (ProgOk base o) := by
  cases o with
  | none => exact isFalse id
  | some r => unfold ProgOk; infer_instance

/-- after a match the last distance lies inside the history -/
def MbOk (sp : SpecSt) : Prop := sp.state ≥ 7 → sp.rep0 + 1 ≤ sp.hist.size

instance (sp : SpecSt) : Decidable (MbOk sp) := by unfold MbOk; infer_instance

/-- well-formedness of one chunk in the encoder state `es` it starts in -/
def SChunk.WF (es : EncSt) : SChunk → Prop
  | .raw _ data => 1 ≤ data.length ∧ data.length ≤ 65536
  | .lzma cls props prog =>
    cls ≤ 3 ∧
    (startEnc cls props es).props.lc + (startEnc cls props es).props.lp ≤ 4 ∧
    (startEnc cls props es).props.pb ≤ 4 ∧
    Sym.eos ∉ prog ∧
    -- a chunk that continues the coder state after a match: the last distance lies in the history
    -- (automatic unless an uncompressed chunk reset the dictionary since the last compressed
    -- chunk, see `wf2s_imp`; without it lzma-rs fails, see `C02.carry_after_raw_reset_fails`)
    (cls = 0 → MbOk es.spec) ∧
    ProgOk (startSpec cls es.spec).hist.size (SpecSt.run dictLim (startSpec cls es.spec) prog) ∧
    -- the payload as produced fits the 16-bit packed-size field
    (encPayload (startEnc cls props es) prog).1.out.size ≤ 65536

instance (es : EncSt) (c : SChunk) : Decidable (c.WF es) := by
  cases c with
  | raw rd data => unfold SChunk.WF; infer_instance
  | lzma cls props prog => unfold SChunk.WF; infer_instance

def WF2Aux : EncSt → List SChunk → Prop
  | _, [] => True
  | es, c :: cs => c.WF es ∧ WF2Aux (encChunk es c).2 cs

/-- well-formedness of a chunk sequence for the lzma-rs decoder.  NOT required: that the first
chunk resets the dictionary, that a chunk after a dictionary reset sets new properties. -/
def WF2 (cs : List SChunk) : Prop := WF2Aux (EncSt.new { lc := 0, lp := 0, pb := 0 }) cs

instance decWF2Aux : (es : EncSt) → (cs : List SChunk) → Decidable (WF2Aux es cs)
  | _, [] => isTrue trivial
  | es, c :: cs =>
    have := decWF2Aux (encChunk es c).2 cs
    inferInstanceAs (Decidable (c.WF es ∧ WF2Aux (encChunk es c).2 cs))

instance (cs : List SChunk) : Decidable (WF2 cs) := decWF2Aux _ cs

/-- `SChunk.WF` with the clause `cls = 0 → MbOk es.spec` replaced by a flag: a class-0 chunk is
only allowed while `carryOk` -/
def SChunk.WFs (carryOk : Bool) (es : EncSt) : SChunk → Prop
  | .raw _ data => 1 ≤ data.length ∧ data.length ≤ 65536
  | .lzma cls props prog =>
    cls ≤ 3 ∧
    (startEnc cls props es).props.lc + (startEnc cls props es).props.lp ≤ 4 ∧
    (startEnc cls props es).props.pb ≤ 4 ∧
    Sym.eos ∉ prog ∧
    (cls = 0 → carryOk = true) ∧
    ProgOk (startSpec cls es.spec).hist.size (SpecSt.run dictLim (startSpec cls es.spec) prog) ∧
    (encPayload (startEnc cls props es) prog).1.out.size ≤ 65536

instance (b : Bool) (es : EncSt) (c : SChunk) : Decidable (c.WFs b es) := by
  cases c with
  | raw rd data => unfold SChunk.WFs; infer_instance
  | lzma cls props prog => unfold SChunk.WFs; infer_instance

/-- the flag after a chunk: an uncompressed chunk with dictionary reset forbids carrying the coder
state on; any compressed chunk allows it again -/
def carryAfter (carryOk : Bool) : SChunk → Bool
  | .raw rd _ => carryOk && !rd
  | .lzma _ _ _ => true

def WF2sAux : Bool → EncSt → List SChunk → Prop
  | _, _, [] => True
  | b, es, c :: cs => c.WFs b es ∧ WF2sAux (carryAfter b c) (encChunk es c).2 cs

/-- syntactic well-formedness: as `WF2`, but "a chunk that continues the coder state does not
follow an uncompressed chunk with dictionary reset unless a compressed chunk lies in between" -/
def WF2s (cs : List SChunk) : Prop := WF2sAux true (EncSt.new { lc := 0, lp := 0, pb := 0 }) cs

instance decWF2sAux : (b : Bool) → (es : EncSt) → (cs : List SChunk) → Decidable (WF2sAux b es cs)
  | _, _, [] => isTrue trivial
  | b, es, c :: cs =>
    have := decWF2sAux (carryAfter b c) (encChunk es c).2 cs
    inferInstanceAs (Decidable (c.WFs b es ∧ WF2sAux (carryAfter b c) (encChunk es c).2 cs))

instance (cs : List SChunk) : Decidable (WF2s cs) := decWF2sAux _ _ cs

/-- what a chunk guarantees about `MbOk` afterwards -/
def MbAfter (sp sp' : SpecSt) : SChunk → Prop
  | .raw rd _ => rd = false → MbOk sp → MbOk sp'
  | .lzma _ _ _ => MbOk sp'

theorem startSpec_zero (sp : SpecSt) : startSpec 0 sp = sp := rfl

theorem startSpec_regs {cls : Nat} (h : cls ≠ 0) (sp : SpecSt) :
    (startSpec cls sp).state = 0 ∧ (startSpec cls sp).rep0 = 0 ∧ (startSpec cls sp).rep1 = 0 ∧
    (startSpec cls sp).rep2 = 0 ∧ (startSpec cls sp).rep3 = 0 := by
  unfold startSpec; rw [if_neg h]; split <;> exact ⟨rfl, rfl, rfl, rfl, rfl⟩

theorem startSpec_hist (cls : Nat) (sp : SpecSt) :
    (startSpec cls sp).hist = if cls = 3 then #[] else sp.hist := by
  unfold startSpec
  by_cases h0 : cls = 0
  · subst h0; rfl
  · rw [if_neg h0]; split <;> rfl

theorem startEnc_spec (cls : Nat) (props : Props) (es : EncSt) :
    (startEnc cls props es).spec = startSpec cls es.spec := by
  unfold startEnc; split
  · rename_i h; subst h; rfl
  · rfl

theorem startEnc_props {cls : Nat} (h2 : cls ≥ 2) (props : Props) (es : EncSt) :
    (startEnc cls props es).props = props := by
  unfold startEnc propsInForce
  rw [if_neg (by omega), if_pos h2]; rfl

theorem startEnc_three (props : Props) (es : EncSt) : startEnc 3 props es = EncSt.new props := rfl

theorem encPayload_fresh (props : Props) (prog : List Sym) :
    (encPayload (EncSt.new props) prog).1.out.toList = encodeSyms props dictLim prog := by
  unfold encPayload encodeSyms
  simp only [bind_run]
  rcases encodeProg dictLim prog (EncSt.new props) {} {} with ⟨s1, x | ⟨s, e⟩⟩
  · rfl
  · simp only
    rcases e.finish s1 with ⟨s2, x | e2⟩ <;> rfl

/-- `DecEnc` without the window: what survives from chunk to chunk -/
structure Coupled (st : DState) (es : EncSt) : Prop where
  probs : st.probs = es.probs
  props : st.props = es.props
  state : st.state = es.spec.state
  rep0 : st.rep0 = es.spec.rep0
  rep1 : st.rep1 = es.spec.rep1
  rep2 : st.rep2 = es.spec.rep2
  rep3 : st.rep3 = es.spec.rep3
  dinv : Safety.DStateInv st
  pbuf : st.partialBuf = []
  pok : ProbsOk es.probs
  lclp : es.props.lc + es.props.lp ≤ 4
  lim : es.spec.state ≥ 7 → es.spec.rep0 + 1 ≤ dictLim

theorem Coupled.propsOk {st : DState} {es : EncSt} (h : Coupled st es) : Safety.PropsOk es.props :=
  ⟨by have := h.lclp; omega, by have := h.lclp; omega, h.props ▸ h.dinv.pb⟩

theorem Coupled.litsz {st : DState} {es : EncSt} (h : Coupled st es) :
    es.probs.lit.size = (1 <<< (es.props.lc + es.props.lp)) * 0x300 := by
  rw [← h.probs, ← h.props, ← h.dinv.rows]
  exact h.dinv.probs.lit.1

theorem Coupled.encode_total {st : DState} {es : EncSt} (h : Coupled st es) {prog : List Sym}
    {sp' : SpecSt} {b : Bool} (hrun : SpecSt.run dictLim es.spec prog = some (sp', b)) :
    ∃ snkF probsF eF snkB e2,
      encodeEvents (progEvents dictLim es.props es.spec prog) es.probs {} {} =
        (snkF, .ok (probsF, eF)) ∧
      eF.finish snkF = (snkB, .ok e2) := by
  refine encodeEvents_total _ es.probs {} {} rfl eok_fresh h.pok ?_
  intro i bit hm
  have hst : es.spec.state < 12 := by rw [← h.state]; exact h.dinv.state
  have hv := progEvents_valid (dict := dictLim) h.propsOk prog es.spec hst
    (run_rawOk prog _ _ _ hrun) i bit hm
  have hinv : Safety.ProbsInv es.probs := h.probs ▸ h.dinv.probs
  have hrows : es.probs.litRows = 1 <<< (es.props.lc + es.props.lp) := by
    rw [← h.probs, ← h.props]; exact h.dinv.rows
  rw [← hrows] at hv
  obtain ⟨v, hg, -⟩ := Safety.Probs.get_safe hinv hv
  exact ⟨v, hg⟩

theorem encPayload_eq {es : EncSt} {prog : List Sym} {sp' : SpecSt} {b : Bool}
    (hrun : SpecSt.run dictLim es.spec prog = some (sp', b))
    {snkF snkB : Sink} {probsF : Probs} {eF e2 : REnc}
    (henc : encodeEvents (progEvents dictLim es.props es.spec prog) es.probs {} {} =
      (snkF, .ok (probsF, eF)))
    (hfin : eF.finish snkF = (snkB, .ok e2)) :
    encPayload es prog = (snkB, .ok { es with probs := probsF, spec := sp' }) := by
  unfold encPayload
  rw [bind_run, encodeProg_eq, henc]
  simp only [bind_run, hfin, pure_run, progSpec_of_run prog _ _ _ hrun]

theorem finishRun_loop {c c' : Cfg Accum} {n : Nat} {x : Exit} (h : FinishRun c n x c')
    (hp : c.s.partialBuf = []) (hs : Safety.DStateInv c.s) (hw : Safety.AccumInv c.w)
    (hrc : Safety.RCInv c.rc) (fuel : Nat)
    (hf : (c.rd.rem.length + c.s.partialBuf.length) * 4294967296 + c.rc.range < fuel) :
    processLoop .finish fuel c.s c.w c.rc c.rd c.snk = (c'.snk, .ok (c'.s, c'.w, c'.rc, c'.rd)) ∧
      Safety.DStateInv c'.s := by
  have hsafe := Safety.processLoop_safe .finish fuel c.s c.w c.rc c.rd hs hw hrc hf c.snk
  have hloop := h.loop_ok_of_ne_fuel hp fuel hsafe.ne_fuel
  refine ⟨hloop, ?_⟩
  rw [hloop] at hsafe
  exact hsafe.1

/-- the payload lemma, from ANY coupled coder state: a class-0 chunk continues where the previous
one stopped -/
theorem payload_exec {st0 : DState} {es0 : EncSt} {a0 : Accum} (k0 : Sink) {prog : List Sym}
    {sp' : SpecSt} (hc : Coupled st0 es0) (ha : AccumInv a0 es0.spec.hist.toList)
    (hm : a0.memlimit = USIZE_MAX) (hmb : MbOk es0.spec)
    (hrun : SpecSt.run dictLim es0.spec prog = some (sp', false))
    (hfit : sp'.hist.size ≤ USIZE_MAX) :
    ∃ snkB probsF, encPayload es0 prog = (snkB, .ok { es0 with probs := probsF, spec := sp' }) ∧
      5 ≤ snkB.out.toList.length ∧
      ∃ rc tk st1 a1 rc1 tk1, RC.new (Rd.ofBytes snkB.out.toList) = .ok (rc, tk) ∧
        (st0.setUnpackedSize (some sp'.hist.size)).processMode .finish a0 rc tk k0 =
          (k0, .ok (st1, a1, rc1, tk1)) ∧
        rc1.code = 0 ∧ tk1.rem = [] ∧ tk1.bad = false ∧
        Coupled st1 { es0 with probs := probsF, spec := sp' } ∧
        AccumInv a1 sp'.hist.toList ∧ a1.memlimit = USIZE_MAX ∧ MbOk sp' := by
  obtain ⟨snkF, probsF, eF, snkB, e2, henc, hfin⟩ := hc.encode_total hrun
  have hpay := encPayload_eq hrun henc hfin
  obtain ⟨P, hP, hinit⟩ := rc_roundtrip_init (snk0 := {}) rfl hc.pok henc hfin
  have hP' : snkB.out.toList = P := by simpa using hP
  have hcount := encoder_byte_count (snk0 := {}) rfl hc.pok henc hfin
  obtain ⟨rc, tk, hnew, hbad, hsim⟩ := hinit [] false
  rw [List.append_nil] at hnew
  refine ⟨snkB, probsF, hpay, by rw [hcount]; simp, ?_⟩
  have hde : DecEnc (accumModel USIZE_MAX dictLim k0) (st0.setUnpackedSize (some sp'.hist.size))
      a0 k0 es0 :=
    { probs := hc.probs, props := hc.props, state := hc.state, rep0 := hc.rep0, rep1 := hc.rep1,
      rep2 := hc.rep2, rep3 := hc.rep3, lc := by have := hc.lclp; omega, litsz := hc.litsz,
      pok := hc.pok, win := ⟨ha, hm, rfl⟩, mb := fun h => ⟨hmb h, hc.lim h⟩ }
  have henc' : encodeEvents (progEvents dictLim es0.props es0.spec prog ++ []) es0.probs {} {} =
      (snkF, .ok (probsF, eF)) := by rw [List.append_nil]; exact henc
  obtain ⟨s', w', k', probs', e', esnk', rc', rd', hsteps, hinv', hs', hsim', hencE, hbad', hpb', hu'⟩ :=
    decode_prog (M := accumModel USIZE_MAX dictLim k0) (dict := dictLim) (Nat.le_refl _) hfin []
      prog (st0.setUnpackedSize (some sp'.hist.size)) a0 k0 es0 {} {} rc tk sp' hde hrun hfit hc.pbuf
      hbad (.inl ⟨sp'.hist.size, rfl, Nat.le_refl _⟩) rfl hsim henc'
  obtain ⟨hrem, hcode, hprobs⟩ := rc_roundtrip_final hs' hinv'.pok hsim' hencE hfin
  subst hprobs
  obtain ⟨hacc', hmem', hk'⟩ := hinv'.win
  subst hk'
  have hlen : w'.len = sp'.hist.size := by rw [hacc'.2, Array.length_toList]
  have hexit : FinishRun (⟨s', w', rc', rd', k'⟩ : Cfg Accum) 0 .sizeReached ⟨s', w', rc', rd', k'⟩ :=
    .sizeReached (n := sp'.hist.size) (by show s'.unpackedSize = _; rw [hu']; rfl)
      (by show sp'.hist.size ≤ w'.len; omega)
  have hrunAll := hsteps.append_run hexit
  have hrci : Safety.RCInv rc := by
    have := Safety.RC_new_safe { rem := P, bad := false }
    rw [hnew] at this
    exact this.1
  have hsi : Safety.DStateInv (st0.setUnpackedSize (some sp'.hist.size)) :=
    Safety.setUnpackedSize_inv hc.dinv _
  have hw : Safety.AccumInv a0 := by
    show a0.buf.size = a0.len
    rw [ha.2, ← Array.length_toList, ha.1]
  obtain ⟨hloop, hsi'⟩ := finishRun_loop hrunAll hc.pbuf hsi hw hrci
    (loopFuel (st0.setUnpackedSize (some sp'.hist.size)) tk) (Safety.loopFuel_suffices tk hrci)
  have hmode : (st0.setUnpackedSize (some sp'.hist.size)).processMode .finish a0 rc tk k' =
      (k', .ok (s', w', rc', rd')) := by
    refine processMode_ok_iff.2 ⟨hloop, ?_⟩
    intro n hn _
    cases hn
    exact hlen
  refine ⟨rc, tk, s', w', rc', rd', by rw [hP']; exact hnew, hmode, hcode, hrem, hbad', ?_, hacc',
    hmem', fun h => (hinv'.mb h).1⟩
  exact
    { probs := hinv'.probs, props := hinv'.props, state := hinv'.state, rep0 := hinv'.rep0,
      rep1 := hinv'.rep1, rep2 := hinv'.rep2, rep3 := hinv'.rep3, dinv := hsi', pbuf := hpb',
      pok := hinv'.pok, lclp := hc.lclp, lim := fun h => (hinv'.mb h).2 }

end L2E
end Lzma
