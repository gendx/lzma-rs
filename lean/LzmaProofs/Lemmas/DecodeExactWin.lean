/-
  Spec side of the exactness proof: `SpecSt.copy` in closed form (`lzCopy`), and `SpecSt.step` read by
  kind of symbol — literal, end marker, or a copy described by `copyOf` — so that no other proof
  splits on the five symbols.  Decoder side: `WinModel`, what the symbol decoder needs from a window
  that represents a history; the circular window of `.lzma` and the accumulating window of LZMA2 are
  its two instances.
-/
import LzmaProofs.Lemmas.Window
import LzmaProofs.Lemmas.SymLayerDist
namespace Lzma

theorem SpecSt.copy_spec : ∀ (n dist : Nat) (h h' : Array UInt8), SpecSt.copy n dist h = some h' →
    (n = 0 ∨ (1 ≤ dist ∧ dist ≤ h.size)) ∧ h'.toList = h.toList ++ lzCopy h.toList dist n
  | 0, dist, h, h', hc => by
    simp only [SpecSt.copy, Option.some.injEq] at hc
    subst hc
    simp
  | n+1, dist, h, h', hc => by
    rw [SpecSt.copy] at hc
    split at hc
    · cases hc
    · rename_i hg
      have hg' : 1 ≤ dist ∧ dist ≤ h.size := by omega
      have hlt : h.size - dist < h.size := by omega
      rw [Array.getElem?_eq_getElem hlt] at hc
      simp only at hc
      obtain ⟨-, ih⟩ := SpecSt.copy_spec n dist _ _ hc
      refine ⟨.inr hg', ?_⟩
      rw [ih, lzCopy_succ]
      have hx : h.toList[h.toList.length - dist]?.getD 0 = h[h.size - dist] := by
        simp [hlt]
      rw [hx]
      simp

theorem SpecSt.copy_eq_none_iff (n dist : Nat) (h : Array UInt8) :
    SpecSt.copy (n + 1) dist h = none ↔ dist = 0 ∨ dist > h.size := by
  induction n generalizing h with
  | zero =>
    rw [SpecSt.copy]
    split
    · simpa
    · rename_i hg
      rw [Array.getElem?_eq_getElem (by omega : h.size - dist < h.size)]
      simpa [SpecSt.copy] using hg
  | succ n ih =>
    rw [SpecSt.copy]
    split
    · simpa
    · rename_i hg
      rw [Array.getElem?_eq_getElem (by omega : h.size - dist < h.size)]
      simp only [ih, Array.size_push]
      omega

theorem SpecSt.copy_size {n dist : Nat} {h h' : Array UInt8} (hc : SpecSt.copy n dist h = some h') :
    h'.size = h.size + n := by
  rw [← Array.length_toList, (SpecSt.copy_spec _ _ _ _ hc).2, List.length_append, length_lzCopy,
    Array.length_toList]

namespace SpecSt

theorem litState_le (x : Nat) : litState x ≤ x := by
  unfold litState
  split
  · omega
  · split <;> omega

/-- the registers after a rep match has moved distance number `idx` to the front -/
def rotate (st : SpecSt) : Nat → SpecSt
  | 0 => st
  | 1 => { st with rep0 := st.rep1, rep1 := st.rep0 }
  | 2 => { st with rep0 := st.rep2, rep1 := st.rep0, rep2 := st.rep1 }
  | _ => { st with rep0 := st.rep3, rep1 := st.rep0, rep2 := st.rep1, rep3 := st.rep2 }

/-- what a copy symbol (match, short rep, rep match) does apart from the copy itself, which alone
depends on the dictionary size and the history: the registers it leaves, and its length -/
def copyOf (st : SpecSt) : Sym → Option (SpecSt × Nat)
  | .mtch dist len =>
    if dist = 0 ∨ dist > 0xFFFFFFFF ∨ len < 2 ∨ len > 273 then none
    else some ({ st with rep3 := st.rep2, rep2 := st.rep1, rep1 := st.rep0, rep0 := dist - 1,
                         state := if st.state < 7 then 7 else 10 }, len)
  | .shortRep => some ({ st with state := if st.state < 7 then 9 else 11 }, 1)
  | .rep idx len =>
    if len < 2 ∨ len > 273 ∨ idx > 3 then none
    else some ({ st.rotate idx with state := if st.state < 7 then 8 else 11 }, len)
  | _ => none

theorem step_of_copyOf {dict : Nat} {st r : SpecSt} {sym : Sym} {n : Nat} (hc : st.copyOf sym = some (r, n)) :
    step dict st sym = if r.rep0 + 1 > dict then none
      else (copy n (r.rep0 + 1) st.hist).map fun h => ({ r with hist := h }, false) := by
  cases sym with
  | lit b => cases hc
  | eos => cases hc
  | shortRep => cases hc; rfl
  | mtch dist len =>
    simp only [copyOf] at hc
    split at hc
    · cases hc
    · cases hc
      rename_i hg
      have e : dist - 1 + 1 = dist := by omega
      simp only [step, e]
      by_cases hd : dist > dict
      · rw [if_pos (by omega), if_pos hd]
      · rw [if_neg (by omega), if_neg hd]
  | rep idx len =>
    simp only [copyOf] at hc
    split at hc
    · cases hc
    · cases hc
      rename_i hg
      simp only [step, if_neg hg]
      have hidx : idx = 0 ∨ idx = 1 ∨ idx = 2 ∨ idx = 3 := by omega
      rcases hidx with rfl | rfl | rfl | rfl <;> rfl

theorem step_some {dict : Nat} {st st' : SpecSt} {sym : Sym} {b : Bool}
    (h : step dict st sym = some (st', b)) :
    (∃ x, sym = .lit x ∧ st' = { st with hist := st.hist.push x, state := litState st.state } ∧
      b = false) ∨
    (sym = .eos ∧ st' = st ∧ b = true) ∨
    ∃ r n c, st.copyOf sym = some (r, n) ∧ r.rep0 + 1 ≤ dict ∧ copy n (r.rep0 + 1) st.hist = some c ∧
      st' = { r with hist := c } ∧ b = false := by
  cases hc : st.copyOf sym with
  | some rn =>
    rw [step_of_copyOf (r := rn.1) (n := rn.2) hc] at h
    split at h
    · cases h
    · obtain ⟨c, hcopy, he⟩ := Option.map_eq_some_iff.1 h
      cases he
      exact .inr (.inr ⟨rn.1, rn.2, c, rfl, by omega, hcopy, rfl, rfl⟩)
  | none =>
    cases sym with
    | lit x => cases h; exact .inl ⟨x, rfl, rfl, rfl⟩
    | eos => cases h; exact .inr (.inl ⟨rfl, rfl, rfl⟩)
    | shortRep => cases hc
    | mtch dist len =>
      simp only [copyOf, ite_eq_left_iff, reduceCtorEq, imp_false, Decidable.not_not] at hc
      simp only [step] at h
      rw [if_pos (by omega)] at h
      cases h
    | rep idx len =>
      simp only [copyOf, ite_eq_left_iff, reduceCtorEq, imp_false, Decidable.not_not] at hc
      simp only [step, if_pos hc] at h
      cases h

theorem copyOf_bounds {st r : SpecSt} {sym : Sym} {n : Nat} (hc : st.copyOf sym = some (r, n)) :
    1 ≤ n ∧ r.state < 12 ∧ sym.toRaw.WF := by
  cases sym with
  | lit x => cases hc
  | eos => cases hc
  | shortRep => cases hc; exact ⟨Nat.le_refl 1, by dsimp only; split <;> omega, trivial⟩
  | mtch dist len =>
    simp only [copyOf] at hc
    split at hc <;> cases hc
    exact ⟨by omega, by dsimp only; split <;> omega, show n - 2 < 272 ∧ dist - 1 < 2 ^ 32 by omega⟩
  | rep idx len =>
    simp only [copyOf] at hc
    split at hc <;> cases hc
    exact ⟨by omega, by dsimp only; split <;> omega, show idx ≤ 3 ∧ n - 2 < 272 by omega⟩

theorem step_hist {dict : Nat} {st st' : SpecSt} {sym : Sym}
    (h : step dict st sym = some (st', false)) :
    ∃ ext, ext ≠ [] ∧ st'.hist.toList = st.hist.toList ++ ext := by
  rcases step_some h with ⟨x, -, rfl, -⟩ | ⟨-, -, hb⟩ | ⟨r, n, c, hc, -, hcopy, rfl, -⟩
  · exact ⟨[x], by simp, by simp⟩
  · cases hb
  · refine ⟨_, ?_, (copy_spec _ _ _ _ hcopy).2⟩
    have := (copyOf_bounds hc).1
    intro h0
    have := congrArg List.length h0
    simp at this
    omega

theorem step_grows {dict : Nat} {st st' : SpecSt} {sym : Sym}
    (h : SpecSt.step dict st sym = some (st', false)) : st.hist.size < st'.hist.size := by
  obtain ⟨ext, hne, he⟩ := step_hist h
  have := congrArg List.length he
  have := List.length_pos_iff.2 hne
  simp at *
  omega

theorem step_flag {dict : Nat} {st st' : SpecSt} {sym : Sym}
    (h : SpecSt.step dict st sym = some (st', true)) : sym = .eos := by
  rcases step_some h with ⟨_, _, _, hb⟩ | ⟨h, _⟩ | ⟨_, _, _, _, _, _, _, hb⟩
  · cases hb
  · exact h
  · cases hb

theorem step_mono_dict {d d' : Nat} (hd : d ≤ d') {st : SpecSt} {sym : Sym} {r : SpecSt × Bool}
    (h : step d st sym = some r) : step d' st sym = some r := by
  obtain ⟨st', b⟩ := r
  rcases step_some h with ⟨x, rfl, -⟩ | ⟨rfl, -⟩ | ⟨r, n, c, hc, hg, hcopy, rfl, rfl⟩
  · exact h
  · exact h
  · rw [step_of_copyOf hc, if_neg (by omega), hcopy]; rfl

theorem run_ind {dict : Nat} {P : SpecSt → List Sym → SpecSt × Bool → Prop}
    (nil : ∀ st, P st [] (st, false)) (eos : ∀ st, P st [.eos] (st, true))
    (cons : ∀ {st sym st1 rest r}, step dict st sym = some (st1, false) →
      run dict st1 rest = some r → P st1 rest r → P st (sym :: rest) r) :
    ∀ (prog : List Sym) {st : SpecSt} {r : SpecSt × Bool}, run dict st prog = some r → P st prog r
  | [], st, r, h => by cases h; exact nil st
  | sym :: rest, st, r, h => by
    simp only [run] at h
    split at h
    · cases h
    · rename_i st1 hs
      cases step_flag hs
      cases hs
      split at h <;> cases h
      rename_i hr
      cases List.isEmpty_iff.1 hr
      exact eos st
    · rename_i st1 hs
      exact cons hs h (run_ind nil eos cons rest h)

theorem run_cons {dict : Nat} {sym : Sym} {rest : List Sym} {st st' : SpecSt}
    (h : SpecSt.run dict st (sym :: rest) = some (st', false)) :
    ∃ st1, SpecSt.step dict st sym = some (st1, false) ∧ SpecSt.run dict st1 rest = some (st', false) := by
  simp only [SpecSt.run] at h
  split at h
  · cases h
  · split at h <;> cases h
  · exact ⟨_, ‹_›, h⟩

theorem run_mono {dict : Nat} (prog : List Sym) (st st' : SpecSt)
    (h : SpecSt.run dict st prog = some (st', false)) : st.hist.size ≤ st'.hist.size := by
  refine run_ind (P := fun st _ r => st.hist.size ≤ r.1.hist.size) (fun _ => Nat.le_refl _)
    (fun _ => Nat.le_refl _) (fun hs _ ih => ?_) prog h
  have := step_grows hs
  omega

theorem run_flag {dict : Nat} (prog : List Sym) (s0 st : SpecSt) (b : Bool)
    (hn : Sym.eos ∉ prog) (h : SpecSt.run dict s0 prog = some (st, b)) : b = false := by
  refine run_ind (P := fun _ prog r => Sym.eos ∉ prog → r.2 = false) (fun _ _ => rfl)
    (fun _ hn => absurd List.mem_cons_self hn)
    (fun _ _ ih hn => ih fun hm => hn (List.mem_cons_of_mem _ hm)) prog h hn

theorem run_mono_dict {d d' : Nat} (hd : d ≤ d') (prog : List Sym) {st : SpecSt} {r : SpecSt × Bool}
    (h : run d st prog = some r) : run d' st prog = some r := by
  refine run_ind (P := fun st prog r => run d' st prog = some r) (fun _ => rfl) (fun _ => rfl)
    (fun hs _ ih => ?_) prog h
  simp only [run, step_mono_dict hd hs, ih]

theorem run_append_none {dict : Nat} {bad : Sym} (rest : List Sym) {st' : SpecSt}
    (hbad : step dict st' bad = none) (good : List Sym) {st : SpecSt}
    (h : run dict st good = some (st', false)) : run dict st (good ++ bad :: rest) = none :=
  run_ind (P := fun st good r => r = (st', false) → run dict st (good ++ bad :: rest) = none)
    (fun _ e => by cases e; simp only [List.nil_append, run, hbad]) (fun _ e => nomatch e)
    (fun hs _ ih e => by simp only [List.cons_append, run, hs, ih e]) good h rfl

theorem run_dict_indep {d d' : Nat} {prog : List Sym} {st : SpecSt} {r r' : SpecSt × Bool}
    (h : run d st prog = some r) (h' : run d' st prog = some r') : r = r' :=
  Option.some.inj <| (run_mono_dict (Nat.le_max_left d d') prog h).symm.trans
    (run_mono_dict (Nat.le_max_right d d') prog h')

end SpecSt

/-- "The window `w`, together with the sink `k`, represents the history `H`": what the symbol
decoder needs from a window.  `lim` bounds the distances the window accepts, `Fits L` says that
a history of length `L` passes the memory limit. -/
structure WinModel (ω : Type) [LzBuf ω] where
  Rep : ω → Bytes → Sink → Prop
  lim : Nat
  Fits : Nat → Prop
  fits_mono : ∀ {a b : Nat}, a ≤ b → Fits b → Fits a
  len : ∀ {w H k}, Rep w H k → LzBuf.len w = H.length
  lastOr : ∀ {w H k} (b : UInt8), Rep w H k → LzBuf.lastOr w b = .ok (H.getLast?.getD b)
  lastN : ∀ {w H k} {d : Nat}, Rep w H k → (h1 : 1 ≤ d) → d ≤ lim → (hd : d ≤ H.length) →
    LzBuf.lastN w d = .ok (H[H.length - d]'(by omega))
  appendLiteral : ∀ {w H k} (b : UInt8), Rep w H k → Fits (H.length + 1) →
    ∃ w' k', LzBuf.appendLiteral w b k = (k', .ok w') ∧ Rep w' (H ++ [b]) k'
  appendLz : ∀ {w H k} (n : Nat) {d : Nat}, Rep w H k → 1 ≤ d → d ≤ lim → d ≤ H.length →
    Fits (H.length + n) →
    ∃ w' k', LzBuf.appendLz w n d k = (k', .ok w') ∧ Rep w' (H ++ lzCopy H d n) k'

/-- the circular window with dictionary size `d` and memory limit `m` over a perfect sink that
held `s0.out` when the window was created: the sink holds everything except the unflushed part
of the current lap -/
def circModel (d m : Nat) (s0 : Sink) : WinModel Circ where
  Rep w H k := CircInv w H ∧ w.dictSize = d ∧ w.memlimit = m ∧ k.Perfect ∧
    k.out = s0.out ++ (H.take (flushedLen d H.length)).toArray
  lim := d
  Fits L := min L d ≤ m
  fits_mono := by intro a b hab h; omega
  len := by intro w H k h; exact h.1.len_eq
  lastOr := by intro w H k b h; exact Circ.lastOr_spec b h.1
  lastN := by
    intro w H k dist h h1 h2 h3
    obtain ⟨hi, hd, -⟩ := h
    show w.lastN dist = _
    rw [Circ.lastN_spec hi h1, dif_pos ⟨by omega, h3⟩]
  appendLiteral := by
    intro w H k b h hf
    obtain ⟨hi, hd, hm, hp, ho⟩ := h
    obtain ⟨w', h1, h2, h3, h4⟩ := Circ.appendLiteral_ok (s := k) b hi hp (by rw [hd, hm]; exact hf)
    refine ⟨w', _, h1, h2, h3.trans hd, h4.trans hm, Sink.after_perfect hp, ?_⟩
    rw [hd]
    exact Sink.after_out_rel (List.prefix_append H [b]) ho
  appendLz := by
    intro w H k n dist h h1 h2 h3 hf
    obtain ⟨hi, hd, hm, hp, ho⟩ := h
    have := Circ.appendLz_spec (s := k) n (dist := dist) hi hp h1
    rw [if_pos ⟨by omega, h3, .inr (by rw [hd, hm]; exact hf)⟩] at this
    obtain ⟨w', e1, e2, e3, e4⟩ := this
    refine ⟨w', _, e1, e2, e3.trans hd, e4.trans hm, Sink.after_perfect hp, ?_⟩
    rw [hd]
    exact Sink.after_out_rel (List.prefix_append H _) ho

/-- the accumulating window (LZMA2) with memory limit `m`: the sink is not touched by the symbol
decoder, distances are only limited by the history (`lim` is a free parameter: the declared
dictionary size is not enforced by `LzAccumBuffer`) -/
def accumModel (m lim : Nat) (s0 : Sink) : WinModel Accum where
  Rep w H k := AccumInv w H ∧ w.memlimit = m ∧ k = s0
  lim := lim
  Fits L := L ≤ m
  fits_mono := by intro a b hab h; omega
  len := by intro w H k h; exact h.1.2
  lastOr := by intro w H k b h; exact Accum.lastOr_spec b h.1
  lastN := by
    intro w H k dist h h1 _ h3
    show w.lastN dist = _
    rw [Accum.lastN_spec h.1 h1, dif_pos h3]
  appendLiteral := by
    intro w H k b h hf
    obtain ⟨hi, hm, rfl⟩ := h
    have h1 := Accum.appendLiteral_spec b k hi
    rw [if_pos (by rw [hm]; exact hf)] at h1
    exact ⟨_, _, h1, Accum.appendLiteral_inv b hi, hm, rfl⟩
  appendLz := by
    intro w H k n dist h h1 _ h3 _
    obtain ⟨hi, hm, rfl⟩ := h
    have e := Accum.appendLz_spec n (dist := dist) k hi h1
    rw [if_pos h3] at e
    exact ⟨_, _, e, Accum.appendLz_inv n dist hi, hm, rfl⟩

end Lzma
