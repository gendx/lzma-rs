/-
  C05 (stream = one-shot) — the symbol level.

  Prefix stability of the bit decoder: a computation of the range decoder on the flat
  reader `⟨a, false⟩` that succeeds, succeeds identically on every extension
  `⟨a ++ b, false⟩` (the unread tail just grows by `b`); one that fails with anything but
  `eof` fails identically on every extension.  Lifted from `normalize` to `runDec` and to
  `processNext`, where the end-marker check (`is_finished_ok` on the LOCAL reader) is the
  only place at which the reader's end is observable.  The `partial_input_buf` field is
  irrelevant for `process_next`; after an end marker no further symbol can be decoded
  (`after_marker_continuation_errs`).
-/
import LzmaProofs.Lemmas.SymLayerNoDup
import LzmaProofs.Lemmas.SafetyLoop
import LzmaProofs.Lemmas.ProcessMode
namespace Lzma
namespace StreamEq

open DState

/-! ## prefix stability: `normalize`, `get_bit`, `decode_bit`, `runDec` -/

/-- results that end in the reader: the reader of a result, and the result with `b` put behind
what the reader has left -/
class EndsInRd (τ : Type) where
  rd : τ → Rd
  ext : Bytes → τ → τ

instance : EndsInRd Rd := ⟨id, fun b rd => ⟨rd.rem ++ b, false⟩⟩
instance {β τ : Type} [EndsInRd τ] : EndsInRd (β × τ) :=
  ⟨fun y => EndsInRd.rd y.2, fun b y => (y.1, EndsInRd.ext b y.2)⟩

open EndsInRd in
/-- `r` is the result of a computation on the flat reader `⟨a, false⟩` and `r' b` its result on
`⟨a ++ b, false⟩`: a success is the same success with `b` left behind, a failure other than `eof`
is the same failure -/
def Stable {τ : Type} [EndsInRd τ] (a : Bytes) (r : Except Err τ) (r' : Bytes → Except Err τ) : Prop :=
  match r with
  | .ok y => (rd y).bad = false ∧ (rd y).rem <:+ a ∧ ∀ b, r' b = .ok (ext b y)
  | .error e => e = .eof ∨ ∀ b, r' b = .error e

open EndsInRd in
/-- sequencing: a continuation `C` that passes errors on and otherwise starts on what the first
computation has left -/
theorem Stable.bind {τ υ : Type} [EndsInRd τ] [EndsInRd υ] {a : Bytes} {r : Except Err τ}
    {r' : Bytes → Except Err τ} (h : Stable a r r') (C : Except Err τ → Except Err υ)
    (hC : ∀ e, C (.error e) = .error e)
    (hg : ∀ y, (rd y).bad = false → Stable (rd y).rem (C (.ok y)) (fun b => C (.ok (ext b y)))) :
    Stable a (C r) (fun b => C (r' b)) := by
  cases r with
  | error e =>
    rw [hC]
    rcases h with h | h
    · exact .inl h
    · exact .inr fun b => by show C (r' b) = _; rw [h b, hC]
  | ok y =>
    obtain ⟨h1, h2, h3⟩ := h
    have hy := hg y h1
    simp only [h3]
    cases hz : C (.ok y) with
    | error e => rw [hz] at hy; exact hy
    | ok z => rw [hz] at hy; exact ⟨hy.1, hy.2.1.trans h2, hy.2.2⟩

theorem normalize_app (rc : RC) (a : Bytes) :
    Stable a (RC.normalize rc ⟨a, false⟩) (fun b => RC.normalize rc ⟨a ++ b, false⟩) := by
  unfold RC.normalize
  split
  · cases a with
    | nil => exact .inl rfl
    | cons x r => exact ⟨rfl, List.suffix_cons x r, fun b => rfl⟩
  · exact ⟨rfl, List.suffix_refl a, fun b => rfl⟩


open EndsInRd in
theorem Stable.pure {τ : Type} [EndsInRd τ] {y : τ} (hb : (rd y).bad = false) :
    Stable (rd y).rem (.ok y) (fun b => .ok (ext b y)) :=
  ⟨hb, List.suffix_refl _, fun _ => rfl⟩

theorem getBit_app (rc : RC) (a : Bytes) :
    Stable a (RC.getBit rc ⟨a, false⟩) (fun b => RC.getBit rc ⟨a ++ b, false⟩) := by
  unfold RC.getBit
  exact (normalize_app _ a).bind (· >>= fun (rc', rd') => pure (_, rc', rd')) (fun _ => rfl)
    fun y hb => Stable.pure (y := (_, y)) hb

/-- the reader-independent part of `decode_bit`: the bit, the new probability and
the coder state before `normalize` -/
def decPre (update : Bool) (p : Nat) (rc : RC) : Except Err (Bool × Nat × RC) := do
  let bound ← mulChk U32 "decode_bit: bound overflow" (rc.range >>> 11) p
  if rc.code < bound then do
    let p' ← if update then do
        let d ← subChk "decode_bit: 0x800 - prob" 0x800 p
        addChk U16 "decode_bit: prob += overflow" p (d >>> 5)
      else pure p
    pure (false, p', { range := bound, code := rc.code })
  else do
    let p' := if update then p - (p >>> 5) else p
    let code ← subChk "decode_bit: code -= bound" rc.code bound
    let range ← subChk "decode_bit: range -= bound" rc.range bound
    pure (true, p', { range := range, code := code })

theorem decodeBit_factor (u : Bool) (p : Nat) (rc : RC) (rd : Rd) :
    RC.decodeBit u p rc rd =
      match decPre u p rc with
      | .error e => .error e
      | .ok (bit, p', rc0) =>
        match RC.normalize rc0 rd with
        | .error e => .error e
        | .ok (rc', rd') => .ok (bit, p', rc', rd') := by
  unfold RC.decodeBit decPre
  cases hm : mulChk U32 "decode_bit: bound overflow" (rc.range >>> 11) p with
  | error e => rfl
  | ok bound =>
    simp only [exc_ok_bind, exc_pure]
    by_cases hlt : rc.code < bound
    · simp only [hlt, if_true]
      cases u
      · simp only [Bool.false_eq_true, if_false]
        cases RC.normalize { range := bound, code := rc.code } rd <;> rfl
      · simp only [if_true]
        cases subChk "decode_bit: 0x800 - prob" 0x800 p with
        | error e => rfl
        | ok d =>
          simp only [exc_ok_bind]
          cases addChk U16 "decode_bit: prob += overflow" p (d >>> 5) with
          | error e => rfl
          | ok p' =>
            simp only [exc_ok_bind]
            cases RC.normalize { range := bound, code := rc.code } rd <;> rfl
    · simp only [hlt, if_false]
      cases subChk "decode_bit: code -= bound" rc.code bound with
      | error e => rfl
      | ok code =>
        simp only [exc_ok_bind]
        cases subChk "decode_bit: range -= bound" rc.range bound with
        | error e => rfl
        | ok range =>
          simp only [exc_ok_bind]
          cases RC.normalize { range := range, code := code } rd <;> rfl

theorem decodeBit_app (u : Bool) (p : Nat) (rc : RC) (a : Bytes) :
    Stable a (RC.decodeBit u p rc ⟨a, false⟩) (fun b => RC.decodeBit u p rc ⟨a ++ b, false⟩) := by
  simp only [decodeBit_factor]
  rcases decPre u p rc with e | ⟨bit, p', rc0⟩
  · exact .inr fun _ => rfl
  · exact (normalize_app rc0 a).bind
      (fun r => match r with
        | .error e => .error e
        | .ok (rc', rd') => .ok (bit, p', rc', rd'))
      (fun _ => rfl) fun y hb => Stable.pure (y := (bit, p', y)) hb

theorem runDec_app [ProbStore σ ι] (u : Bool) (t : Coder ι α) : ∀ (s : σ) (rc : RC) (a : Bytes),
    Stable a (runDec u t s rc ⟨a, false⟩) (fun b => runDec u t s rc ⟨a ++ b, false⟩) := by
  induction t with
  | ret v => exact fun s rc a => ⟨rfl, List.suffix_refl a, fun b => rfl⟩
  | fail e => exact fun s rc a => .inr fun b => rfl
  | bit i k ih =>
    intro s rc a
    rcases hg : ProbStore.get s i with e | p <;> simp only [runDec, hg]
    · exact .inr fun _ => rfl
    · refine (decodeBit_app u p rc a).bind
        (fun r => match r with
          | .error e => .error e
          | .ok (b, p', rc, rd) => runDec u (k b) (if u then ProbStore.set s i p' else s) rc rd)
        (fun _ => rfl) ?_
      rintro ⟨bit, p', rc1, a1, bad⟩ hb
      cases (show bad = false from hb)
      exact ih bit _ rc1 a1
  | direct k ih =>
    intro s rc a
    simp only [runDec]
    refine (getBit_app rc a).bind
      (fun r => match r with
        | .error e => .error e
        | .ok (b, rc, rd) => runDec u (k b) s rc rd)
      (fun _ => rfl) ?_
    rintro ⟨bit, rc1, a1, bad⟩ hb
    cases (show bad = false from hb)
    exact ih bit s rc1 a1

theorem runDec_ok_app [ProbStore σ ι] (u : Bool) (t : Coder ι α) (s : σ) (rc : RC) (a : Bytes)
    (x : α) (s' : σ) (rc' : RC) (rd' : Rd) (h : runDec u t s rc ⟨a, false⟩ = .ok (x, s', rc', rd')) :
    rd'.bad = false ∧ rd'.rem <:+ a ∧
      ∀ b, runDec u t s rc ⟨a ++ b, false⟩ = .ok (x, s', rc', ⟨rd'.rem ++ b, false⟩) := by
  have := runDec_app u t s rc a
  rw [h] at this
  exact this

theorem runDec_err_app [ProbStore σ ι] (u : Bool) (t : Coder ι α) (s : σ) (rc : RC) (a : Bytes)
    (e : Err) (h : runDec u t s rc ⟨a, false⟩ = .error e) :
    e = .eof ∨ ∀ b, runDec u t s rc ⟨a ++ b, false⟩ = .error e := by
  have := runDec_app u t s rc a
  rw [h] at this
  exact this

/-! ## `processNext` unfolded -/

theorem processNext_eq (s : DState) (w : Circ) (rc : RC) (rd : Rd) (snk : Sink) :
    processNext s w rc rd snk =
      match runDec true (symTree (s.mkCtx w)) s.probs rc rd with
      | .error e => (snk, .error e)
      | .ok (sym, probs, rc', rd') =>
        match applySym { s with probs := probs } w rc' rd' sym snk with
        | (k, .ok (st, s', w')) => (k, .ok (st, s', w', rc', rd'))
        | (k, .error e) => (k, .error e) := by
  unfold processNext
  cases h : runDec true (symTree (s.mkCtx w)) s.probs rc rd with
  | error e => rfl
  | ok x =>
    obtain ⟨sym, probs, rc', rd'⟩ := x
    show (applySym { s with probs := probs } w rc' rd' sym >>= _) snk = _
    rw [bind_run]
    simp only
    rcases applySym { s with probs := probs } w rc' rd' sym snk with ⟨k, r⟩
    cases r with
    | error e => rfl
    | ok y => obtain ⟨st, s', w'⟩ := y; rfl

/-! ## `applySym`: only the end marker looks at the reader -/

theorem applySym_rd_irrel (s : DState) (w : Circ) (rc : RC) (rd1 rd2 : Rd) (sym : RawSym)
    (hm : ∀ len, sym ≠ .mtch len 0xFFFFFFFF) :
    applySym s w rc rd1 sym = applySym s w rc rd2 sym := by
  cases sym with
  | lit b => rfl
  | shortRep => rfl
  | rep i l => rfl
  | mtch l r0 =>
    have : r0 ≠ 0xFFFFFFFF := fun h => hm l (by rw [h])
    simp only [applySym, this, if_false]

theorem applySym_continue (s : DState) (w : Circ) (rc : RC) (rd : Rd) (sym : RawSym)
    (hm : ∀ len, sym ≠ .mtch len 0xFFFFFFFF) {snk k : Sink} {st : Status} {s' : DState} {w' : Circ}
    (h : applySym s w rc rd sym snk = (k, .ok (st, s', w'))) : st = .continue :=
  (applySym_ok h).2.elim (fun hf => let ⟨l, hl⟩ := hf.2.1; absurd hl (hm l)) (·.1)

theorem isFinishedOk_flat (rc : RC) (a : Bytes) :
    rc.isFinishedOk ⟨a, false⟩ = .ok (rc.code == 0 && a.isEmpty) := by
  by_cases hc : rc.code = 0 <;> cases a <;> simp [RC.isFinishedOk, Rd.isEof, hc, pure, Except.pure]

theorem applySym_marker (s : DState) (w : Circ) (rc : RC) (l : Bytes) (len : Nat) (snk : Sink) :
    applySym s w rc ⟨l, false⟩ (.mtch len 0xFFFFFFFF) snk =
      if rc.code = 0 ∧ l = [] then (snk, .ok (.finished, markerState s, w))
      else (snk, .error .lzma) := by
  rw [DState.applySym_marker, isFinishedOk_flat]
  by_cases hc : rc.code = 0 <;> cases l <;> simp [hc, beq_eq_false_iff_ne.mpr]

/-! ## one `process_next` on `a` versus on `a ++ b` -/

/-- the bit-level part of `process_next` -/
abbrev dec1 (s : DState) (w : Circ) (rc : RC) (rd : Rd) :=
  runDec true (symTree (s.mkCtx w)) s.probs rc rd

theorem processNext_cases (s : DState) (w : Circ) (rc : RC) (a : Bytes) (snk : Sink) :
    (dec1 s w rc ⟨a, false⟩ = .error .eof) ∨
    (∃ k e, ∀ b, processNext s w rc ⟨a ++ b, false⟩ snk = (k, .error e)) ∨
    (∃ k s' w' rc' a', a' <:+ a ∧ ∀ b, processNext s w rc ⟨a ++ b, false⟩ snk =
        (k, .ok (.continue, s', w', rc', ⟨a' ++ b, false⟩))) ∨
    (∃ s' rc', processNext s w rc ⟨a, false⟩ snk = (snk, .ok (.finished, s', w, rc', ⟨[], false⟩)) ∧
        rc'.code = 0 ∧ s'.rep0 = 0xFFFFFFFF ∧ 7 ≤ s'.state ∧
        ∀ b, b ≠ [] → processNext s w rc ⟨a ++ b, false⟩ snk = (snk, .error .lzma)) := by
  cases hd : dec1 s w rc ⟨a, false⟩ with
  | error e =>
    rcases runDec_err_app true _ _ _ _ _ hd with h | h
    · left; rw [h]
    · right; left
      refine ⟨snk, e, fun b => ?_⟩
      rw [processNext_eq, h b]
  | ok x =>
    obtain ⟨sym, probs, rc', rd'⟩ := x
    obtain ⟨hb, hsuf, happ⟩ := runDec_ok_app true _ _ _ _ _ _ _ _ hd
    obtain ⟨a', _⟩ := rd'
    simp only at hb hsuf happ
    subst hb
    right
    by_cases hm : ∀ len, sym ≠ .mtch len 0xFFFFFFFF
    · rcases hr : applySym { s with probs := probs } w rc' ⟨a', false⟩ sym snk with ⟨k, r⟩
      cases r with
      | error e =>
        left
        refine ⟨k, e, fun b => ?_⟩
        rw [processNext_eq, happ b]
        simp only
        rw [applySym_rd_irrel _ _ _ _ ⟨a', false⟩ _ hm, hr]
      | ok y =>
        obtain ⟨st, s', w'⟩ := y
        have hst := applySym_continue _ _ _ _ _ hm hr
        subst hst
        right; left
        refine ⟨k, s', w', rc', a', hsuf, fun b => ?_⟩
        rw [processNext_eq, happ b]
        simp only
        rw [applySym_rd_irrel _ _ _ _ ⟨a', false⟩ _ hm, hr]
    · have : ∃ len, sym = .mtch len 0xFFFFFFFF := by
        refine Classical.byContradiction fun hc => hm fun len h => hc ⟨len, h⟩
      obtain ⟨len, rfl⟩ := this
      by_cases hfin : rc'.code = 0 ∧ a' = []
      · right; right
        obtain ⟨hc0, rfl⟩ := hfin
        refine ⟨markerState { s with probs := probs }, rc', ?_, hc0, rfl, ?_, ?_⟩
        · have := happ []
          simp only [List.append_nil] at this
          rw [processNext_eq, this]
          simp only
          rw [applySym_marker]
          simp [hc0]
        · show 7 ≤ (if s.state < 7 then 7 else 10)
          split <;> omega
        · intro b hbne
          rw [processNext_eq, happ b]
          simp only
          rw [applySym_marker]
          simp [hbne]
      · left
        refine ⟨snk, .lzma, fun b => ?_⟩
        rw [processNext_eq, happ b]
        simp only
        rw [applySym_marker]
        have : ¬ (rc'.code = 0 ∧ a' ++ b = []) := by
          intro ⟨h1, h2⟩
          exact hfin ⟨h1, (List.append_eq_nil_iff.mp h2).1⟩
        rw [if_neg this]

/-! ## `partial_input_buf` is invisible to `process_next` -/

/-- put a `partial_input_buf` value into the state of a result of `applySym` or `process_next` -/
def setPB {β : Type} (x : Bytes) (r : Sink × Except Err (Status × DState × β)) :
    Sink × Except Err (Status × DState × β) :=
  match r with
  | (k, Except.ok (st, s', t)) => (k, Except.ok (st, { s' with partialBuf := x }, t))
  | (k, Except.error e) => (k, Except.error e)

theorem setPB_bind_pure {α : Type} (m : M α) (c : Status) (s' : DState) (x : Bytes) (snk : Sink) :
    setPB x ((m >>= fun w' => (pure (c, s', w') : M (Status × DState × α))) snk) =
      (m >>= fun w' => (pure (c, { s' with partialBuf := x }, w') : M (Status × DState × α))) snk := by
  rw [bind_run, bind_run]
  rcases m snk with ⟨k, e | w'⟩ <;> rfl

/-- every symbol but the end marker is `pure` of a state update after one append; the updates do
not touch `partial_input_buf` -/
theorem applySym_pbuf (s : DState) (x : Bytes) (w : Circ) (rc : RC) (rd : Rd) (sym : RawSym) (snk : Sink) :
    applySym { s with partialBuf := x } w rc rd sym snk = setPB x (applySym s w rc rd sym snk) := by
  cases sym with
  | lit b => simp only [applySym]; rw [setPB_bind_pure]
  | shortRep => simp only [applySym]; rw [setPB_bind_pure]
  | rep i l => rcases i with _ | _ | _ | i <;> simp only [applySym] <;> rw [setPB_bind_pure]
  | mtch l r0 =>
    by_cases h : r0 = 0xFFFFFFFF
    · subst h
      rw [DState.applySym_marker, DState.applySym_marker]
      rcases rc.isFinishedOk rd with e | (_ | _) <;> rfl
    · simp only [applySym, h, if_false]; rw [setPB_bind_pure]

theorem processNext_pbuf (s : DState) (x : Bytes) (w : Circ) (rc : RC) (rd : Rd) (snk : Sink) :
    processNext { s with partialBuf := x } w rc rd snk = setPB x (processNext s w rc rd snk) := by
  rw [processNext_eq, processNext_eq]
  show (match runDec true (symTree (s.mkCtx w)) s.probs rc rd with
      | Except.error e => (snk, Except.error e)
      | Except.ok (sym, probs, rc', rd') =>
        match applySym { { s with probs := probs } with partialBuf := x } w rc' rd' sym snk with
        | (k, Except.ok (st, s', w')) => (k, Except.ok (st, s', w', rc', rd'))
        | (k, Except.error e) => (k, Except.error e)) = _
  cases runDec true (symTree (s.mkCtx w)) s.probs rc rd with
  | error e => rfl
  | ok y =>
    obtain ⟨sym, probs, rc', rd'⟩ := y
    have h := applySym_pbuf { s with probs := probs } x w rc' rd' sym snk
    dsimp only at h ⊢
    rw [h]
    rcases applySym { s with probs := probs } w rc' rd' sym snk with ⟨k, r⟩
    cases r with
    | error e => rfl
    | ok z => obtain ⟨st, s', w'⟩ := z; rfl

/-! ## after the end marker nothing decodes -/

/-- After an end marker nothing decodes: with `code = 0`, `rep0 = 0xFFFFFFFF` and
`state ≥ 7` (the decoder state right after an end marker) the next `is_match`
bit is 0 (`code = 0 < bound`), the literal is decoded in matched mode and
`last_n(rep0 + 1) = last_n(2^32)` fails because the dictionary is smaller than
`2^32` — whatever the input is, dry run or real run. -/
theorem after_marker_continuation_errs (u : Bool) (s : DState) (w : Circ) (rc : RC) (rd : Rd)
    (hcode : rc.code = 0) (hrep : s.rep0 = 0xFFFFFFFF) (hstate : 7 ≤ s.state)
    (hdict : w.dictSize < 4294967296) (hrange : 2048 ≤ rc.range)
    (hp : ∀ v, s.probs.get (.isMatch ((s.state <<< 4) + (s.mkCtx w).posState)) = .ok v → 0 < v) :
    ∃ e, runDec u (symTree (s.mkCtx w)) s.probs rc rd = .error e := by
  have hmb : (s.mkCtx w).matchByte = .error .lzma := by
    show (do let b ← Circ.lastN w (s.rep0 + 1); pure b.toNat) = _
    rw [hrep]
    unfold Circ.lastN
    have : (0xFFFFFFFF + 1 : Nat) > w.dictSize := by omega
    simp [this, bind, Except.bind]
  have hst : (s.mkCtx w).state = s.state := rfl
  unfold symTree
  rw [hst]
  simp only [runDec]
  cases hg : ProbStore.get s.probs (PIdx.isMatch ((s.state <<< 4) + (s.mkCtx w).posState)) with
  | error e => exact ⟨e, rfl⟩
  | ok p =>
    have hp0 : 0 < p := hp p hg
    simp only
    rw [decodeBit_factor]
    cases hpre : decPre u p rc with
    | error e => exact ⟨e, rfl⟩
    | ok x =>
      obtain ⟨bit, p', rc0⟩ := x
      have hbit : bit = false := by
        unfold decPre at hpre
        cases hmul : mulChk U32 "decode_bit: bound overflow" (rc.range >>> 11) p with
        | error e => rw [hmul] at hpre; cases hpre
        | ok bound =>
          rw [hmul] at hpre
          have hb : bound = (rc.range >>> 11) * p := by
            unfold mulChk at hmul; split at hmul
            · cases hmul; rfl
            · cases hmul
          have hq : 1 ≤ rc.range >>> 11 := by
            rw [Nat.shiftRight_eq_div_pow]; omega
          have hbpos : 0 < bound := by rw [hb]; exact Nat.mul_pos hq hp0
          have hlt : rc.code < bound := by rw [hcode]; exact hbpos
          simp only [exc_ok_bind, hlt, if_true] at hpre
          cases u
          · simp only [Bool.false_eq_true, if_false, exc_pure, exc_ok_bind, Except.ok.injEq,
              Prod.mk.injEq] at hpre
            exact hpre.1.symm
          · simp only [if_true] at hpre
            cases h1 : subChk "decode_bit: 0x800 - prob" 0x800 p with
            | error e => rw [h1] at hpre; cases hpre
            | ok d =>
              rw [h1] at hpre; simp only [exc_ok_bind] at hpre
              cases h2 : addChk U16 "decode_bit: prob += overflow" p (d >>> 5) with
              | error e => rw [h2] at hpre; cases hpre
              | ok q =>
                rw [h2] at hpre
                simp only [exc_ok_bind, exc_pure, Except.ok.injEq, Prod.mk.injEq] at hpre
                exact hpre.1.symm
      subst hbit
      simp only
      cases RC.normalize rc0 rd with
      | error e => exact ⟨e, rfl⟩
      | ok y =>
        obtain ⟨rc1, rd1⟩ := y
        simp only [Bool.not_false, if_true]
        cases hrow : (s.mkCtx w).litRow with
        | error e => exact ⟨e, by simp [runDec]⟩
        | ok row =>
          simp only [hmb, ge_iff_le, hstate, if_true, Coder.bind, runDec]
          exact ⟨_, rfl⟩

end StreamEq
end Lzma
