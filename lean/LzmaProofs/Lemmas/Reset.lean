/-
  C14 (reset ≈ new).  `reset_state` refills the literal table in place when `lc + lp` is unchanged,
  so it equals `new` only on states whose tables have their allocated sizes: `DState.WF`, which the
  decoding loop preserves (`runDec_inv` in RcProbs.lean: any property of the store that `set` keeps survives a
  `runDec`; `WF.processLoop` by `processLoop_inv`).  On top of that: `LzmaDecoder.reset` against
  `new` up to `forgetSize`, and `Lzma2Decoder`, whose `parse_lzma` never reads the size a `reset`
  leaves behind (`norm`, `decompress_eqv`); `Inv` is what every usable decoder object satisfies.
-/
import LzmaProofs.Lemmas.ProcessMode
import LzmaProofs.Lemmas.RcProbs
import LzmaProofs.Lemmas.Stages
namespace Lzma

namespace RS

theorem throwM_ok_iff {e : Err} {b : α} {s s' : Sink} :
    (throwM e : M α) s = (s', .ok b) ↔ False :=
  throwM_ne_ok

/-- two computations that share their first step agree (under an observation `F`) if their
continuations do -/
theorem bind_congr_post {γ : Type} (F : Sink × Except Err β → γ) {m : M α} {f g : α → M β}
    {s : Sink} (h : ∀ a s', F (f a s') = F (g a s')) : F ((m >>= f) s) = F ((m >>= g) s) := by
  rw [bind_run, bind_run]
  rcases m s with ⟨s1, e | a⟩
  · rfl
  · exact h a s1

theorem pure_bind_M {α β : Type} (a : α) (f : α → M β) : (pure a >>= f) = f a := rfl

theorem liftE_map_bind {α β γ : Type} (x : Except Err α) (g : α → β) (f : β → M γ) :
    (liftE (x.map g) >>= f) = (liftE x >>= fun a => f (g a)) := by
  cases x <;> rfl

end RS

structure LenProbs.Sized (l : LenProbs) : Prop where
  low : l.low.size = 128
  mid : l.mid.size = 128
  high : l.high.size = 256

structure Probs.Sized (p : Probs) : Prop where
  lit : p.lit.size = p.litRows * 0x300
  posSlot : p.posSlot.size = 256
  align : p.align.size = 16
  posDec : p.posDec.size = 115
  isMatch : p.isMatch.size = 192
  isRep : p.isRep.size = 12
  isRepG0 : p.isRepG0.size = 12
  isRepG1 : p.isRepG1.size = 12
  isRepG2 : p.isRepG2.size = 12
  isRep0Long : p.isRep0Long.size = 192
  len : p.len.Sized
  repLen : p.repLen.Sized

/-- well-formedness of a `DecoderState`: all tables have their allocated sizes and the
literal table has `1 << (lc + lp)` rows -/
structure DState.WF (s : DState) : Prop where
  sized : s.probs.Sized
  rows : s.probs.litRows = 1 <<< (s.props.lc + s.props.lp)

theorem LenProbs.Sized.default : ({} : LenProbs).Sized :=
  ⟨Array.size_replicate, Array.size_replicate, Array.size_replicate⟩

/- `set` writes at most one slot of one table with `setIfInBounds` (`Probs.set_upd`), which keeps
every size. -/

theorem LenProbs.Sized.of_upd {v : Nat} {l l' : LenProbs} (h : l.Sized) (hu : LUpd v l l') :
    l'.Sized :=
  ⟨hu.low.size.trans h.low, hu.mid.size.trans h.mid, hu.high.size.trans h.high⟩

theorem LenProbs.Sized.set {l : LenProbs} (h : l.Sized) (i : PIdx) (v : Nat) : (l.set i v).Sized :=
  h.of_upd (l.set_upd i v)

theorem Probs.Sized.init (rows : Nat) : (Probs.init rows).Sized := by
  constructor <;> first | exact Array.size_replicate | exact LenProbs.Sized.default

theorem Probs.setLen_litRows (p : Probs) (rep : Bool) (i : PIdx) (v : Nat) :
    (p.setLen rep i v).litRows = p.litRows := by
  cases rep <;> rfl

theorem Probs.set_litRows (p : Probs) (i : PIdx) (v : Nat) : (p.set i v).litRows = p.litRows := by
  cases i <;> first | rfl | exact p.setLen_litRows ..

theorem Probs.Sized.set {p : Probs} (h : p.Sized) (i : PIdx) (v : Nat) : (p.set i v).Sized :=
  have hu := p.set_upd i v
  ⟨hu.lit.size.trans (h.lit.trans (by rw [p.set_litRows])), hu.posSlot.size.trans h.posSlot,
    hu.align.size.trans h.align, hu.posDec.size.trans h.posDec, hu.isMatch.size.trans h.isMatch,
    hu.isRep.size.trans h.isRep, hu.isRepG0.size.trans h.isRepG0, hu.isRepG1.size.trans h.isRepG1,
    hu.isRepG2.size.trans h.isRepG2, hu.isRep0Long.size.trans h.isRep0Long, h.len.of_upd hu.len,
    h.repLen.of_upd hu.repLen⟩

theorem Probs.Sized.runDec {α : Type} {update : Bool} {c : Coder PIdx α} {p p' : Probs}
    {rc rc' : RC} {rd rd' : Rd} {a : α}
    (h : runDec update c p rc rd = .ok (a, p', rc', rd')) (hp : p.Sized) :
    p'.Sized ∧ p'.litRows = p.litRows :=
  runDec_inv (P := fun q : Probs => q.Sized ∧ q.litRows = p.litRows)
    (fun q i v hq => ⟨hq.1.set i v, (Probs.set_litRows q i v).trans hq.2⟩) c h ⟨hp, rfl⟩

namespace DState
variable {ω : Type} [LzBuf ω]

theorem fresh_WF (p : Props) (u : Option Nat) (pb : Bytes) :
    ({ props := p, unpackedSize := u, probs := Probs.init (1 <<< (p.lc + p.lp)),
       partialBuf := pb } : DState).WF :=
  ⟨Probs.Sized.init _, rfl⟩

theorem new_WF {p : Props} {u : Option Nat} {s : DState} (h : DState.new p u = .ok s) : s.WF :=
  (new_eq h).1 ▸ fresh_WF p u []

/-- `reset_state` on a well-formed state produces exactly the fresh state (both branches),
except that `partial_input_buf` is kept -/
theorem resetState_eq {s : DState} (hwf : s.WF) {p : Props} (hv : p.validate = .ok ()) :
    s.resetState p =
      .ok { props := p, unpackedSize := s.unpackedSize, probs := Probs.init (1 <<< (p.lc + p.lp)),
            partialBuf := s.partialBuf } := by
  unfold DState.resetState
  simp only [hv, bind, Except.bind, pure, Except.pure, Except.ok.injEq]
  by_cases hc : s.props.lc + s.props.lp = p.lc + p.lp
  · simp only [hc, if_true, Probs.init]
    rw [hwf.sized.lit, hwf.rows, hc]
  · simp only [hc, if_false, Probs.init]

theorem resetState_of_invalid (s : DState) {p : Props} {e : Err} (hv : p.validate = .error e) :
    s.resetState p = .error e := by
  unfold DState.resetState
  simp only [hv, bind, Except.bind]

theorem resetState_partialBuf {s s' : DState} {p : Props}
    (h : s.resetState p = .ok s') : s'.partialBuf = s.partialBuf := by
  obtain ⟨_, _, h⟩ := Except.bind_eq_ok'.1 h
  cases h; rfl

theorem resetState_eq_new {s : DState} (hwf : s.WF) (p : Props) :
    s.resetState p =
      (DState.new p s.unpackedSize).map fun t => { t with partialBuf := s.partialBuf } := by
  rw [new_eq_map]
  cases hv : p.validate with
  | error e => exact resetState_of_invalid s hv
  | ok x => exact resetState_eq hwf hv

theorem WF.of_eq {s s' : DState} (h : s.WF) (h1 : s'.probs = s.probs) (h2 : s'.props = s.props) :
    s'.WF :=
  ⟨h1 ▸ h.sized, h1 ▸ h2 ▸ h.rows⟩

theorem WF.processNext {s : DState} {w : ω} {rc : RC} {rd : Rd} {snk snk' : Sink}
    {st : Status} {s' : DState} {w' : ω} {rc' : RC} {rd' : Rd}
    (h : processNext s w rc rd snk = (snk', .ok (st, s', w', rc', rd'))) (hwf : s.WF) : s'.WF :=
  processNext_inv (I := fun s _ _ => s.WF)
    (fun hd hi => let ⟨h1, h2⟩ := hi.sized.runDec hd; ⟨h1, h2.trans hi.rows⟩)
    (fun ha hi => let ⟨⟨h1, h2, _⟩, _⟩ := applySym_ok ha; hi.of_eq h1 h2) h hwf

theorem WF.processLoop {mode : Mode} {fuel : Nat} {s : DState} {w : ω} {rc : RC} {rd : Rd}
    {snk snk' : Sink} {s' : DState} {w' : ω} {rc' : RC} {rd' : Rd}
    (h : processLoop mode fuel s w rc rd snk = (snk', .ok (s', w', rc', rd'))) (hwf : s.WF) :
    s'.WF :=
  processLoop_inv (I := fun s _ _ => s.WF) (fun _ hi => hi.of_eq rfl rfl) WF.processNext fuel h hwf

theorem WF.processMode {mode : Mode} {s : DState} {w : ω} {rc : RC} {rd : Rd}
    {snk snk' : Sink} {s' : DState} {w' : ω} {rc' : RC} {rd' : Rd}
    (h : processMode mode s w rc rd snk = (snk', .ok (s', w', rc', rd'))) (hwf : s.WF) : s'.WF :=
  WF.processLoop (processMode_ok_iff.1 h).1 hwf

theorem WF.setUnpackedSize {s : DState} (h : s.WF) (u : Option Nat) : (s.setUnpackedSize u).WF :=
  h.of_eq rfl rfl

end DState

namespace LzmaDecoder

/-- forget the `params.unpacked_size` field of the decoder object: it is only read by `new`
(`reset`/`decompress` use the size stored in the `DecoderState`) -/
def forgetSize (d : LzmaDecoder) : LzmaDecoder :=
  { d with params := { d.params with unpackedSize := none } }

/-- a `decompress` result up to `forgetSize` of the returned decoder object -/
def forgetRes : Sink × Except Err (LzmaDecoder × Rd) → Sink × Except Err (LzmaDecoder × Rd)
  | (s, .ok (d, rd)) => (s, .ok (d.forgetSize, rd))
  | (s, .error e) => (s, .error e)

/-- the invariant of a usable raw decoder object -/
structure Inv (d : LzmaDecoder) : Prop where
  wf : d.state.WF
  partialBuf : d.state.partialBuf = []
  props : d.state.props = d.params.props
  dict : d.params.dictSize ≠ 0

theorem decompress_forget {d1 d2 : LzmaDecoder} (h : d1.forgetSize = d2.forgetSize) (y : Rd)
    (snk : Sink) : forgetRes (d1.decompress y snk) = forgetRes (d2.decompress y snk) := by
  obtain ⟨⟨pr1, ds1, u1⟩, m1, st1⟩ := d1
  obtain ⟨⟨pr2, ds2, u2⟩, m2, st2⟩ := d2
  simp only [forgetSize, LzmaDecoder.mk.injEq, LzmaParams.mk.injEq] at h
  obtain ⟨⟨rfl, rfl, -⟩, rfl, rfl⟩ := h
  unfold decompress
  dsimp only
  refine RS.bind_congr_post forgetRes ?_
  rintro ⟨rc, rd⟩ s1
  refine RS.bind_congr_post forgetRes ?_
  rintro ⟨st, w, rc', rd'⟩ s2
  refine RS.bind_congr_post forgetRes ?_
  rintro u s3
  rfl

theorem reset_ok_iff {d d' : LzmaDecoder} (hwf : d.state.WF) {r : Option (Option Nat)} :
    d.reset r = .ok d' ↔
      d.params.props.validate = .ok () ∧
      d' = { d with state :=
              { props := d.params.props, unpackedSize := r.getD d.state.unpackedSize,
                probs := Probs.init (1 <<< (d.params.props.lc + d.params.props.lp)),
                partialBuf := d.state.partialBuf } } := by
  unfold LzmaDecoder.reset
  cases hv : d.params.props.validate with
  | error e =>
    simp [DState.resetState_of_invalid _ hv, bind, Except.bind]
  | ok x =>
    simp only [DState.resetState_eq hwf hv, bind, Except.bind, pure, Except.pure,
      Except.ok.injEq, true_and]
    cases r <;> exact eq_comm

theorem new_inv {params : LzmaParams} {ml : Option Nat} {d : LzmaDecoder}
    (h : LzmaDecoder.new params ml = .ok d) : d.Inv := by
  obtain ⟨h1, -, rfl⟩ := new_ok_iff.1 h
  exact ⟨DState.fresh_WF _ _ [], rfl, rfl, h1⟩

theorem reset_inv {d d' : LzmaDecoder} (hd : d.Inv) {r : Option (Option Nat)}
    (h : d.reset r = .ok d') : d'.Inv := by
  obtain ⟨-, rfl⟩ := (reset_ok_iff hd.wf).1 h
  exact ⟨DState.fresh_WF _ _ _, hd.partialBuf, rfl, hd.dict⟩

theorem decompress_inv {d d' : LzmaDecoder} (hd : d.Inv) {y y' : Rd} {snk snk' : Sink}
    (h : d.decompress y snk = (snk', .ok (d', y'))) : d'.Inv := by
  simp only [decompress, mBind_eq_ok, mPure_eq_ok] at h
  obtain ⟨⟨rc, rd⟩, s1, -, ⟨st, w, rc', rd'⟩, s2, h2, u, s3, -, h4, -⟩ := h
  cases h4
  exact ⟨.processMode h2 hd.wf, DState.processMode_finish_partialBuf h2 hd.partialBuf,
    (DState.processMode_fields h2).2.trans hd.props, hd.dict⟩

/-- the outcome of "obtain a decoder, then `decompress`", up to `forgetSize` -/
def thenDecompress (x : Except Err LzmaDecoder) (y : Rd) (snk : Sink) :
    Sink × Except Err (LzmaDecoder × Rd) :=
  match x with
  | .error e => (snk, .error e)
  | .ok d => forgetRes (d.decompress y snk)

theorem reset_vs_new (d : LzmaDecoder) (hd : d.Inv) (r : Option (Option Nat)) :
    (d.reset r).map forgetSize =
      (LzmaDecoder.new { d.params with unpackedSize := r.getD d.state.unpackedSize }
        (some d.memlimit)).map forgetSize := by
  cases hv : d.params.props.validate with
  | error e =>
    have h1 : d.reset r = .error e := by
      unfold LzmaDecoder.reset
      simp [DState.resetState_of_invalid _ hv, bind, Except.bind]
    have h2 : LzmaDecoder.new { d.params with unpackedSize := r.getD d.state.unpackedSize }
        (some d.memlimit) = .error e := by
      unfold LzmaDecoder.new
      simp [hd.dict, DState.new_of_invalid _ hv, bind, Except.bind]
    rw [h1, h2]
  | ok x =>
    have h1 := (reset_ok_iff hd.wf (r := r)).2 ⟨hv, rfl⟩
    have h2 := (new_ok_iff (params := { d.params with unpackedSize := r.getD d.state.unpackedSize })
      (ml := some d.memlimit)).2 ⟨hd.dict, hv, rfl⟩
    rw [h1, h2]
    simp only [Except.map, forgetSize, hd.partialBuf, Option.getD_some]

end LzmaDecoder

theorem DState.resetState_setUnpackedSize (s : DState) (u : Option Nat) (np : Props) :
    (s.setUnpackedSize u).resetState np = (s.resetState np).map (·.setUnpackedSize u) := by
  unfold DState.resetState
  cases np.validate <;> rfl

namespace Lzma2Decoder

/-- forget the size stored in the `DecoderState` (LZMA2 sets it afresh for every LZMA chunk) -/
def norm (d : Lzma2Decoder) : Lzma2Decoder := { lzmaState := d.lzmaState.setUnpackedSize none }

theorem norm_norm (d : Lzma2Decoder) : norm (norm d) = norm d := rfl

/-- the state stage of `parse_lzma` reads the stale size only to hand it on -/
theorem lzma2PropsStage_norm (d : Lzma2Decoder) (rd : Rd) (cls : Nat) :
    lzma2PropsStage (norm d) rd cls =
      (lzma2PropsStage d rd cls).map fun z => (z.1.setUnpackedSize none, z.2) := by
  unfold lzma2PropsStage
  split
  · simp only [norm, DState.resetState_setUnpackedSize,
      show ∀ s : DState, (s.setUnpackedSize none).props = s.props from fun _ => rfl]
    generalize (if cls ≥ 2 then _ else _ : Except Err (Props × Rd)) = xb
    rcases xb with e | x
    · rfl
    · dsimp only [bind, Except.bind]
      generalize d.lzmaState.resetState x.1 = r
      cases r <;> rfl
  · rfl

/-- `parse_lzma` never reads a stale `unpacked_size`: the payload stage overwrites it at once -/
theorem parseLzma_norm (d : Lzma2Decoder) (accum : Accum) (rd : Rd) (status : Nat) :
    d.parseLzma accum rd status = (norm d).parseLzma accum rd status := by
  rw [parseLzma_eq_M, parseLzma_eq_M]
  unfold parseLzmaM
  split
  · rfl
  · refine bind_congr fun x => bind_congr fun y => bind_congr fun a0 => ?_
    rw [lzma2PropsStage_norm, RS.liftE_map_bind]
    rfl

/-- a `chunkLoop` result up to `norm` of the returned decoder -/
def forgetL : Sink × Except Err (Lzma2Decoder × Accum × Rd) →
    Sink × Except Err (Lzma2Decoder × Accum × Rd)
  | (s, .ok (d, a, r)) => (s, .ok (norm d, a, r))
  | (s, .error e) => (s, .error e)

/-- a `decompress` result up to `norm` of the returned decoder -/
def forgetRes : Sink × Except Err (Lzma2Decoder × Rd) → Sink × Except Err (Lzma2Decoder × Rd)
  | (s, .ok (d, r)) => (s, .ok (norm d, r))
  | (s, .error e) => (s, .error e)

theorem chunkLoop_norm : ∀ (fuel : Nat) (d : Lzma2Decoder) (accum : Accum) (rd : Rd) (snk : Sink),
    forgetL (chunkLoop fuel d accum rd snk) = forgetL (chunkLoop fuel (norm d) accum rd snk) := by
  intro fuel
  induction fuel with
  | zero => intros; rfl
  | succ fuel ih =>
    intro d accum rd snk
    unfold chunkLoop
    refine RS.bind_congr_post forgetL ?_
    rintro ⟨status, rd1⟩ s1
    dsimp only
    split
    · rfl
    · split
      · refine RS.bind_congr_post forgetL ?_
        rintro ⟨a, r⟩ s2
        exact ih d a r s2
      · split
        · refine RS.bind_congr_post forgetL ?_
          rintro ⟨a, r⟩ s2
          exact ih d a r s2
        · rw [parseLzma_norm d]

theorem bind_forgetL {β γ : Type} (F : Sink × Except Err β → γ)
    {m1 m2 : M (Lzma2Decoder × Accum × Rd)} {f : Lzma2Decoder × Accum × Rd → M β} {s : Sink}
    (h : forgetL (m1 s) = forgetL (m2 s))
    (hf : ∀ d a r s', F (f (d, a, r) s') = F (f (norm d, a, r) s')) :
    F ((m1 >>= f) s) = F ((m2 >>= f) s) := by
  rw [bind_run, bind_run]
  generalize m1 s = x1 at h ⊢
  generalize m2 s = x2 at h ⊢
  rcases x1 with ⟨s1, e1 | ⟨d1, a1, r1⟩⟩ <;> rcases x2 with ⟨s2, e2 | ⟨d2, a2, r2⟩⟩ <;>
    simp only [forgetL, Prod.mk.injEq, Except.error.injEq, Except.ok.injEq, reduceCtorEq,
      and_false] at h
  · obtain ⟨rfl, rfl⟩ := h; rfl
  · obtain ⟨rfl, hd, rfl, rfl⟩ := h
    dsimp only
    rw [hf d1, hf d2, hd]

theorem decompress_norm (d : Lzma2Decoder) (y : Rd) (snk : Sink) :
    forgetRes (d.decompress y snk) = forgetRes ((norm d).decompress y snk) := by
  unfold decompress
  refine bind_forgetL forgetRes (chunkLoop_norm _ d _ y snk) ?_
  intro d' a r s'
  dsimp only
  refine RS.bind_congr_post forgetRes ?_
  intro u s2
  rfl

theorem decompress_eqv {d1 d2 : Lzma2Decoder} (h : norm d1 = norm d2) (y : Rd) (snk : Sink) :
    forgetRes (d1.decompress y snk) = forgetRes (d2.decompress y snk) := by
  rw [decompress_norm d1, decompress_norm d2, h]

/-- the invariant of a usable LZMA2 decoder object -/
structure Inv (d : Lzma2Decoder) : Prop where
  wf : d.lzmaState.WF
  partialBuf : d.lzmaState.partialBuf = []

theorem zeroProps_valid : zeroProps.validate = .ok () := rfl

theorem new_eq_fresh : Lzma2Decoder.new =
    .ok { lzmaState := { props := zeroProps, unpackedSize := none, probs := Probs.init 1 } } := by
  unfold Lzma2Decoder.new
  rw [DState.new_of_valid none zeroProps_valid]
  rfl

theorem reset_eq_fresh {d : Lzma2Decoder} (hd : d.Inv) : d.reset =
    .ok { lzmaState := { props := zeroProps, unpackedSize := d.lzmaState.unpackedSize,
                         probs := Probs.init 1 } } := by
  unfold Lzma2Decoder.reset
  rw [DState.resetState_eq hd.wf zeroProps_valid, hd.partialBuf]
  rfl

theorem processMode_finish_post {ω : Type} [LzBuf ω] {st : DState} {w : ω} {rc : RC} {rd : Rd}
    (hwf : st.WF) (hpb : st.partialBuf = []) :
    Post (DState.processMode .finish st w rc rd) fun x => Inv { lzmaState := x.1 } :=
  fun _ _ _ hx => ⟨.processMode hx hwf, DState.processMode_finish_partialBuf hx hpb⟩

theorem resetState_inv {d : Lzma2Decoder} (hd : d.Inv) {np : Props} {st : DState}
    (h : d.lzmaState.resetState np = .ok st) : st.WF ∧ st.partialBuf = [] := by
  cases hv : np.validate with
  | error e => rw [DState.resetState_of_invalid _ hv] at h; cases h
  | ok y =>
    rw [DState.resetState_eq hd.wf hv, hd.partialBuf] at h
    cases h
    exact ⟨DState.fresh_WF _ _ _, rfl⟩

/-- the state a chunk is decoded from: the decoder's own or a freshly reset one -/
theorem lzma2PropsStage_inv {d : Lzma2Decoder} (hd : d.Inv) {rd : Rd} {cls : Nat}
    {z : DState × Rd} (h : lzma2PropsStage d rd cls = .ok z) : z.1.WF ∧ z.1.partialBuf = [] := by
  unfold lzma2PropsStage at h
  split at h
  · obtain ⟨x, -, h⟩ := Except.bind_eq_ok'.1 h
    obtain ⟨st, hst, h⟩ := Except.bind_eq_ok'.1 h
    cases h
    exact resetState_inv hd hst
  · cases h
    exact ⟨hd.wf, hd.partialBuf⟩

theorem lzma2Payload_inv {st : DState} (hwf : st.WF) (hpb : st.partialBuf = []) (u : Option Nat)
    (a0 : Accum) (rd : Rd) (packed : Nat) :
    Post (lzma2Payload (st.setUnpackedSize u) a0 rd packed) (fun r => r.1.Inv) :=
  Post.bind' fun _ => Post.bind (processMode_finish_post (hwf.setUnpackedSize u) hpb) fun q hq =>
    Post.liftE fun r hr => by
      obtain ⟨fin, -, hr⟩ := Except.bind_eq_ok'.1 hr
      split at hr <;> cases hr
      exact hq

theorem parseLzma_inv (d : Lzma2Decoder) (hd : d.Inv) (accum : Accum) (rd : Rd) (status : Nat) :
    Post (d.parseLzma accum rd status) (fun r => r.1.Inv) := by
  rw [parseLzma_eq_M]
  exact Post.ite (fun _ => Post.throw) fun _ => Post.bind' fun x => Post.bind' fun y =>
    Post.bind' fun a0 => Post.bind (Post.liftE fun z => lzma2PropsStage_inv hd) fun z hz =>
      lzma2Payload_inv hz.1 hz.2 _ _ _ _

theorem chunkLoop_inv : ∀ (fuel : Nat) (d : Lzma2Decoder), d.Inv → ∀ (accum : Accum) (rd : Rd),
    Post (chunkLoop fuel d accum rd) (fun r => r.1.Inv) := by
  intro fuel
  induction fuel with
  | zero => intro d hd accum rd; exact Post.throw
  | succ fuel ih =>
    intro d hd accum rd
    unfold chunkLoop
    refine Post.bind' ?_
    rintro ⟨status, rd1⟩
    dsimp only
    refine Post.ite (fun _ => Post.pure hd) fun _ => Post.ite (fun _ => ?_) fun _ =>
      Post.ite (fun _ => ?_) fun _ => ?_
    · exact Post.bind' fun ⟨a, r⟩ => ih d hd a r
    · exact Post.bind' fun ⟨a, r⟩ => ih d hd a r
    · exact Post.bind (parseLzma_inv d hd _ _ _) fun ⟨d', a, r⟩ hd' => ih d' hd' a r

theorem decompress_inv (d : Lzma2Decoder) (hd : d.Inv) (y : Rd) :
    Post (d.decompress y) (fun r => r.1.Inv) :=
  Post.bind (chunkLoop_inv _ d hd _ _) fun ⟨_, _, _⟩ hd' => Post.bind' fun _ => Post.pure hd'

end Lzma2Decoder

end Lzma
