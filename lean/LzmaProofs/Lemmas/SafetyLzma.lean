/-
  C07: the `.lzma` container.  A parsed header has valid `lc/lp/pb` and a non-zero dictionary
  size, which is what the invariants of the symbol loop need at the start.
-/
import LzmaProofs.Lemmas.SafetyLoop
namespace Lzma
namespace Safety

theorem lzErr_safe {P : α → Prop} {x : Except Err α} (h : ESafe P x) : ESafe P (lzErr x) := by
  cases x with
  | ok a => exact h
  | error e => rfl

theorem props_of_byte {pb : Nat} (h : ¬ pb ≥ 225) :
    PropsOk { lc := pb % 9, lp := pb / 9 % 5, pb := pb / 9 / 5 } := by
  unfold PropsOk
  simp only
  omega

theorem readHeader_safe (rd : Rd) (opts : Options) :
    ESafe (fun x => PropsOk x.1.props ∧ 0 < x.1.dictSize ∧ x.2.rem.length ≤ rd.rem.length)
      (readHeader rd opts) := by
  cases h : readHeader rd opts with
  | ok x =>
    obtain ⟨p, rd'⟩ := x
    obtain ⟨b, rest, _, hb, _, rfl, rfl⟩ := readHeader_ok_iff.1 h
    refine ⟨?_, Nat.lt_of_lt_of_le (by decide) (Nat.le_max_right _ _), ?_⟩
    · show _ ≤ 8 ∧ _ ≤ 4 ∧ _ ≤ 4
      simp only [hdrParams]
      omega
    · simp only [List.length_drop]
      omega
  | error e => rcases readHeader_error_iff.1 h with ⟨rfl, _⟩ | ⟨rfl, _⟩ <;> rfl

theorem LzmaDecoder_new_safe {params : LzmaParams} (hp : PropsOk params.props) (memlimit : Option Nat) :
    ESafe (fun d => DStateInv d.state ∧ 0 < d.params.dictSize ∧ PropsOk d.params.props)
      (LzmaDecoder.new params memlimit) := by
  unfold LzmaDecoder.new
  split
  · rfl
  · rename_i hd
    refine (DState_new_safe hp params.unpackedSize).bind ?_
    intro st ⟨hst, _⟩
    exact ESafe_pure.mpr ⟨hst, by dsimp only; omega, hp⟩

def LzmaDecoderInv (d : LzmaDecoder) : Prop :=
  DStateInv d.state ∧ 0 < d.params.dictSize ∧ PropsOk d.params.props

theorem LzmaDecoder_reset_safe {d : LzmaDecoder} (hd : LzmaDecoderInv d) (u : Option (Option Nat)) :
    ESafe LzmaDecoderInv (d.reset u) := by
  unfold LzmaDecoder.reset
  refine (resetState_safe hd.1 hd.2.2).bind ?_
  intro st ⟨hst, _⟩
  refine ESafe_pure.mpr ⟨?_, hd.2.1, hd.2.2⟩
  dsimp only
  split
  · exact setUnpackedSize_inv hst _
  · exact hst

theorem RC_new_lzma_safe (rd : Rd) :
    ESafe (fun x => RCInv x.1 ∧ x.2.rem.length ≤ rd.rem.length)
      (match RC.new rd with
        | .ok x => .ok x
        | .error _ => .error .lzma) := by
  have := RC_new_safe rd
  cases h : RC.new rd with
  | ok x => rw [h] at this; exact ⟨this.1, by have := this.2; omega⟩
  | error e => rfl

theorem LzmaDecoder_decompress_safe {d : LzmaDecoder} (hd : LzmaDecoderInv d) (rd : Rd) :
    MSafe (fun x => LzmaDecoderInv x.1 ∧ x.2.rem.length ≤ rd.rem.length) (d.decompress rd) := by
  unfold LzmaDecoder.decompress
  dsimp only
  refine MSafe.bind (MSafe.liftE (RC_new_lzma_safe rd)) ?_
  rintro ⟨rc, rd1⟩ ⟨hrc, hl1⟩
  dsimp only
  have hw : LzBufSafe.inv (Circ.fromStream d.params.dictSize d.memlimit) :=
    CircSafe_fromStream hd.2.1
  refine MSafe.bind (processMode_safe .finish rd1 hd.1 hw hrc) ?_
  rintro ⟨st, w, rc2, rd2⟩ ⟨hst, hw2, _, hl2⟩
  dsimp only
  refine MSafe.bind (Circ.finish_safe w hw2) ?_
  intro _ _
  refine MSafe_pure.mpr ⟨⟨hst, hd.2.1, hd.2.2⟩, ?_⟩
  dsimp only at hl1 hl2 ⊢; omega

theorem lzmaDecompress_safe (rd : Rd) (opts : Options) :
    MSafe (fun rd' => rd'.rem.length ≤ rd.rem.length) (lzmaDecompress rd opts) := by
  unfold lzmaDecompress
  refine MSafe.bind (MSafe.liftE (readHeader_safe rd opts)) ?_
  rintro ⟨params, rd1⟩ ⟨hp, hdict, hl1⟩
  dsimp only
  refine MSafe.bind (MSafe.liftE (LzmaDecoder_new_safe hp opts.memlimit)) ?_
  intro dec hdec
  refine MSafe.bind (LzmaDecoder_decompress_safe hdec rd1) ?_
  rintro ⟨_, rd2⟩ ⟨_, hl2⟩
  refine MSafe_pure.mpr ?_
  dsimp only at hl1 hl2 ⊢; omega

/-- the one-shot entry point runs `LzmaDecoder::decompress` on the decoder built from the header -/
theorem lzmaDecompress_run {rd rd1 : Rd} {opts : Options} {params : LzmaParams} {dec : LzmaDecoder}
    (h1 : readHeader rd opts = .ok (params, rd1))
    (h2 : LzmaDecoder.new params opts.memlimit = .ok dec) (snk : Sink) :
    (lzmaDecompress rd opts snk).1 = (dec.decompress rd1 snk).1 ∧
      (lzmaDecompress rd opts snk).2.isOk = (dec.decompress rd1 snk).2.isOk := by
  unfold lzmaDecompress
  rw [h1, liftE_ok_bind]
  dsimp only
  rw [h2, liftE_ok_bind, bind_run]
  rcases dec.decompress rd1 snk with ⟨s, r | r⟩ <;> exact ⟨rfl, rfl⟩

theorem lzmaDecompress_no_panic (rd : Rd) (opts : Options) (snk : Sink) (w : String) :
    (lzmaDecompress rd opts snk).2 ≠ .error (.panic w) :=
  (lzmaDecompress_safe rd opts snk).ne_panic w

theorem lzmaDecompress_terminates (rd : Rd) (opts : Options) (snk : Sink) :
    (lzmaDecompress rd opts snk).2 ≠ .error .fuel :=
  (lzmaDecompress_safe rd opts snk).ne_fuel

end Safety
end Lzma
