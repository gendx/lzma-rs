/-
  The literal-only encoder of lzma-rs (`encode/dumbencoder.rs`, model `DumbEnc`) writes what the
  format-level reference encoder (`encodeProg` / `encodeEvents`) writes for "every byte a literal,
  then the end marker".  Both are run in lock step (`Follows`): the encoder's two small tables are
  two tables of the reference encoder's store (`toProbs`).  The end marker is the one place where
  they code differently — 41 bits with a fresh probability `0x400` against 26 direct bits among
  them — and `2^11 ∣ range` at every direct bit makes the two the same arithmetic (`MInv`).
-/
import LzmaProofs.Lemmas.RangeCoder
import LzmaProofs.Lemmas.SymLayerNoDup
import LzmaProofs.Lemmas.Stages
namespace Lzma
open RcArith
open REnc

theorem emits_pbit {i : PIdx} {b : Bool} {probs : Probs} {e : REnc} {v : Nat} {rest : List Ev}
    {r : Probs × REnc} {bs : Bytes} (he : EOk e) (hg : probs.get i = .ok v) (hv : ProbOk v)
    (h : Emits (encodeEvents rest (probs.set i (updP v b)) (stepBit e v b).1) r bs) :
    Emits (encodeEvents (.pbit i b :: rest) probs e) r ((stepBit e v b).2 ++ bs) := by
  rw [encodeEvents_pbit_eq, hg, liftE_ok_bind]
  exact (emits_encodeBit b he hv).bind h

theorem emits_dbit {b : Bool} {probs : Probs} {e : REnc} {rest : List Ev} {r : Probs × REnc}
    {bs : Bytes} (he : EOk e) (h : Emits (encodeEvents rest probs (stepDirect e b).1) r bs) :
    Emits (encodeEvents (.dbit b :: rest) probs e) r ((stepDirect e b).2 ++ bs) := by
  rw [encodeEvents_dbit_eq]
  exact (emits_encodeDirect b he).bind h

namespace DumbEnc

/-- the `Probs` store that the reference encoder holds when the literal-only encoder
holds `d`: its `lit` table is `literal_probs` (8 rows of `0x300`), the first four cells of
`isMatch` (state 0, `pos_state` 0..3) are `is_match`, everything else is untouched -/
def toProbs (d : DumbEnc) : Probs :=
  { Probs.init 8 with lit := d.litProbs, isMatch := d.isMatch ++ Array.replicate 188 0x400 }

structure WF (d : DumbEnc) : Prop where
  lit : d.litProbs.size = 8 * 0x300
  im : d.isMatch.size = 4
  rc : EOk d.rc
  probs : ProbsOk d.toProbs

theorem toProbs_fresh (opt : EncSizeOpt) : toProbs { opt := opt } = Probs.init 8 := by
  simp [toProbs, Probs.init]

theorem wf_fresh (opt : EncSizeOpt) : WF { opt := opt } :=
  ⟨by simp, by simp, eok_fresh, by rw [toProbs_fresh]; exact probsOk_init 8⟩

theorem toProbs_setLit (d : DumbEnc) (rc : REnc) (row col v : Nat) :
    toProbs { d with rc := rc, litProbs := d.litProbs.setIfInBounds (row * 0x300 + col) v } =
      d.toProbs.set (.lit row col) v := rfl

theorem toProbs_setIsMatch (d : DumbEnc) (rc : REnc) (i v : Nat) (hi : i < d.isMatch.size) :
    toProbs { d with rc := rc, isMatch := d.isMatch.setIfInBounds i v } =
      d.toProbs.set (.isMatch i) v := by
  simp only [toProbs, Probs.set]
  rw [Array.setIfInBounds_append_left hi]

theorem toProbs_get_lit (d : DumbEnc) (hd : d.WF) (row col : Nat) (hr : row < 8) (hc : col < 0x300) :
    ∃ v, arrGet d.litProbs (row * 0x300 + col) = .ok v ∧ d.toProbs.get (.lit row col) = .ok v := by
  have hs := hd.lit
  have hlt : row * 0x300 + col < d.litProbs.size := by omega
  refine ⟨d.litProbs[row * 0x300 + col], ?_, ?_⟩
  · simp [arrGet, Array.getElem?_eq_getElem hlt]
  · have : row * 0x300 + 0x300 ≤ d.litProbs.size ∧ col < 0x300 := ⟨by omega, hc⟩
    simp only [toProbs, Probs.get]
    simp [this, arrGet, Array.getElem?_eq_getElem hlt]

theorem toProbs_get_isMatch (d : DumbEnc) (hd : d.WF) (i : Nat) (hi : i < 4) :
    ∃ v, arrGet d.isMatch i = .ok v ∧ d.toProbs.get (.isMatch i) = .ok v := by
  have hs := hd.im
  have hlt : i < d.isMatch.size := by omega
  refine ⟨d.isMatch[i], ?_, ?_⟩
  · simp [arrGet, Array.getElem?_eq_getElem hlt]
  · simp only [toProbs, Probs.get]
    simp [arrGet, Array.getElem?_append_left hlt, Array.getElem?_eq_getElem hlt]

theorem encodeLiteralLoop_zero (row byte result : Nat) (e : DumbEnc) :
    encodeLiteralLoop row byte 0 result e = pure e := rfl

theorem encodeLiteralLoop_succ (row byte n result : Nat) (e : DumbEnc) :
    encodeLiteralLoop row byte (n + 1) result e =
      (liftE (if row < 8 ∧ result < 0x300 then arrGet e.litProbs (row * 0x300 + result) else oob) >>=
        fun p => e.rc.encodeBit p (((byte >>> (7 - (8 - (n + 1)))) &&& 1) != 0) >>= fun x =>
          encodeLiteralLoop row byte n
            (2 * result + ((((byte >>> (7 - (8 - (n + 1)))) &&& 1) != 0).toNat))
            { e with rc := x.1, litProbs := e.litProbs.setIfInBounds (row * 0x300 + result) x.2 }) := rfl

/-- `m`, run by the Rust encoder from the state `d`, codes exactly the events `evs`: both encoders
emit the same bytes and end in corresponding states -/
def Follows (d : DumbEnc) (m : M DumbEnc) (evs : List Ev) : Prop :=
  ∃ d' bs, d'.WF ∧ d'.opt = d.opt ∧ Emits m d' bs ∧
    Emits (encodeEvents evs d.toProbs d.rc) (d'.toProbs, d'.rc) bs

/-- one coded cell, of either table: `encode_bit` with the probability `v` that the full store
holds at `i`, then `k` from the state `d1` in which `updP v b` is written back -/
theorem Follows.bit {d d1 : DumbEnc} (hd : d.WF) {i : PIdx} {v : Nat} {b : Bool}
    (hg : d.toProbs.get i = .ok v) (h1 : d1.toProbs = d.toProbs.set i (updP v b))
    (hrc : d1.rc = (stepBit d.rc v b).1) (hl : d1.litProbs.size = d.litProbs.size)
    (him : d1.isMatch.size = d.isMatch.size) (ho : d1.opt = d.opt)
    {k : REnc × Nat → M DumbEnc} {evs : List Ev}
    (hk : d1.WF → Follows d1 (k ((stepBit d.rc v b).1, updP v b)) evs) :
    Follows d (d.rc.encodeBit v b >>= k) (.pbit i b :: evs) := by
  have hv : ProbOk v := hd.probs _ _ hg
  obtain ⟨d', bs, h2, h3, h4, h6⟩ := hk ⟨hl.trans hd.lit, him.trans hd.im,
    hrc ▸ stepBit_ok b hd.rc hv, h1 ▸ hd.probs.set _ (hv.upd b)⟩
  exact ⟨d', (stepBit d.rc v b).2 ++ bs, h2, h3.trans ho, (emits_encodeBit b hd.rc hv).bind h4,
    emits_pbit hd.rc hg hv (by rw [← h1, ← hrc]; exact h6)⟩

theorem encodeLiteralLoop_sim (row byte : Nat) (hrow : row < 8) :
    ∀ (n result : Nat) (d : DumbEnc), n ≤ 8 → result < 2 ^ (9 - n) → d.WF →
      Follows d (encodeLiteralLoop row byte n result d) (litPlainEv row byte n result)
  | 0, _, d, _, _, hd => ⟨d, [], hd, rfl, Emits.pure d, Emits.pure _⟩
  | n+1, result, d, hn, hres, hd => by
    have hpow : 2 ^ (9 - n) = 2 * 2 ^ (9 - (n + 1)) := by
      rw [show 9 - n = (9 - (n + 1)) + 1 by omega, Nat.pow_succ]; omega
    have hle : 2 ^ (9 - (n + 1)) ≤ 2 ^ 8 := Nat.pow_le_pow_right (by decide) (by omega)
    have hres' : result < 0x300 := by omega
    have hsh : 7 - (8 - (n + 1)) = n := by omega
    obtain ⟨v, hgD, hgR⟩ := toProbs_get_lit d hd row result hrow hres'
    generalize hbit : (((byte >>> n) &&& 1) != 0) = bit
    have hb1 : (byte >>> n) &&& 1 < 2 := by rw [shr_and_one]; exact Nat.mod_lt _ (by decide)
    have hbn : bit.toNat = (byte >>> n) &&& 1 := by rw [← hbit]; exact bit_toNat _ hb1
    rw [encodeLiteralLoop_succ, if_pos ⟨hrow, hres'⟩, hgD, liftE_ok_bind, hsh, hbit,
      show litPlainEv row byte (n + 1) result =
        .pbit (.lit row result) bit :: litPlainEv row byte n (2 * result + bit.toNat) by
          simp only [litPlainEv, hbit, hbn]]
    exact Follows.bit hd hgR (toProbs_setLit d _ row result _) rfl (by simp) rfl rfl fun hd1 =>
      encodeLiteralLoop_sim row byte hrow n _ _ (by omega) (by rw [hbn]; omega) hd1

end DumbEnc

/-- range after one bit coded with probability `0x400` (and normalisation) -/
def nextRange (r : Nat) (b : Bool) : Nat :=
  let m := if b then r - (r >>> 11) * 0x400 else (r >>> 11) * 0x400
  if m < 0x1000000 then m * 256 else m

/-- the divisibility invariant of the marker (main phase): the range has at most 14 significant
bits, `r = q · 2^j` with `q < 2^14` — so `2^11 ∣ r` as long as `2^24 ≤ r`.  Preserved by halving
(`j` drops by one) and by normalisation (`j` grows by eight). -/
def MInv (r : Nat) : Prop := ∃ j, 11 ≤ j ∧ 2 ^ j ∣ r ∧ r < 2 ^ (j + 14)

theorem MInv.mod {r : Nat} (h : MInv r) : r % 2048 = 0 := by
  obtain ⟨j, hj, hd, -⟩ := h
  exact Nat.mod_eq_zero_of_dvd (Nat.dvd_trans (Nat.pow_dvd_pow 2 hj) hd)

theorem minv_norm {m : Nat} (h : m % 1024 = 0) (hm : m < 0x1000000) : MInv (m * 256) :=
  ⟨18, by decide,
    show 1024 * 256 ∣ m * 256 from Nat.mul_dvd_mul (Nat.dvd_of_mod_eq_zero h) (Nat.dvd_refl 256),
    Nat.mul_lt_mul_of_pos_right hm (by decide)⟩

theorem minv_step {r : Nat} (b : Bool) (h : MInv r) (hlo : 16777216 ≤ r) : MInv (nextRange r b) := by
  have h11 := h.mod
  obtain ⟨j, hj, hd, hb⟩ := h
  obtain ⟨j, rfl⟩ : ∃ i, j = i + 1 := ⟨j - 1, by omega⟩
  have hm : (if b then r - (r >>> 11) * 0x400 else (r >>> 11) * 0x400) = r / 2 := by
    rw [Nat.shiftRight_eq_div_pow]; cases b <;> simp <;> omega
  have hd2 : 2 ^ j ∣ r / 2 := by
    obtain ⟨c, rfl⟩ := hd
    rw [Nat.pow_succ, Nat.mul_assoc, Nat.mul_comm 2 c, ← Nat.mul_assoc, Nat.mul_div_cancel _ (by decide)]
    exact Nat.dvd_mul_right _ _
  have hb2 : r / 2 < 2 ^ (j + 14) := by
    rw [show j + 1 + 14 = (j + 14) + 1 by omega, Nat.pow_succ] at hb; omega
  unfold nextRange
  rw [hm]
  simp only []
  split
  · exact ⟨j + 8, by omega, by rw [Nat.pow_add]; exact Nat.mul_dvd_mul hd2 (by decide),
      by rw [show j + 8 + 14 = (j + 14) + 8 by omega, Nat.pow_add]; omega⟩
  · refine ⟨j, Nat.le_of_not_lt fun hc => ?_, hd2, hb2⟩
    have : 2 ^ (j + 14) ≤ 2 ^ 24 := Nat.pow_le_pow_right (by decide) (by omega)
    omega

/-- start-up phase: `k` bits coded with probability `0x400` so far, the first one a zero
(which makes `2^10 ∣ r`), no normalisation yet (`r ≤ 2^(32-k)`) — or already `MInv` -/
def QInv (r k : Nat) : Prop := MInv r ∨ (r % 1024 = 0 ∧ r ≤ 2 ^ (32 - k))

theorem qinv_first {r : Nat} (hlo : 16777216 ≤ r) (hhi : r < 4294967296) : QInv (nextRange r false) 1 := by
  have hs : r >>> 11 = r / 2048 := Nat.shiftRight_eq_div_pow r 11
  unfold nextRange
  rw [hs]
  simp only [Bool.false_eq_true, if_false]
  split
  · rename_i hm; exact .inl (minv_norm (by omega) hm)
  · right; exact ⟨by omega, by show _ ≤ 2147483648; omega⟩

theorem qinv_step {r k : Nat} (b : Bool) (h : QInv r k) (hlo : 16777216 ≤ r) (hhi : r < 4294967296) :
    QInv (nextRange r b) (k + 1) := by
  rcases h with h | ⟨hd, hk⟩
  · exact .inl (minv_step b h hlo)
  · have hs : r >>> 11 = r / 2048 := Nat.shiftRight_eq_div_pow r 11
    unfold nextRange
    rw [hs]
    have hm1 : (if b then r - r / 2048 * 0x400 else r / 2048 * 0x400) % 1024 = 0 := by
      cases b <;> simp <;> omega
    have hm2 : 2 * (if b then r - r / 2048 * 0x400 else r / 2048 * 0x400) ≤ r + 1024 := by
      cases b <;> simp <;> omega
    generalize (if b then r - r / 2048 * 0x400 else r / 2048 * 0x400) = m at hm1 hm2
    simp only []
    split
    · rename_i hm; exact .inl (minv_norm hm1 hm)
    · right
      -- `m` is a multiple of `2^10` with `2 m ≤ 2^(32-k) + 2^10`, and so is `2^(31-k)`
      have hk7 : k ≤ 7 := by
        apply Nat.le_of_not_lt; intro hc
        have : 2 ^ (32 - k) ≤ 2 ^ 24 := Nat.pow_le_pow_right (by decide) (by omega)
        omega
      have hX : 2 ^ (32 - k) = 2 * 2 ^ (32 - (k + 1)) := by
        rw [← Nat.pow_succ']; congr 1; omega
      have h10 : 2 ^ 10 ∣ 2 ^ (32 - (k + 1)) := Nat.pow_dvd_pow 2 (by omega)
      generalize 2 ^ (32 - (k + 1)) = X at *
      exact ⟨hm1, by omega⟩

theorem qinv_final {r k : Nat} (h : QInv r k) (hk : 8 ≤ k) (hlo : 16777216 ≤ r) : MInv r := by
  rcases h with h | ⟨hd, hk'⟩
  · exact h
  · have : 2 ^ (32 - k) ≤ 2 ^ 24 := Nat.pow_le_pow_right (by decide) (by omega)
    have : r = 16777216 := by omega
    subst this; exact ⟨24, by decide, Nat.dvd_refl _, by decide⟩

namespace REnc

theorem stepBit_range (e : REnc) (b : Bool) : (stepBit e 0x400 b).1.range = nextRange e.range b := by
  unfold stepBit norm1 nextRange
  cases b
  · simp only [midBit, Bool.false_eq_true, if_false]
    split
    · rw [wl_range]
    · rfl
  · simp only [midBit, if_true]
    split
    · rw [wl_range]
    · rfl

theorem midDirect_eq_midBit (e : REnc) (b : Bool) (h : e.range % 2048 = 0) :
    midDirect e b = midBit e 0x400 b := by
  have h1 : e.range >>> 1 = e.range / 2 := Nat.shiftRight_eq_div_pow e.range 1
  have h2 : e.range >>> 11 = e.range / 2048 := Nat.shiftRight_eq_div_pow e.range 11
  have h3 : e.range / 2048 * 0x400 = e.range / 2 := by omega
  cases b
  · simp only [midDirect, midBit, h1, h2, h3, Bool.false_eq_true, if_false]
  · have h4 : e.range - e.range / 2 = e.range / 2 := by omega
    simp only [midDirect, midBit, h1, h2, h3, h4, if_true]

theorem stepDirect_eq_stepBit (e : REnc) (b : Bool) (h : e.range % 2048 = 0) :
    stepDirect e b = stepBit e 0x400 b := by
  unfold stepDirect stepBit
  rw [midDirect_eq_midBit e b h]

/-- a run of bits, each coded with a fresh probability `0x400` -/
def freshRun : List Bool → REnc → REnc × Bytes
  | [], e => (e, [])
  | b :: bs, e => ((freshRun bs (stepBit e 0x400 b).1).1, (stepBit e 0x400 b).2 ++ (freshRun bs (stepBit e 0x400 b).1).2)

/-- a run of events in which every probability read is `0x400` -/
def ev400Run : List Ev → REnc → REnc × Bytes
  | [], e => (e, [])
  | .pbit _ b :: evs, e =>
    ((ev400Run evs (stepBit e 0x400 b).1).1, (stepBit e 0x400 b).2 ++ (ev400Run evs (stepBit e 0x400 b).1).2)
  | .dbit b :: evs, e =>
    ((ev400Run evs (stepDirect e b).1).1, (stepDirect e b).2 ++ (ev400Run evs (stepDirect e b).1).2)

/-- The two components separately: a pair on the right-hand side would leave `(x, y).1` behind
after rewriting, which the kernel compares with `x` by unfolding `freshRun`. -/
theorem freshRun_cons (b : Bool) (bs : List Bool) (e : REnc) :
    (freshRun (b :: bs) e).1 = (freshRun bs (stepBit e 0x400 b).1).1 ∧
    (freshRun (b :: bs) e).2 = (stepBit e 0x400 b).2 ++ (freshRun bs (stepBit e 0x400 b).1).2 :=
  ⟨rfl, rfl⟩

theorem freshRun_append (a b : List Bool) (e : REnc) :
    (freshRun (a ++ b) e).1 = (freshRun b (freshRun a e).1).1 ∧
    (freshRun (a ++ b) e).2 = (freshRun a e).2 ++ (freshRun b (freshRun a e).1).2 := by
  induction a generalizing e with
  | nil => exact ⟨rfl, rfl⟩
  | cons x a ih => simp [freshRun, ih, List.append_assoc]

theorem freshRun_ok (bs : List Bool) (e : REnc) (he : EOk e) : EOk (freshRun bs e).1 := by
  induction bs generalizing e with
  | nil => exact he
  | cons b bs ih => exact ih _ (stepBit_ok b he probOk_init)

theorem freshRun_qinv (bs : List Bool) (e : REnc) (k : Nat) (he : EOk e) (h : QInv e.range k) :
    QInv (freshRun bs e).1.range (k + bs.length) := by
  induction bs generalizing e k with
  | nil => exact h
  | cons b bs ih =>
    have := ih (stepBit e 0x400 b).1 (k + 1) (stepBit_ok b he probOk_init)
      (by rw [stepBit_range]; exact qinv_step b h he.lo he.hi)
    simpa [freshRun, Nat.add_assoc, Nat.add_comm 1] using this

/-- direct bits and `0x400`-bits are interchangeable in a run that has started with a zero bit
(`QInv`) and in which no direct bit comes before the eighth bit (`j` more bits coded with a
probability first) -/
theorem ev400Run_eq_freshRun : ∀ (evs : List Ev) (j k : Nat) (e : REnc), EOk e → QInv e.range k →
    8 ≤ k + j → (∀ ev ∈ evs.take j, (Ev.idx? ev).isSome) →
    ev400Run evs e = freshRun (rcBitsOf evs) e
  | [], _, _, _, _, _, _, _ => rfl
  | .pbit i b :: evs, j, k, e, he, h, hk, hp => by
    have := ev400Run_eq_freshRun evs (j - 1) (k + 1) _ (stepBit_ok b he probOk_init)
      (by rw [stepBit_range]; exact qinv_step b h he.lo he.hi) (by omega) fun ev hev => by
        cases j with
        | zero => cases hev
        | succ j => exact hp ev (List.mem_cons_of_mem _ hev)
    simp only [ev400Run, rcBitsOf, List.map_cons, freshRun, this]
  | .dbit b :: evs, 0, k, e, he, h, hk, _ => by
    have := ev400Run_eq_freshRun evs 0 (k + 1) _ (stepBit_ok b he probOk_init)
      (by rw [stepBit_range]; exact qinv_step b h he.lo he.hi) (by omega) (fun _ h => nomatch h)
    simp only [ev400Run, rcBitsOf, List.map_cons, freshRun,
      stepDirect_eq_stepBit e b (qinv_final h (by omega) he.lo).mod, this]
  | .dbit b :: evs, j + 1, _, _, _, _, _, hp => nomatch hp (.dbit b) (List.mem_cons_self ..)

end REnc

/-- the events of the end marker after its `isMatch` bit (`pos_state = ps`):
`isRep` 0; length 0 (choice 0, three low-tree zeros); slot 63 (six ones);
26 direct ones; four align ones -/
def markerHead (ps : Nat) : List Ev :=
  [.pbit (.isRep 0) false, .pbit (.lenChoice false) false, .pbit (.lenLow false ps 1) false,
   .pbit (.lenLow false ps 2) false, .pbit (.lenLow false ps 4) false,
   .pbit (.posSlot 0 1) true, .pbit (.posSlot 0 3) true, .pbit (.posSlot 0 7) true,
   .pbit (.posSlot 0 15) true, .pbit (.posSlot 0 31) true, .pbit (.posSlot 0 63) true]

def markerRest : List Ev :=
  List.replicate 26 (.dbit true) ++
  [.pbit (.align 1) true, .pbit (.align 3) true, .pbit (.align 7) true, .pbit (.align 15) true]

def markerTail (ps : Nat) : List Ev := markerHead ps ++ markerRest

theorem rawSymEvents_eos (c : ECtx) (h0 : c.state = 0) :
    rawSymEvents c (Sym.toRaw .eos) = .pbit (.isMatch c.posState) true :: markerTail c.posState := by
  simp [Sym.toRaw, rawSymEvents, distEv, show posSlotOf 0xFFFFFFFF = 63 by decide +kernel, bitTreeEv,
    directEv, revBitTreeEv, lenEv, markerTail, markerHead, markerRest, h0, List.replicate]

def markerBits : List Bool :=
  false :: (List.replicate 4 false ++ (List.replicate 6 true ++ List.replicate 30 true))

theorem freshRun_zero_minv (bs : List Bool) (hbs : 7 ≤ bs.length) (e : REnc) (he : EOk e) :
    MInv (freshRun (false :: bs) e).1.range := by
  have he1 := stepBit_ok false he probOk_init
  have hq := freshRun_qinv bs _ 1 he1 (by rw [stepBit_range]; exact qinv_first he.lo he.hi)
  exact qinv_final hq (by omega) (freshRun_ok bs _ he1).lo

/-- From any consistent state (the probability of the marker's `is_match` bit is arbitrary): after
the marker's `is_rep` bit, four length bits and six slot bits, and `k` further one-bits, all coded
with `0x400`, the range is a multiple of `2^11`: the next such bit is a direct bit. -/
theorem marker_range_divisible (e : REnc) (he : EOk e) (k : Nat) :
    2 ^ 11 ∣ (freshRun ((false :: (List.replicate 4 false ++ List.replicate 6 true)) ++
      List.replicate k true) e).1.range :=
  Nat.dvd_of_mod_eq_zero (freshRun_zero_minv _ (by simp) e he).mod

/-- the Rust encoder's way of writing the marker (41 bits with a fresh `0x400`)
and the format's way (26 of them direct) drive the range coder identically -/
theorem marker_eq (ps : Nat) (e : REnc) (he : EOk e) :
    ev400Run (markerTail ps) e = freshRun markerBits e := by
  have := ev400Run_eq_freshRun (markerTail ps).tail 7 1 _ (stepBit_ok false he probOk_init)
    (by rw [stepBit_range]; exact qinv_first he.lo he.hi) (by decide)
    (by simp [markerTail, markerHead, Ev.idx?])
  rw [show markerTail ps = .pbit (.isRep 0) false :: (markerTail ps).tail from rfl, ev400Run, this]
  rfl

/-- every probability read while encoding `evs` from the store `p` is the initial `0x400` -/
def Fresh400 : Probs → List Ev → Prop
  | _, [] => True
  | p, .pbit i b :: evs => p.get i = .ok 0x400 ∧ Fresh400 (p.set i (updP 0x400 b)) evs
  | p, .dbit _ :: evs => Fresh400 p evs

theorem fresh400_of_nodup : ∀ (evs : List Ev) (p : Probs),
    (∀ i ∈ evs.filterMap Ev.idx?, p.get i = .ok 0x400) → (evs.filterMap Ev.idx?).Nodup →
      Fresh400 p evs
  | [], _, _, _ => trivial
  | .pbit i b :: evs, p, hg, hn => by
    simp only [List.filterMap_cons, Ev.idx?, List.nodup_cons] at hn
    have hi := hg i (by simp [Ev.idx?])
    refine ⟨hi, fresh400_of_nodup evs _ (fun j hj => ?_) hn.2⟩
    have hne : j ≠ i := fun h => hn.1 (h ▸ hj)
    rw [Probs.get_set_ne p i j _ _ hi hne]
    exact hg j (by simp [Ev.idx?, hj])
  | .dbit b :: evs, p, hg, hn => by
    have hf : (Ev.dbit b :: evs).filterMap Ev.idx? = evs.filterMap Ev.idx? := rfl
    rw [hf] at hg hn
    exact fresh400_of_nodup evs p hg hn

theorem encodeEvents_fresh : ∀ (evs : List Ev) (p : Probs) (e : REnc), Fresh400 p evs → EOk e →
    ∃ p', Emits (encodeEvents evs p e) (p', (ev400Run evs e).1) (ev400Run evs e).2
  | [], p, e, _, _ => ⟨p, Emits.pure _⟩
  | .pbit i b :: evs, p, e, hf, he => by
    obtain ⟨p', h⟩ := encodeEvents_fresh evs _ _ hf.2 (stepBit_ok b he probOk_init)
    exact ⟨p', emits_pbit he hf.1 probOk_init h⟩
  | .dbit b :: evs, p, e, hf, he => by
    obtain ⟨p', h⟩ := encodeEvents_fresh evs p _ hf (stepDirect_ok b he)
    exact ⟨p', emits_dbit he h⟩

/-- a cell outside the two tables a literal-only program touches, readable in the fresh store -/
def okInit : PIdx → Bool
  | .lit _ _ | .isMatch _ => false
  | i => ((Probs.init 8).get i).toBool

theorem get_of_okInit (d : DumbEnc) (k v : Nat) {i : PIdx} (h : okInit i = true) :
    (d.toProbs.set (.isMatch k) v).get i = .ok 0x400 := by
  obtain ⟨e, hb⟩ : (d.toProbs.set (.isMatch k) v).get i = (Probs.init 8).get i ∧
      ((Probs.init 8).get i).toBool = true := by
    cases i
    case lit | isMatch => cases h
    all_goals exact ⟨rfl, h⟩
  rw [e]
  cases hg : (Probs.init 8).get i with
  | ok w => rw [Probs.init_get 8 i w hg]
  | error x => rw [hg] at hb; cases hb

theorem markerTail_okInit : ∀ ps < 4, ((markerTail ps).filterMap Ev.idx?).Nodup ∧
    ((markerTail ps).filterMap Ev.idx?).all okInit = true := by decide +kernel

/-- a literal-only program leaves `isRep`, the length coder, `posSlot` and `align` at `0x400` -/
theorem markerTail_fresh (d : DumbEnc) (k v ps : Nat) (hps : ps < 4) :
    Fresh400 (d.toProbs.set (.isMatch k) v) (markerTail ps) :=
  have h := markerTail_okInit ps hps
  fresh400_of_nodup _ _ (fun i hi => get_of_okInit d k v (List.all_eq_true.1 h.2 i hi)) h.1

theorem erd_read_nil (fr : List Nat) :
    ERd.read { rem := [], bad := false, frags := fr } 1 = .ok ([], { rem := [], bad := false, frags := fr }) := rfl

/-- `read(&mut [0u8; 1])` returns exactly the next byte whatever the fragmentation says -/
theorem erd_read_cons (b : UInt8) (r : Bytes) (fr : List Nat) :
    ∃ fr', ERd.read { rem := b :: r, bad := false, frags := fr } 1 =
      .ok ([b], { rem := r, bad := false, frags := fr' }) := by
  cases fr with
  | nil => exact ⟨[], rfl⟩
  | cons f fs =>
    refine ⟨fs, ?_⟩
    have : (if f = 0 then 1 else min f 1) = 1 := by split <;> omega
    simp [ERd.read, this]

namespace DumbEnc

theorem emits_encodeFresh (bit : Bool) : ∀ (n : Nat) (rc : REnc), EOk rc →
    Emits (encodeFresh bit n rc) (freshRun (List.replicate n bit) rc).1
      (freshRun (List.replicate n bit) rc).2
  | 0, rc, _ => Emits.pure rc
  | n+1, _, he => (emits_encodeBit bit he probOk_init).bind
      (emits_encodeFresh bit n _ (stepBit_ok bit he probOk_init))

theorem finish_marker_eq (d : DumbEnc) (inputLen : Nat) (hopt : d.opt = .writeToHeader none) :
    d.finish inputLen =
      (liftE (arrGet d.isMatch (inputLen &&& 3)) >>= fun p => d.rc.encodeBit p true >>= fun x =>
          x.1.encodeBit 0x400 false >>= fun y => encodeFresh false 4 y.1 >>= fun rc =>
          encodeFresh true 6 rc >>= fun rc => encodeFresh true 30 rc >>= fun rc =>
        rc.finish >>= fun _ => pure ()) := by
  obtain ⟨rc, lp, im, opt⟩ := d
  simp only at hopt
  subst hopt
  rfl

theorem finish_nomarker_eq (d : DumbEnc) (inputLen : Nat) (hopt : d.opt ≠ .writeToHeader none) :
    d.finish inputLen = (d.rc.finish >>= fun _ => pure ()) := by
  obtain ⟨rc, lp, im, opt⟩ := d
  simp only at hopt
  cases opt with
  | skipWritingToHeader => rfl
  | writeToHeader x =>
    cases x with
    | none => exact absurd rfl hopt
    | some n => rfl

theorem emits_finish_marker (d : DumbEnc) (inputLen v : Nat) (hopt : d.opt = .writeToHeader none)
    (hg : arrGet d.isMatch (inputLen &&& 3) = .ok v) (hv : ProbOk v) (he : EOk d.rc) :
    Emits (d.finish inputLen) () ((stepBit d.rc v true).2 ++
      (freshRun markerBits (stepBit d.rc v true).1).2 ++
      (fin (freshRun markerBits (stepBit d.rc v true).1).1).2) := by
  have e0 := stepBit_ok true he hv
  have e1 := stepBit_ok false e0 probOk_init
  have e2 := freshRun_ok (List.replicate 4 false) _ e1
  have e3 := freshRun_ok (List.replicate 6 true) _ e2
  have e4 := freshRun_ok (List.replicate 30 true) _ e3
  rw [finish_marker_eq d inputLen hopt, hg, liftE_ok_bind]
  apply Emits.mono
  case h =>
    -- `(· :)`: the states come from `e0 … e4`, not from the continuation applied to a pair
    exact Emits.bind (emits_encodeBit true he hv) (Emits.bind (emits_encodeBit false e0 probOk_init :)
      (Emits.bind (emits_encodeFresh false 4 _ e1 :) (Emits.bind (emits_encodeFresh true 6 _ e2 :)
      (Emits.bind (emits_encodeFresh true 30 _ e3 :) (Emits.bind (emits_finish e4 :) (Emits.pure ()))))))
  rw [markerBits, (freshRun_cons _ _ _).1, (freshRun_cons _ _ _).2,
    (freshRun_append _ _ _).1, (freshRun_append _ _ _).2, (freshRun_append _ _ _).1,
    (freshRun_append _ _ _).2, List.append_nil]
  simp only [List.append_assoc]

theorem processLoop_succ (fuel outLen inputLen prev : Nat) (e : DumbEnc) (rd : ERd) :
    processLoop (fuel + 1) outLen inputLen prev e rd =
      (liftE (rd.read 1) >>= fun x => match x.1 with
        | [] => pure (e, inputLen)
        | byte :: _ =>
          liftE (arrGet e.isMatch (outLen &&& 3)) >>= fun p =>
          e.rc.encodeBit p false >>= fun y =>
          ({ e with rc := y.1, isMatch := e.isMatch.setIfInBounds (outLen &&& 3) y.2 } : DumbEnc).encodeLiteral
            byte.toNat prev >>= fun e' =>
          processLoop fuel (outLen + 1) outLen byte.toNat e' x.2) := by
  rfl

/-- the reference encoder state that corresponds to the Rust encoder `d` after `outLen`
literals, the last of which was `prev` -/
structure Rel (d : DumbEnc) (s : EncSt) (outLen prev : Nat) : Prop where
  props : s.props = ⟨3, 0, 2⟩
  probs : s.probs = d.toProbs
  state : s.spec.state = 0
  size : s.spec.hist.size = outLen
  prev : prev = if outLen = 0 then 0 else (s.spec.hist[outLen - 1]?.getD 0).toNat

theorem Rel.fresh (opt : EncSizeOpt) : Rel { opt := opt } (EncSt.new ⟨3, 0, 2⟩) 0 0 :=
  ⟨rfl, by rw [toProbs_fresh]; rfl, rfl, rfl, rfl⟩

theorem Rel.prev_lt {d : DumbEnc} {s : EncSt} {outLen prev : Nat} (h : Rel d s outLen prev) :
    prev < 256 := by
  rw [h.prev]; split
  · decide
  · exact UInt8.toNat_lt _

theorem Rel.ctx {d : DumbEnc} {s : EncSt} {outLen prev : Nat} (h : Rel d s outLen prev) :
    (ctxOf s.props s.spec).state = 0 ∧ (ctxOf s.props s.spec).posState = outLen &&& 3 ∧
      (ctxOf s.props s.spec).litRow = prev >>> 5 := by
  obtain ⟨h1, h2, h3, h4, h5⟩ := h
  refine ⟨h3, ?_, ?_⟩
  · simp [ctxOf, EncSt.ctx, h1, h4]
  · simp [ctxOf, EncSt.ctx, h1, h4, h5]

theorem Rel.litEvents {d : DumbEnc} {s : EncSt} {outLen prev : Nat} (h : Rel d s outLen prev) (b : UInt8) :
    rawSymEvents (ctxOf s.props s.spec) (Sym.toRaw (.lit b)) =
      .pbit (.isMatch (outLen &&& 3)) false :: litPlainEv (prev >>> 5) b.toNat 8 1 := by
  obtain ⟨c1, c2, c3⟩ := h.ctx
  simp [Sym.toRaw, rawSymEvents, c1, c2, c3]

theorem and3_lt (n : Nat) : n &&& 3 < 4 := by
  have : n &&& 3 = n % 4 := Nat.and_two_pow_sub_one_eq_mod n 2
  omega

/-- the literal loop: both encoders append the same bytes for the whole input
and end in corresponding states (the reference encoder in continuation form) -/
theorem processLoop_sim (dict : Nat) :
    ∀ (data : Bytes) (fuel outLen inputLen prev : Nat) (d : DumbEnc) (fr : List Nat) (s : EncSt),
      data.length < fuel → inputLen = outLen - 1 → d.WF → Rel d s outLen prev →
      ∃ d' bs s' il prev', d'.WF ∧ d'.opt = d.opt ∧
        Emits (processLoop fuel outLen inputLen prev d { rem := data, bad := false, frags := fr })
          (d', il) bs ∧
        (∀ tail r bs', Emits (encodeProg dict tail s' d'.rc) r bs' →
          Emits (encodeProg dict (data.map Sym.lit ++ tail) s d.rc) r (bs ++ bs')) ∧
        Rel d' s' (outLen + data.length) prev' ∧
        (data = [] → d' = d) ∧ il = outLen + data.length - 1
  | [], fuel, outLen, inputLen, prev, d, fr, s, hf, hi, hd, hr => by
    obtain ⟨fuel, rfl⟩ : ∃ k, fuel = k + 1 := ⟨fuel - 1, by simp at hf; omega⟩
    refine ⟨d, [], s, inputLen, prev, hd, rfl, ?_, fun _ _ _ h => h, hr, fun _ => rfl, hi⟩
    rw [processLoop_succ, erd_read_nil, liftE_ok_bind]
    exact Emits.pure _
  | b :: data, fuel, outLen, inputLen, prev, d, fr, s, hf, _, hd, hr => by
    obtain ⟨fuel, rfl⟩ : ∃ k, fuel = k + 1 := ⟨fuel - 1, by simp at hf; omega⟩
    obtain ⟨fr', hread⟩ := erd_read_cons b data fr
    have hps := and3_lt outLen
    obtain ⟨v, hgD, hgR⟩ := toProbs_get_isMatch d hd (outLen &&& 3) hps
    -- the symbol: the `is_match` bit, then the literal's eight bits
    obtain ⟨d2, bs2, hd2, hopt2, h1, hsym⟩ : Follows d (d.rc.encodeBit v false >>= fun y =>
        ({ d with rc := y.1, isMatch := d.isMatch.setIfInBounds (outLen &&& 3) y.2 } : DumbEnc).encodeLiteral
          b.toNat prev) (rawSymEvents (ctxOf s.props s.spec) (Sym.toRaw (.lit b))) := by
      rw [hr.litEvents b]
      exact Follows.bit hd hgR (toProbs_setIsMatch d _ _ _ (by rw [hd.im]; exact hps)) rfl rfl
        (by simp) rfl fun hd1 => encodeLiteralLoop_sim (prev >>> 5) b.toNat
          (by have := hr.prev_lt; rw [Nat.shiftRight_eq_div_pow]; omega) 8 1 _ (by omega) (by decide) hd1
    rw [← hr.probs] at hsym
    have hr2 : Rel d2
        { s with
          probs := d2.toProbs,
          spec := { s.spec with hist := s.spec.hist.push b, state := SpecSt.litState s.spec.state } }
        (outLen + 1) b.toNat :=
      ⟨hr.props, rfl, by simp [hr.state, SpecSt.litState], by simp [hr.size], by
        have : (s.spec.hist.push b)[outLen]? = some b := by
          rw [← hr.size]; simp
        simp [this]⟩
    obtain ⟨d', bs, s', il, prev', hd', hopt', h3, heq', hr', _, hil⟩ :=
      processLoop_sim dict data fuel (outLen + 1) outLen b.toNat d2 fr' _
        (by simp at hf; omega) rfl hd2 hr2
    refine ⟨d', bs2 ++ bs, s', il, prev', hd',
      by rw [hopt', hopt2], ?_, fun tail r bs' h => ?_, ?_, (fun h => by cases h), ?_⟩
    · rw [processLoop_succ, hread, liftE_ok_bind]
      simp only []
      rw [hgD, liftE_ok_bind, ← mBind_assoc]
      exact h1.bind h3
    · rw [List.map_cons, List.cons_append, encodeProg_cons, List.append_assoc]
      exact hsym.bind (heq' tail r bs' h)
    · have : outLen + (b :: data).length = outLen + 1 + data.length := by simp; omega
      rw [this]; exact hr'
    · rw [hil, List.length_cons]; omega

theorem emits_encodeProg_nil (dict : Nat) (s : EncSt) (e : REnc) :
    Emits (encodeProg dict [] s e) (s, e) [] := Emits.pure (s, e)

/-- a one-symbol program, from the run on its events (about variables: with the marker's concrete
coder state in place of `e'` the kernel would unfold it when it meets `(p', e').2`) -/
theorem emits_encodeProg_single {dict : Nat} {sym : Sym} {s : EncSt} {e e' : REnc} {p' : Probs}
    {bs : Bytes}
    (h : Emits (encodeEvents (rawSymEvents (ctxOf s.props s.spec) sym.toRaw) s.probs e) (p', e') bs) :
    ∃ s', Emits (encodeProg dict [sym] s e) (s', e') bs :=
  ⟨_, by rw [encodeProg_cons, ← List.append_nil bs]; exact h.bind (emits_encodeProg_nil _ _ _)⟩

theorem encodeProg_eos (dict : Nat) (d : DumbEnc) (s : EncSt) (outLen prev v : Nat) (hd : d.WF)
    (hr : Rel d s outLen prev) (hg : d.toProbs.get (.isMatch (outLen &&& 3)) = .ok v) :
    ∃ s', Emits (encodeProg dict [.eos] s d.rc) (s', (freshRun markerBits (stepBit d.rc v true).1).1)
      ((stepBit d.rc v true).2 ++ (freshRun markerBits (stepBit d.rc v true).1).2) := by
  have hv : ProbOk v := hd.probs _ _ hg
  obtain ⟨c1, c2, _⟩ := hr.ctx
  have e1 := stepBit_ok true hd.rc hv
  obtain ⟨p2, h2⟩ := encodeEvents_fresh (markerTail (outLen &&& 3)) _ _
    (markerTail_fresh d (outLen &&& 3) (updP v true) (outLen &&& 3) (and3_lt outLen)) e1
  rw [marker_eq _ _ e1] at h2
  exact emits_encodeProg_single (by
    rw [rawSymEvents_eos _ c1, c2, hr.probs]; exact emits_pbit hd.rc hg hv h2)

def hdrSize : EncSizeOpt → Option Nat
  | .writeToHeader none => some 0xFFFFFFFFFFFFFFFF
  | .writeToHeader (some n) => some n
  | .skipWritingToHeader => none

/-- `Encoder::from_stream` writes the `.lzma` header for `lc = 3, lp = 0, pb = 2`,
dictionary size `0x00800000` -/
theorem emits_fromStream (opt : EncSizeOpt) :
    Emits (fromStream opt) { opt := opt } (lzmaHeader ⟨3, 0, 2⟩ 0x00800000 (hdrSize opt)) := by
  have e : fromStream opt = (writeBytes [UInt8.ofNat (3 + 9 * (0 + 5 * 2))] >>= fun _ =>
      writeBytes (leBytes 4 0x00800000) >>= fun _ =>
      writeBytes (match hdrSize opt with
        | some n => leBytes 8 n
        | none => []) >>= fun _ => pure { opt := opt }) := by
    rcases opt with ⟨_ | n⟩ | _ <;> rfl
  rw [e]
  exact ((emits_writeBytes _).bind ((emits_writeBytes _).bind ((emits_writeBytes _).bind
    (Emits.pure (⟨{}, _, _, opt⟩ : DumbEnc))))).mono
    (by simp only [lzmaHeader]; cases hdrSize opt <;> simp)

theorem encodeSyms_of_emits {props : Props} {dict : Nat} {prog : List Sym} {s : EncSt} {e : REnc}
    {bs : Bytes} (h : Emits (encodeProg dict prog (EncSt.new props) {}) (s, e) bs) (he : EOk e) :
    encodeSyms props dict prog = bs ++ (fin e).2 := by
  have h2 : Emits (encodeProg dict prog (EncSt.new props) {} >>= fun x => x.2.finish >>= fun _ =>
      (pure () : M Unit)) () (bs ++ ((fin e).2 ++ [])) := h.bind ((emits_finish he).bind (Emits.pure ()))
  obtain ⟨snk, hrun, -, hout⟩ := h2 {} rfl
  unfold encodeSyms
  simp only []
  rw [show (do let (_, e) ← encodeProg dict prog (EncSt.new props) {}; let _ ← e.finish; pure ()) =
    (encodeProg dict prog (EncSt.new props) {} >>= fun x => x.2.finish >>= fun _ => pure ()) from rfl,
    hrun, hout]
  simp

/-- `Encoder::process` on an all-accepting sink appends exactly the reference encoding of
"all bytes as literals (+ end marker)" -/
theorem process_sim (dict : Nat) (data : Bytes) (fr : List Nat) (opt : EncSizeOpt) :
    Emits (({ opt := opt } : DumbEnc).process { rem := data, frags := fr }) ()
      (encodeSyms ⟨3, 0, 2⟩ dict
        (data.map Sym.lit ++ (if opt = .writeToHeader none then [.eos] else []))) := by
  obtain ⟨d', bs, s', il, prev', hd', hopt', h1, heq, hr', hnil, hil⟩ :=
    processLoop_sim dict data (data.length + 1) 0 0 0 { opt := opt } fr (EncSt.new ⟨3, 0, 2⟩)
      (by omega) rfl (wf_fresh opt) (Rel.fresh opt)
  simp only [Nat.zero_add] at hr' hil
  have hfin : ∀ tail : Bytes, Emits (d'.finish (il + 1)) () tail →
      Emits (({ opt := opt } : DumbEnc).process { rem := data, frags := fr }) () (bs ++ tail) :=
    fun _ h => h1.bind h
  by_cases hm : opt = .writeToHeader none
  · -- the `is_match` probability the Rust encoder uses: same value as the format's
    have hv : ∃ v, arrGet d'.isMatch ((il + 1) &&& 3) = .ok v ∧
        d'.toProbs.get (.isMatch (data.length &&& 3)) = .ok v := by
      by_cases hdn : data = []
      · -- empty input: index 1 instead of 0, both cells still hold `0x400`
        rw [hnil hdn, hdn]
        exact ⟨0x400, by rw [hil, hdn]; simp [arrGet],
          by rw [toProbs_fresh]; simp [Probs.get, Probs.init, arrGet]⟩
      · have hlen : 0 < data.length := List.length_pos_iff.mpr hdn
        have : il + 1 = data.length := by omega
        rw [this]
        exact toProbs_get_isMatch d' hd' _ (and3_lt _)
    obtain ⟨v, hgD, hgR⟩ := hv
    have hpv : ProbOk v := hd'.probs _ _ hgR
    obtain ⟨s2, h3⟩ := encodeProg_eos dict d' s' data.length prev' v hd' hr' hgR
    rw [if_pos hm, encodeSyms_of_emits (heq _ _ _ h3)
      (freshRun_ok markerBits _ (stepBit_ok true hd'.rc hpv)), List.append_assoc]
    exact hfin _ (emits_finish_marker d' (il + 1) v (by rw [hopt', hm]) hgD hpv hd'.rc)
  · rw [if_neg hm, encodeSyms_of_emits (heq [] _ _ (emits_encodeProg_nil _ _ _)) hd'.rc, List.append_nil]
    refine hfin _ ?_
    rw [finish_nomarker_eq d' _ (by rw [hopt']; exact hm), ← List.append_nil (fin d'.rc).2]
    exact (emits_finish hd'.rc).bind (Emits.pure ())

end DumbEnc

end Lzma
