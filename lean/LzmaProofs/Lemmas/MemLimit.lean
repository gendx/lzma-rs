/-
  Lifting the memory-limit theorems of the circular window (C10) to the symbol decoder
  (`applySym`, `processNext`, `processLoop`, `processMode`, both modes), to
  `LzmaDecoder.decompress`, `lzmaDecompress` and to the streaming decoder (`Stream.write`,
  `feed`, `finish`, whole sessions `Stream.runStream`).

  Method.  The symbol decoder observes the window only through `len`, `lastOr`, `lastN` — none of
  which reads the `memlimit` field — and through the success/failure of `appendLiteral`/`appendLz`.
  A REFERENCE run uses a "roomy" window `W` (`dictSize ≤ memlimit`: it can never hit its limit);
  the LIMITED run uses `W.withLimit m`, the same window with limit `m`.  `LimRel` says how the
  limited run is determined by the reference run:
    * reference `ok`, final allocation `buf.size = min dictSize produced ≤ m`
        ⇒ limited run: identical result (same sink, same state, window `withLimit m`);
    * reference `ok`, final allocation `> m` ⇒ limited run: `Err lzma`, its sink a prefix;
    * reference error ⇒ limited run: the identical error and sink, or `Err lzma` earlier
      (sink a prefix) — the latter only if `m < dictSize`.
  `LimRel.bind` needs the continuation to be monotone on the sink (`Mono`, `OM.*` of `Lemmas/Sink`),
  so that "a prefix of the reference sink" survives what the reference run does afterwards.
  `LimOut` is the same for a complete run ending in `finish`; `SRel` the same for calls on a `Stream`
  object (`Stream.Inv`, `Stream.need` = what the unlimited stream's window holds).
  Independently (any sink, any mode): `BufOK`/`BufOKS`, the allocation never exceeds the limit.
-/
import LzmaProofs.Lemmas.Window
import LzmaProofs.Lemmas.ProcessMode
import LzmaProofs.Lemmas.Sink
import LzmaProofs.Lemmas.Header
import LzmaProofs.Lemmas.StreamBasic
namespace Lzma

/-! ## the symbol decoder does not look at the limit -/

@[simp] theorem DState.mkCtx_withLimit (s : DState) (w : Circ) (m : Nat) :
    s.mkCtx (w.withLimit m) = s.mkCtx w := rfl

@[simp] theorem DState.stopTest_withLimit (mode : DState.Mode) (s : DState) (w : Circ) (m : Nat)
    (rc : RC) (rd : Rd) : DState.stopTest mode s (w.withLimit m) rc rd = DState.stopTest mode s w rc rd := rfl

@[simp] theorem DState.tryProcessNext_withLimit (s : DState) (w : Circ) (m : Nat) (buf : Bytes)
    (rc : RC) : s.tryProcessNext (w.withLimit m) buf rc = s.tryProcessNext w buf rc := rfl

theorem CircInv.eq_withLimit {w W : Circ} {H : Bytes} (h : CircInv w H) (hW : CircInv W H)
    (hd : w.dictSize = W.dictSize) : w = W.withLimit w.memlimit :=
  CircInv.ext h (hW.withLimit (by rw [← hd, ← h.size_eq]; exact h.size_le)) hd rfl

/-! ## the relation between the limited run and the reference run -/

/-- the limited run `L` stopped with `Err lzma` because of its limit `m < d`, having delivered a
prefix of what the reference run delivered (`snkR`) -/
def LimitHit (m d : Nat) (snkR : Sink) (L : Sink × Except Err α) : Prop :=
  m < d ∧ L.2 = .error .lzma ∧ APre L.1.out snkR.out

theorem LimitHit.map {m d : Nat} {snkR : Sink} {L : Sink × Except Err α} (g : α → β)
    (h : LimitHit m d snkR L) : LimitHit m d snkR (L.1, L.2.map g) :=
  ⟨h.1, by rw [h.2.1]; rfl, h.2.2⟩

theorem LimitHit.bind {m d : Nat} {snkR snk : Sink} {mL : M α} (f : α → M β)
    (h : LimitHit m d snkR (mL snk)) : LimitHit m d snkR ((mL >>= f) snk) := by
  rw [bind_run_error (Prod.ext rfl h.2.1 : mL snk = ((mL snk).1, .error .lzma))]
  exact ⟨h.1, rfl, h.2.2⟩

theorem LimitHit.sink {m d : Nat} {snkR snkR' : Sink} {L : Sink × Except Err α}
    (h : LimitHit m d snkR L) (hs : APre snkR.out snkR'.out) : LimitHit m d snkR' L :=
  ⟨h.1, h.2.1, h.2.2.trans hs⟩

/-- `LimRel m d M H snk win lim R L`: `R` is the result of a reference run that started on sink
`snk` with a roomy window (`dictSize = d ≤ memlimit = M`) representing `H`; `L` is the result of
the same computation on the window with limit `m`.  `win` extracts the window of a result,
`lim` replaces its limit by `m`. -/
structure LimRel (m d M : Nat) (H : Bytes) (snk : Sink) (win : α → Circ) (lim : α → α)
    (R L : Sink × Except Err α) : Prop where
  /-- the reference run keeps the window invariant, extends the history, and the sink received
  exactly the completed laps -/
  ref : ∀ a, R.2 = .ok a → ∃ H1, H <+: H1 ∧ CircInv (win a) H1 ∧ (win a).dictSize = d ∧
    (win a).memlimit = M ∧ R.1 = snk.after d H H1
  /-- either the limited run did the same (and the window it ends with, if any, fits), or it
  died of its limit (and the window the reference run ends with, if any, does not fit) -/
  verdict : min H.length d ≤ m →
    (L = (R.1, R.2.map lim) ∧ ∀ a, R.2 = .ok a → (win a).buf.size ≤ m) ∨
    (LimitHit m d R.1 L ∧ ∀ a, R.2 = .ok a → ¬ (win a).buf.size ≤ m)

section
variable {m d M : Nat} {H : Bytes} {snk : Sink} {win : α → Circ} {lim : α → α}
  {R L : Sink × Except Err α}

theorem LimRel.of_ref_error {s1 : Sink} {e : Err}
    (h : min H.length d ≤ m → L = (s1, .error e) ∨ LimitHit m d s1 L) :
    LimRel m d M H snk win lim (s1, .error e) L where
  ref := nofun
  verdict := fun hfit => (h hfit).imp (⟨·, nofun⟩) (⟨·, nofun⟩)

theorem LimRel.of_error (s1 : Sink) (e : Err) :
    LimRel m d M H snk win lim (s1, .error e) (s1, .error e) :=
  LimRel.of_ref_error fun _ => Or.inl rfl

theorem LimRel.ret (a : α) (h : CircInv (win a) H) (hd : (win a).dictSize = d)
    (hM : (win a).memlimit = M) : LimRel m d M H snk win lim (snk, .ok a) (snk, .ok (lim a)) where
  ref := by
    rintro b ⟨⟩
    exact ⟨H, List.prefix_refl H, h, hd, hM, (Sink.after_self snk d H).symm⟩
  verdict := fun hfit => Or.inl ⟨rfl, by rintro b ⟨⟩; rw [h.size_eq, hd]; exact hfit⟩

end

theorem LimRel.bind {mR mL : M α} {fR fL : α → M β} {win1 : α → Circ} {lim1 : α → α}
    {win2 : β → Circ} {lim2 : β → β} {m d M : Nat} {H : Bytes} {snk : Sink}
    (h1 : LimRel m d M H snk win1 lim1 (mR snk) (mL snk))
    (h2 : ∀ a H1, H <+: H1 → CircInv (win1 a) H1 → (win1 a).dictSize = d → (win1 a).memlimit = M →
      LimRel m d M H1 (snk.after d H H1) win2 lim2 (fR a (snk.after d H H1))
        (fL (lim1 a) (snk.after d H H1)))
    (hmono : ∀ a, Mono (fR a)) :
    LimRel m d M H snk win2 lim2 ((mR >>= fR) snk) ((mL >>= fL) snk) := by
  rcases hR : mR snk with ⟨s1, e | a⟩
  · rw [hR] at h1
    rw [bind_run_error hR]
    refine LimRel.of_ref_error fun hfit => ?_
    rcases h1.verdict hfit with ⟨hL, -⟩ | ⟨hh, -⟩
    · exact Or.inl (bind_run_error hL)
    · exact Or.inr (hh.bind fL)
  · rw [hR] at h1
    rw [bind_run_ok hR]
    obtain ⟨H1, hp, hi, hd, hM, rfl⟩ := h1.ref a rfl
    have h2' := h2 a H1 hp hi hd hM
    refine ⟨fun b hb => ?_, fun hfit => ?_⟩
    · obtain ⟨H2, hp2, hi2, hd2, hM2, hs2⟩ := h2'.ref b hb
      exact ⟨H2, hp.trans hp2, hi2, hd2, hM2, by rw [hs2, Sink.after_trans _ _ hp hp2]⟩
    · rcases h1.verdict hfit with ⟨hL, hf⟩ | ⟨hh, hn⟩
      · rw [bind_run_ok hL]
        exact h2'.verdict (by rw [← hd, ← hi.size_eq]; exact hf a rfl)
      · refine Or.inr ⟨(hh.bind fL).sink (hmono a _), fun b hb => ?_⟩
        -- the window only grows: it did not fit after the first part, it does not fit now
        obtain ⟨H2, hp2, hi2, hd2, -, -⟩ := h2'.ref b hb
        have h3 := hn a rfl
        have := hp2.length_le
        rw [hi.size_eq, hd] at h3
        rw [hi2.size_eq, hd2]
        omega

theorem LimRel.map {mR mL : M α} {gR gL : α → β} {win1 : α → Circ} {lim1 : α → α}
    {win2 : β → Circ} {lim2 : β → β} {m d M : Nat} {H : Bytes} {snk : Sink}
    (h1 : LimRel m d M H snk win1 lim1 (mR snk) (mL snk))
    (hw : ∀ a, win2 (gR a) = win1 a) (hl : ∀ a, lim2 (gR a) = gL (lim1 a)) :
    LimRel m d M H snk win2 lim2 ((mR >>= fun a => pure (gR a)) snk)
      ((mL >>= fun a => pure (gL a)) snk) := by
  refine LimRel.bind h1 ?_ (fun a => (OM.pure (gR a)).mono)
  intro a H1 _ hi hd hM
  rw [pure_run, pure_run, ← hl]
  exact LimRel.ret (gR a) (by rw [hw]; exact hi) (by rw [hw]; exact hd) (by rw [hw]; exact hM)

/-! ## whole runs: the symbol loop followed by `finish` -/

/-- `LimOut m d out0 H lim R L`: `R` is a complete reference run on a perfect sink whose `out` was
`out0` before the first byte of the history `H` was produced, `L` the same run under limit `m`.
If `R` succeeds it has delivered some `H1` extending `H`, and `L` is the same if
`min |H1| d ≤ m` and dies of its limit otherwise; an error of `R` is reproduced or pre-empted. -/
structure LimOut (m d : Nat) (out0 : Array UInt8) (H : Bytes) (lim : α → α)
    (R L : Sink × Except Err α) : Prop where
  ok : ∀ snk' a, R = (snk', .ok a) → ∃ H1 : Bytes, H <+: H1 ∧ snk'.out = out0 ++ H1.toArray ∧
    snk'.Perfect ∧ (min H1.length d ≤ m → L = (snk', .ok (lim a))) ∧
    (¬ min H1.length d ≤ m → LimitHit m d snk' L)
  err : ∀ snk' e, R = (snk', .error e) → L = (snk', .error e) ∨ LimitHit m d snk' L

theorem LimOut.of_error {m d : Nat} {out0 : Array UInt8} {H : Bytes} {lim : α → α} (s : Sink)
    (e : Err) : LimOut m d out0 H lim (s, .error e) (s, .error e) :=
  ⟨fun _ _ h => (nomatch h), fun _ _ h => Or.inl h⟩

theorem LimOut.map {m d : Nat} {out0 : Array UInt8} {H : Bytes} {lim : α → α} {lim' : β → β}
    {R L : Sink × Except Err α} (g : α → β) (hl : ∀ a, lim' (g a) = g (lim a))
    (h : LimOut m d out0 H lim R L) :
    LimOut m d out0 H lim' (R.1, R.2.map g) (L.1, L.2.map g) := by
  obtain ⟨s, e | a⟩ := R
  · refine ⟨fun _ _ h => (nomatch h), fun snk' e' h' => ?_⟩
    cases h'
    exact (h.err s e rfl).imp (fun hL => by rw [hL]; rfl) (LimitHit.map g)
  · refine ⟨fun snk' b h' => ?_, fun _ _ h => (nomatch h)⟩
    cases h'
    obtain ⟨H1, hp, ho, hpf, hsame, hhit⟩ := h.ok s a rfl
    exact ⟨H1, hp, ho, hpf, fun hle => by rw [hsame hle, hl]; rfl, fun hn => (hhit hn).map g⟩

theorem bind_pure_unit (x : M Unit) (s : Sink) : (x >>= fun _ => pure ()) s = x s := by
  rw [bind_run]
  rcases x s with ⟨s', e | ⟨⟩⟩ <;> rfl

/-- a computation related by `LimRel`, followed by `finish` on the window it produced (and a
result computed from its value) -/
theorem LimRel.finish {mR mL : M α} {fR fL : α → M β} {g : α → β} {lim' : β → β} {win : α → Circ}
    {lim : α → α} {m d M : Nat} {H : Bytes} {base snk : Sink}
    (hrel : LimRel m d M H snk win lim (mR snk) (mL snk))
    (hfR : ∀ a s, fR a s = ((win a).finish >>= fun _ => pure (g a)) s)
    (hfL : ∀ a s, fL (lim a) s = ((win a).finish >>= fun _ => pure (lim' (g a))) s)
    (hfit : min H.length d ≤ m) (hbase : base.Perfect) (hsnk : snk = base.after d [] H) :
    LimOut m d base.out H lim' ((mR >>= fR) snk) ((mL >>= fL) snk) := by
  rcases hR : mR snk with ⟨s1, e | a⟩
  · rw [hR] at hrel
    rw [bind_run_error hR]
    refine ⟨fun _ _ h => (nomatch h), fun snk' e' h => ?_⟩
    cases h
    exact (hrel.verdict hfit).imp (fun h => bind_run_error h.1) (·.1.bind fL)
  · rw [hR] at hrel
    rw [bind_run_ok hR, hfR]
    obtain ⟨H1, hp, hi, hd1, -, hs1⟩ := hrel.ref a rfl
    have hs1' : s1 = base.after d [] H1 := by
      rw [show s1 = _ from hs1, hsnk, Sink.after_trans _ _ List.nil_prefix hp]
    obtain ⟨s', hfin, hs'p, hs'o, -⟩ := Circ.finish_spec (s0 := base) (s := s1) hi
      (by rw [hs1']; exact Sink.after_perfect hbase) (by rw [hs1', hd1]; simp [Sink.after, flushedLen])
    have hsz : (win a).buf.size = min H1.length d := by rw [hi.size_eq, hd1]
    have hmono : APre s1.out s'.out := by
      have := (OM.circ_finish (win a)).mono s1
      rwa [hfin] at this
    rw [bind_run_ok hfin]
    refine ⟨fun snk' b h => ?_, fun _ _ h => (nomatch h)⟩
    cases h
    rcases hrel.verdict hfit with ⟨hL, hf⟩ | ⟨hh, hn⟩
    · refine ⟨H1, hp, hs'o, hs'p, fun _ => ?_, fun hnle => absurd (hsz ▸ hf a rfl) hnle⟩
      rw [bind_run_ok hL, hfL, bind_run_ok hfin]; rfl
    · exact ⟨H1, hp, hs'o, hs'p, fun hle => absurd (hsz ▸ hle) (hn a rfl),
        fun _ => (hh.bind fL).sink hmono⟩

/-! ## one window operation under two limits -/

theorem Circ.runOp_lim {W : Circ} {H : Bytes} {snk : Sink} {d M : Nat} (m : Nat) (op : WinOp)
    (h : CircInv W H) (hs : snk.Perfect) (hv : op.Valid) (hd : W.dictSize = d)
    (hM : W.memlimit = M) (hdM : d ≤ M) :
    LimRel m d M H snk id (fun w => w.withLimit m) (Circ.runOp op W snk)
      (Circ.runOp op (W.withLimit m) snk) := by
  have hR := Circ.runOp_spec (s := snk) op h hs hv
  have hL : min H.length d ≤ m →
      if op.InWindow d H ∧ min (H.length + op.outLen) d ≤ m then
        ∃ w', Circ.runOp op (W.withLimit m) snk = (snk.after d H (H ++ op.out H), .ok w') ∧
          CircInv w' (H ++ op.out H) ∧ w'.dictSize = d ∧ w'.memlimit = m
      else Circ.runOp op (W.withLimit m) snk = (snk, .error .lzma) := fun hfit => by
    have := Circ.runOp_spec (s := snk) op (h.withLimit (m := m) (by rw [hd]; exact hfit)) hs hv
    rwa [Circ.withLimit_dictSize, Circ.withLimit_memlimit, hd] at this
  rw [hd, hM] at hR
  by_cases hin : op.InWindow d H
  · -- accepted by the reference window
    rw [if_pos ⟨hin, by omega⟩] at hR
    obtain ⟨W1, hR, hi1, hd1, hM1⟩ := hR
    rw [hR]
    have hsz1 : W1.buf.size = min (H.length + op.outLen) d := by
      rw [hi1.size_eq, hd1, List.length_append, WinOp.length_out]
    refine ⟨by rintro a ⟨⟩; exact ⟨_, List.prefix_append _ _, hi1, hd1, hM1, rfl⟩, fun hfit => ?_⟩
    have := hL hfit
    by_cases hle : W1.buf.size ≤ m
    · rw [if_pos ⟨hin, hsz1 ▸ hle⟩] at this
      obtain ⟨w1, hRL, hiL1, hdL1, hML1⟩ := this
      refine Or.inl ⟨?_, by rintro a ⟨⟩; exact hle⟩
      rw [hRL, CircInv.eq_withLimit hiL1 hi1 (by rw [hdL1, hd1]), hML1]; rfl
    · rw [if_neg fun hh => hle (hsz1 ▸ hh.2)] at this
      have hd' : W1.buf.size ≤ d := by rw [hsz1]; exact Nat.min_le_right _ _
      refine Or.inr ⟨?_, by rintro a ⟨⟩; exact hle⟩
      rw [this]
      exact ⟨by omega, rfl, APre.append _ _⟩
  · -- rejected by the guard: same for both
    rw [if_neg fun hh => hin hh.1] at hR
    rw [hR]
    refine LimRel.of_ref_error fun hfit => ?_
    have := hL hfit
    rw [if_neg fun hh => hin hh.1] at this
    exact Or.inl this

/-! ## `applySym` -/

namespace DState

/-- every symbol is one window operation, except the end marker, which leaves the window alone -/
theorem applySym_lim {W : Circ} {H : Bytes} {snk : Sink} {d M : Nat} (m : Nat) (s : DState)
    (rc : RC) (rd : Rd) (sym : RawSym)
    (h : CircInv W H) (hs : snk.Perfect) (hd : W.dictSize = d) (hM : W.memlimit = M) (hdM : d ≤ M) :
    LimRel m d M H snk (fun a : Status × DState × Circ => a.2.2)
      (fun a => (a.1, a.2.1, a.2.2.withLimit m))
      (applySym s W rc rd sym snk) (applySym s (W.withLimit m) rc rd sym snk) := by
  have hop : ∀ (o : WinOp) (s' : DState), o.Valid →
      LimRel m d M H snk (fun a : Status × DState × Circ => a.2.2)
        (fun a => (a.1, a.2.1, a.2.2.withLimit m))
        ((Circ.runOp o W >>= fun w' => pure (Status.continue, s', w')) snk)
        ((Circ.runOp o (W.withLimit m) >>= fun w' => pure (Status.continue, s', w')) snk) :=
    fun o s' hv => LimRel.map (gR := fun w' => (Status.continue, s', w'))
      (Circ.runOp_lim m o h hs hv hd hM hdM) (fun _ => rfl) (fun _ => rfl)
  cases sym with
  | lit b => exact hop (.lit _) _ trivial
  | shortRep => exact hop (.lz _ _) _ (Nat.le_add_left 1 _)
  | rep idx len => exact hop (.lz _ _) _ (Nat.le_add_left 1 _)
  | mtch len r0 =>
    by_cases hr : r0 = 0xFFFFFFFF
    · subst hr
      rw [applySym_marker, applySym_marker]
      rcases rc.isFinishedOk rd with e | _ | _
      · exact LimRel.of_error snk e
      · exact LimRel.of_error snk .lzma
      · exact LimRel.ret (win := fun a : Status × DState × Circ => a.2.2) (_, _, W) h hd hM
    · simp only [applySym, if_neg hr]
      exact hop (.lz _ _) _ (Nat.le_add_left 1 _)

/-! ## `processNext` -/

theorem processNext_lim {W : Circ} {H : Bytes} {snk : Sink} {d M : Nat} (m : Nat) (s : DState)
    (rc : RC) (rd : Rd)
    (h : CircInv W H) (hs : snk.Perfect) (hd : W.dictSize = d) (hM : W.memlimit = M) (hdM : d ≤ M) :
    LimRel m d M H snk (fun a : Status × DState × Circ × RC × Rd => a.2.2.1)
      (fun a => (a.1, a.2.1, a.2.2.1.withLimit m, a.2.2.2))
      (processNext s W rc rd snk) (processNext s (W.withLimit m) rc rd snk) := by
  unfold processNext
  rw [mkCtx_withLimit]
  rcases runDec true (symTree (s.mkCtx W)) s.probs rc rd with e | ⟨sym, probs, rc1, rd1⟩
  · exact LimRel.of_error snk e
  · simp only [bind_run, liftE_ok]
    exact LimRel.map (gR := fun x : Status × DState × Circ => (x.1, x.2.1, x.2.2, rc1, rd1))
      (applySym_lim m { s with probs := probs } rc1 rd1 sym h hs hd hM hdM)
      (fun _ => rfl) (fun _ => rfl)

/-! ## the loop of `process_mode` -/

section
variable {ω : Type} [LzBuf ω]

theorem loopPost_mono [OMBuf ω] (mode : Mode) (fuel : Nat) (staged : Bool) (rd : Rd)
    (x : Status × DState × ω × RC × Rd) : Mono (loopPost mode fuel staged rd x) := by
  unfold loopPost
  simp only
  split
  · exact (OM.pure _).mono
  · exact (OM.processLoop _ _ _ _ _ _).mono

theorem processLoop_lim (mode : Mode) (m : Nat) : ∀ (fuel : Nat) {W : Circ} {H : Bytes} {snk : Sink}
    {d M : Nat} (s : DState) (rc : RC) (rd : Rd),
    CircInv W H → snk.Perfect → W.dictSize = d → W.memlimit = M → d ≤ M →
    LimRel m d M H snk (fun a : DState × Circ × RC × Rd => a.2.1)
      (fun a => (a.1, a.2.1.withLimit m, a.2.2))
      (processLoop mode fuel s W rc rd snk) (processLoop mode fuel s (W.withLimit m) rc rd snk) := by
  intro fuel
  induction fuel with
  | zero =>
    intro W H snk d M s rc rd _ _ _ _ _
    exact LimRel.of_error snk .fuel
  | succ fuel ih =>
    intro W H snk d M s rc rd h hs hd hM hdM
    rw [processLoop_succ_eq, processLoop_succ_eq]
    simp only [stopTest_withLimit, tryProcessNext_withLimit]
    rcases loopPre mode s (stopTest mode s W rc rd) (fun s b => s.tryProcessNext W b rc) rd with
      e | ⟨s2, rd2⟩ | ⟨s2, rdN, staged, rd2⟩
    · exact LimRel.of_error snk e
    · exact LimRel.ret (win := fun a : DState × Circ × RC × Rd => a.2.1) (s2, W, rc, rd2) h hd hM
    · simp only
      refine LimRel.bind (processNext_lim m s2 rc rdN h hs hd hM hdM) ?_
        (fun a => loopPost_mono mode fuel staged rd2 a)
      intro a H1 hp hi hd1 hM1
      unfold loopPost
      simp only
      by_cases hf : a.1 = .finished
      · simp only [if_pos hf]
        exact LimRel.ret (win := fun a : DState × Circ × RC × Rd => a.2.1) _ hi hd1 hM1
      · simp only [if_neg hf]
        exact ih _ _ _ hi (Sink.after_perfect hs) hd1 hM1 hdM

end

/-! ## `process_mode` and the raw decoder -/

theorem processMode_lim (mode : Mode) (m : Nat) {W : Circ} {H : Bytes} {snk : Sink} {d M : Nat}
    (s : DState) (rc : RC) (rd : Rd)
    (h : CircInv W H) (hs : snk.Perfect) (hd : W.dictSize = d) (hM : W.memlimit = M) (hdM : d ≤ M) :
    LimRel m d M H snk (fun a : DState × Circ × RC × Rd => a.2.1)
      (fun a => (a.1, a.2.1.withLimit m, a.2.2))
      (processMode mode s W rc rd snk) (processMode mode s (W.withLimit m) rc rd snk) := by
  unfold processMode
  generalize loopFuel s rd = fuel
  refine LimRel.bind (processLoop_lim mode m fuel s rc rd h hs hd hM hdM) ?_ ?_
  · rintro ⟨s1, w1, rc1, rd1⟩ H1 hp hi hd1 hM1
    dsimp only at hi hd1 hM1 ⊢
    rcases s1.unpackedSize with _ | n
    · exact LimRel.ret (win := fun a : DState × Circ × RC × Rd => a.2.1) (s1, w1, rc1, rd1) hi hd1 hM1
    · dsimp only
      by_cases hc : mode = Mode.finish ∧ n ≠ LzBuf.len w1
      · have hc' : mode = Mode.finish ∧ n ≠ LzBuf.len (w1.withLimit m) := hc
        rw [if_pos hc, if_pos hc']
        exact LimRel.of_error _ .lzma
      · have hc' : ¬ (mode = Mode.finish ∧ n ≠ LzBuf.len (w1.withLimit m)) := hc
        rw [if_neg hc, if_neg hc']
        exact LimRel.ret (win := fun a : DState × Circ × RC × Rd => a.2.1) (s1, w1, rc1, rd1) hi hd1 hM1
  · rintro ⟨s1, w1, rc1, rd1⟩
    simp only
    split
    · split
      · exact (OM.throw _).mono
      · exact (OM.pure _).mono
    · exact (OM.pure _).mono

end DState

def LzmaDecoder.withLimit (dec : LzmaDecoder) (m : Nat) : LzmaDecoder := { dec with memlimit := m }

theorem LzmaDecoder.decompress_err_rc {dec : LzmaDecoder} {rd : Rd} {snk : Sink} {e : Err}
    (hrc : RC.new rd = .error e) : dec.decompress rd snk = (snk, .error .lzma) := by
  unfold LzmaDecoder.decompress
  rw [bind_run_error (s' := snk) (e := .lzma) (by rw [hrc]; rfl)]

theorem LzmaDecoder.decompress_err_pm {dec : LzmaDecoder} {rd rd1 : Rd} {snk s1 : Sink} {rc : RC}
    {e : Err} (hrc : RC.new rd = .ok (rc, rd1))
    (hpm : dec.state.processMode .finish (Circ.fromStream dec.params.dictSize dec.memlimit) rc rd1 snk =
      (s1, .error e)) : dec.decompress rd snk = (s1, .error e) := by
  unfold LzmaDecoder.decompress
  rw [bind_run_ok (s' := snk) (a := (rc, rd1)) (by rw [hrc]; rfl)]
  exact bind_run_error hpm

/-- `LzmaDecoder::decompress` under limit `m` against a roomy reference decoder
(`dictSize ≤ memlimit`), on a perfect sink -/
theorem LzmaDecoder.decompress_lim (dec : LzmaDecoder) (m : Nat) (rd : Rd) {snk : Sink}
    (hs : snk.Perfect) (hd : 0 < dec.params.dictSize) (hdM : dec.params.dictSize ≤ dec.memlimit) :
    LimOut m dec.params.dictSize snk.out [] (fun x => (x.1.withLimit m, x.2))
      (dec.decompress rd snk) ((dec.withLimit m).decompress rd snk) := by
  rcases hrc : RC.new rd with e | ⟨rc, rd1⟩
  · rw [LzmaDecoder.decompress_err_rc hrc, LzmaDecoder.decompress_err_rc hrc]
    exact LimOut.of_error _ _
  · unfold LzmaDecoder.decompress
    rw [bind_run_ok (s' := snk) (a := (rc, rd1)) (by rw [hrc]; rfl),
      bind_run_ok (s' := snk) (a := (rc, rd1)) (by rw [hrc]; rfl)]
    dsimp only
    have hrel := DState.processMode_lim .finish m dec.state rc rd1
      (Circ.fromStream_inv dec.memlimit hd) hs rfl rfl hdM
    rw [Circ.fromStream_withLimit] at hrel
    exact hrel.finish (g := fun a => (({ dec with state := a.1 } : LzmaDecoder), a.2.2.2))
      (fun _ _ => rfl) (fun _ _ => rfl) (by simp) hs (Sink.after_self _ _ _).symm

namespace DState

/-! ## the allocation never exceeds the limit (any sink, any mode) -/

def BufOK (m d : Nat) (w : Circ) : Prop := w.buf.size ≤ m ∧ w.memlimit = m ∧ w.dictSize = d

theorem BufOK.fromStream (d m : Nat) : BufOK m d (Circ.fromStream d m) := ⟨by simp [Circ.fromStream], rfl, rfl⟩

theorem BufOK.appendLiteral {m d : Nat} {w w' : Circ} {b : UInt8} {s s' : Sink}
    (h : w.appendLiteral b s = (s', .ok w')) (hi : BufOK m d w) : BufOK m d w' := by
  obtain ⟨h1, h2, h3⟩ := hi
  have := Circ.appendLiteral_size_le h (by omega)
  exact ⟨by omega, by omega, by omega⟩

theorem BufOK.appendLz {m d : Nat} {w w' : Circ} {l dist : Nat} {s s' : Sink}
    (h : w.appendLz l dist s = (s', .ok w')) (hi : BufOK m d w) : BufOK m d w' := by
  obtain ⟨h1, h2, h3⟩ := hi
  have := Circ.appendLz_size_le h (by omega)
  exact ⟨by omega, by omega, by omega⟩

theorem processNext_bufOK {m d : Nat} {s : DState} {w : Circ} {rc : RC} {rd : Rd} {snk snk' : Sink}
    {st : Status} {s' : DState} {w' : Circ} {rc' : RC} {rd' : Rd}
    (h : processNext s w rc rd snk = (snk', .ok (st, s', w', rc', rd'))) (hi : BufOK m d w) :
    BufOK m d w' :=
  let ⟨_, _, _, ha⟩ := processNext_ok_iff.1 h
  applySym_inv (I := fun w _ => BufOK m d w) (fun _ _ _ _ _ h => BufOK.appendLiteral h)
    (fun _ _ _ _ _ _ h => BufOK.appendLz h) ha hi

theorem FinishSteps.bufOK {m d : Nat} {c c' : Cfg Circ} {k : Nat} (h : FinishSteps c k c') :
    BufOK m d c.w → BufOK m d c'.w := by
  induction h with
  | refl c => exact id
  | step _ _ hn _ ih => exact fun hi => ih (processNext_bufOK hn hi)

theorem processMode_bufOK {mode : Mode} {m d : Nat} {s : DState} {w : Circ} {rc : RC}
    {rd : Rd} {snk snk' : Sink} {s' : DState} {w' : Circ} {rc' : RC} {rd' : Rd}
    (h : processMode mode s w rc rd snk = (snk', .ok (s', w', rc', rd'))) (hi : BufOK m d w) :
    BufOK m d w' :=
  processMode_inv (I := fun _ w _ => BufOK m d w) (fun _ h => h) processNext_bufOK h hi

end DState

/-! ## the one-shot decoder -/

theorem readHeader_memlimit (rd : Rd) (opts : Options) (ml : Option Nat) :
    readHeader rd { opts with memlimit := ml } = readHeader rd opts := rfl

theorem LzmaDecoder.new_memlimit (params : LzmaParams) (ml ml' : Option Nat) :
    LzmaDecoder.new params ml' =
      (LzmaDecoder.new params ml).map (·.withLimit (ml'.getD USIZE_MAX)) := by
  unfold LzmaDecoder.new
  by_cases h0 : params.dictSize = 0
  · simp [h0, bind, Except.bind, throw, throwThe, MonadExceptOf.throw, Except.map]
  · rcases DState.new params.props params.unpackedSize with e | st
    · simp [h0, bind, Except.bind, Except.map]
    · simp [h0, bind, Except.bind, Except.map, pure, Except.pure, LzmaDecoder.withLimit]

theorem lzmaDecompress_eq (rd : Rd) (opts : Options) (snk : Sink) :
    lzmaDecompress rd opts snk =
      match readHeader rd opts with
      | .error e => (snk, .error e)
      | .ok (params, rd1) =>
        match LzmaDecoder.new params opts.memlimit with
        | .error e => (snk, .error e)
        | .ok dec => ((dec.decompress rd1 snk).1, (dec.decompress rd1 snk).2.map (·.2)) := by
  unfold lzmaDecompress
  rcases readHeader rd opts with e | ⟨params, rd1⟩
  · exact bind_run_error (liftE_error e snk)
  · rw [bind_run_ok (liftE_ok (params, rd1) snk)]
    dsimp only
    rcases LzmaDecoder.new params opts.memlimit with e | dec
    · exact bind_run_error (liftE_error e snk)
    · rw [bind_run_ok (liftE_ok dec snk)]
      dsimp only
      rcases hdec : dec.decompress rd1 snk with ⟨s1, e | ⟨d', rd'⟩⟩
      · exact bind_run_error hdec
      · rw [bind_run_ok hdec]; rfl

/-- the dictionary size in effect for a `.lzma` header: the LE field of bytes 1..4, at least 4096 -/
def headerDict (rd : Rd) : Nat := max (leVal ((rd.rem.drop 1).take 4)) 4096

theorem headerDict_bounds (rd : Rd) : 4096 ≤ headerDict rd ∧ headerDict rd ≤ USIZE_MAX := by
  have h := leVal_lt ((rd.rem.drop 1).take 4)
  have hl : ((rd.rem.drop 1).take 4).length ≤ 4 := by simp; omega
  have : 256 ^ ((rd.rem.drop 1).take 4).length ≤ 256 ^ 4 := Nat.pow_le_pow_right (by decide) hl
  unfold headerDict USIZE_MAX U64
  omega

theorem readHeader_headerDict {rd rd1 : Rd} {opts : Options} {params : LzmaParams}
    (h : readHeader rd opts = .ok (params, rd1)) : params.dictSize = headerDict rd := by
  obtain ⟨b, rest, hr, -, -, rfl, -⟩ := readHeader_ok_iff.1 h
  simp [hdrParams, headerDict, hr]

/-- `lzma_decompress_with_options` with `memlimit = Some(m)` against `memlimit = None`, on a
perfect sink -/
theorem lzmaDecompress_lim (rd : Rd) (opts : Options) (m : Nat) {snk : Sink} (hs : snk.Perfect) :
    LimOut m (headerDict rd) snk.out [] id
      (lzmaDecompress rd { opts with memlimit := none } snk)
      (lzmaDecompress rd { opts with memlimit := some m } snk) := by
  rw [lzmaDecompress_eq rd { opts with memlimit := none },
    lzmaDecompress_eq rd { opts with memlimit := some m }, readHeader_memlimit rd opts none,
    readHeader_memlimit rd opts (some m)]
  rcases hh : readHeader rd opts with e | ⟨params, rd1⟩
  · exact LimOut.of_error _ _
  · dsimp only
    rw [LzmaDecoder.new_memlimit params none (some m)]
    rcases hn : LzmaDecoder.new params none with e | dec
    · exact LimOut.of_error _ _
    · obtain ⟨hp, hm, -⟩ := LzmaDecoder.new_ok hn
      have hdict : dec.params.dictSize = headerDict rd := by rw [hp]; exact readHeader_headerDict hh
      have hb := headerDict_bounds rd
      have := (LzmaDecoder.decompress_lim dec m rd1 hs (by omega)
        (by rw [hm, hdict]; exact hb.2)).map (lim' := id) (·.2) fun _ => rfl
      rwa [hdict] at this

/-! ## the streaming decoder -/

def RunState.withLimit (rs : RunState) (m : Nat) : RunState :=
  { rs with output := rs.output.withLimit m }

def StreamState.withLimit : StreamState → Nat → StreamState
  | .header, _ => .header
  | .data rs, m => .data (rs.withLimit m)

/-- the stream as it would be had it been created with `memlimit = Some(m)` -/
def Stream.withLimit (st : Stream) (m : Nat) : Stream :=
  { st with state := st.state.map (·.withLimit m), options := { st.options with memlimit := some m } }

namespace Stream

theorem newWithOptions_withLimit (opts : Options) (m : Nat) :
    (newWithOptions opts).withLimit m = newWithOptions { opts with memlimit := some m } := rfl

theorem failed_withLimit (st : Stream) (m : Nat) : st.failed.withLimit m = (st.withLimit m).failed := rfl

theorem readHeader_withLimit (rd : Rd) (opts : Options) (m : Nat) :
    readHeader rd { opts with memlimit := some m } =
      (readHeader rd opts).map fun x => (x.1.map (·.withLimit m), x.2) := by
  unfold readHeader
  rw [readHeader_memlimit]
  rcases Lzma.readHeader rd opts with e | ⟨params, rd'⟩
  · cases e <;> rfl
  · dsimp only
    rcases DState.new params.props params.unpackedSize with e | dec
    · rfl
    · dsimp only
      rcases RC.new rd' with e | ⟨rc, rd''⟩
      · rfl
      · rfl

theorem readHeader_some {rd rd'' : Rd} {opts : Options} {rs : RunState}
    (h : readHeader rd opts = .ok (some rs, rd'')) :
    ∃ d, rs.output = Circ.fromStream d (opts.memlimit.getD USIZE_MAX) ∧ 1 ≤ d ∧ d ≤ USIZE_MAX := by
  unfold readHeader at h
  rcases hh : Lzma.readHeader rd opts with e | ⟨params, rd'⟩
  · rw [hh] at h; cases e <;> cases h
  · rw [hh] at h
    dsimp only at h
    rcases hn : DState.new params.props params.unpackedSize with e | dec
    · rw [hn] at h; cases h
    · rw [hn] at h
      dsimp only at h
      rcases hr : RC.new rd' with e | ⟨rc, rd2⟩
      · rw [hr] at h; cases h
      · rw [hr] at h
        dsimp only at h
        cases h
        have hb := headerDict_bounds rd
        rw [← readHeader_headerDict hh] at hb
        exact ⟨params.dictSize, rfl, by omega, hb.2⟩

/-- `write` in the `Header` state: a pure function of the stream and the data -/
def hdrWrite (st : Stream) (data : Bytes) : Except Err (Stream × Nat) :=
  if st.tmp.length > 0 then
    match readHeader (Rd.ofBytes (st.tmp ++ data.take (min data.length (MAX_TMP_LEN - st.tmp.length))))
        st.options with
    | .error e => .error e
    | .ok (some rs, rd') =>
      .ok ({ st with tmp := rd'.rem, state := some (.data rs) },
        min data.length (MAX_TMP_LEN - st.tmp.length))
    | .ok (none, _) =>
      .ok ({ st with tmp := st.tmp ++ data.take (min data.length (MAX_TMP_LEN - st.tmp.length)),
                     state := some .header },
        min data.length (MAX_TMP_LEN - st.tmp.length))
  else
    match readHeader (Rd.ofBytes data) st.options with
    | .error e => .error e
    | .ok (some rs, rd') => .ok ({ st with state := some (.data rs) }, data.length - rd'.rem.length)
    | .ok (none, _) =>
      .ok ({ st with tmp := data.take (min data.length MAX_TMP_LEN), state := some .header },
        min data.length MAX_TMP_LEN)

theorem write_header_eq (st : Stream) (data : Bytes) (snk : Sink) (h : st.state = some .header) :
    st.write data snk = (snk, hdrWrite st data) := by
  unfold write hdrWrite
  rw [h]
  dsimp only
  by_cases hh : st.tmp.length > 0
  · simp only [hh, ↓reduceIte]
    split <;> (rename_i heq; simp only [heq])
  · simp only [hh, ↓reduceIte]
    split <;> (rename_i heq; simp only [heq])

theorem hdrWrite_withLimit (st : Stream) (data : Bytes) (m : Nat) :
    hdrWrite (st.withLimit m) data =
      (hdrWrite st data).map fun x => (x.1.withLimit m, x.2) := by
  unfold hdrWrite
  have ht : (st.withLimit m).tmp = st.tmp := rfl
  have ho : (st.withLimit m).options = { st.options with memlimit := some m } := rfl
  rw [ht, ho]
  by_cases hh : st.tmp.length > 0
  · simp only [hh, ↓reduceIte, readHeader_withLimit]
    rcases readHeader (Rd.ofBytes (st.tmp ++ data.take (min data.length (MAX_TMP_LEN - st.tmp.length))))
        st.options with e | ⟨_ | rs, rd'⟩ <;> rfl
  · simp only [hh, ↓reduceIte, readHeader_withLimit]
    rcases readHeader (Rd.ofBytes data) st.options with e | ⟨_ | rs, rd'⟩ <;> rfl

theorem hdrWrite_ok {st st' : Stream} {data : Bytes} {k : Nat} (h : hdrWrite st data = .ok (st', k)) :
    st'.options = st.options ∧
      (st'.state = some .header ∨
        ∃ rs d, st'.state = some (.data rs) ∧
          rs.output = Circ.fromStream d (st.options.memlimit.getD USIZE_MAX) ∧ 1 ≤ d ∧ d ≤ USIZE_MAX) := by
  unfold hdrWrite at h
  split at h
  · split at h
    · cases h
    · rename_i rs rd' hr
      cases h
      obtain ⟨d, h1, h2, h3⟩ := readHeader_some hr
      exact ⟨rfl, Or.inr ⟨rs, d, rfl, h1, h2, h3⟩⟩
    · cases h; exact ⟨rfl, Or.inl rfl⟩
  · split at h
    · cases h
    · rename_i rs rd' hr
      cases h
      obtain ⟨d, h1, h2, h3⟩ := readHeader_some hr
      exact ⟨rfl, Or.inr ⟨rs, d, rfl, h1, h2, h3⟩⟩
    · cases h; exact ⟨rfl, Or.inl rfl⟩

/-- the window of a stream in the `Data` state (a junk default otherwise) -/
def winD (st : Stream) : Circ :=
  match st.state with
  | some (.data rs) => rs.output
  | _ => default

theorem readData_lim {rs : RunState} {H : Bytes} {snk : Sink} {d M : Nat} (m : Nat) (rd : Rd)
    (h : CircInv rs.output H) (hs : snk.Perfect) (hd : rs.output.dictSize = d)
    (hM : rs.output.memlimit = M) (hdM : d ≤ M) :
    LimRel m d M H snk (fun a : RunState × Rd => a.1.output) (fun a => (a.1.withLimit m, a.2))
      (readData rs rd snk) (readData (rs.withLimit m) rd snk) := by
  unfold readData
  exact LimRel.map
    (gR := fun x : DState × Circ × RC × Rd =>
      (({ decoder := x.1, range := x.2.2.1.range, code := x.2.2.1.code, output := x.2.1 } : RunState),
        x.2.2.2))
    (DState.processMode_lim .stream m rs.decoder { range := rs.range, code := rs.code } rd h hs hd hM hdM)
    (fun _ => rfl) (fun _ => rfl)

theorem tmpRun_lim {st : Stream} {rs : RunState} {H : Bytes} {snk : Sink} {d M : Nat} (m : Nat)
    (h : CircInv rs.output H) (hs : snk.Perfect) (hd : rs.output.dictSize = d)
    (hM : rs.output.memlimit = M) (hdM : d ≤ M) :
    LimRel m d M H snk (fun a : RunState => a.output) (fun a => a.withLimit m)
      (tmpRun st rs snk) (tmpRun (st.withLimit m) (rs.withLimit m) snk) := by
  unfold tmpRun
  rw [show (st.withLimit m).tmp = st.tmp from rfl]
  split
  · exact LimRel.map (gR := fun x : RunState × Rd => x.1)
      (readData_lim m (Rd.ofBytes st.tmp) h hs hd hM hdM) (fun _ => rfl) (fun _ => rfl)
  · exact LimRel.ret rs h hd hM

theorem write_data_lim {st : Stream} {rs : RunState} {H : Bytes} {snk : Sink} {d M : Nat} (m : Nat)
    (data : Bytes) (hst : st.state = some (.data rs))
    (h : CircInv rs.output H) (hs : snk.Perfect) (hd : rs.output.dictSize = d)
    (hM : rs.output.memlimit = M) (hdM : d ≤ M) :
    LimRel m d M H snk (fun a : Stream × Nat => a.1.winD) (fun a => (a.1.withLimit m, a.2))
      (st.write data snk) ((st.withLimit m).write data snk) := by
  have hstL : (st.withLimit m).state = some (.data (rs.withLimit m)) := by
    simp only [Stream.withLimit, hst]; rfl
  rw [write_data_eq hst, write_data_eq hstL]
  refine LimRel.bind (tmpRun_lim m h hs hd hM hdM) ?_ ?_
  · intro a H1 hp hi1 hd1 hM1
    exact LimRel.map
      (gR := fun x : RunState × Rd =>
        (({ st with tmp := [], state := some (.data x.1) } : Stream), data.length - x.2.rem.length))
      (gL := fun x : RunState × Rd =>
        (({ st.withLimit m with tmp := [], state := some (.data x.1) } : Stream),
          data.length - x.2.rem.length))
      (readData_lim m (Rd.ofBytes data) hi1 (Sink.after_perfect hs) hd1 hM1 hdM)
      (fun _ => rfl) (fun _ => rfl)
  · intro a
    exact Mono.bind (OM.streamReadData _ _).mono fun _ => (OM.pure _).mono

/-! ### simulation of whole stream runs -/

/-- `buf.len()` of the stream's window (`0` without a window): the bytes of history the stream
holds, which is what the limit is compared with -/
def need (st : Stream) : Nat :=
  match st.state with
  | some (.data rs) => rs.output.buf.size
  | _ => 0

/-- dictionary size of the stream's window (`0` before the header has been parsed) -/
def dict (st : Stream) : Nat :=
  match st.state with
  | some (.data rs) => rs.output.dictSize
  | _ => 0

/-- invariant of the unlimited reference stream; ghost data: `base` = the sink before the first
byte was written, `H` = everything decoded so far, `snk` = the current sink -/
structure Inv (st : Stream) (base snk : Sink) (H : Bytes) : Prop where
  opt : st.options.memlimit = none
  perfect : base.Perfect
  data : ∀ rs, st.state = some (.data rs) → CircInv rs.output H ∧
    rs.output.dictSize ≤ rs.output.memlimit ∧ snk = base.after rs.output.dictSize [] H
  other : (∀ rs, st.state ≠ some (.data rs)) → H = [] ∧ snk = base

theorem Inv.snk_perfect {st : Stream} {base snk : Sink} {H : Bytes} (h : st.Inv base snk H) :
    snk.Perfect := by
  by_cases hd : ∃ rs, st.state = some (.data rs)
  · obtain ⟨rs, hst⟩ := hd
    rw [(h.data rs hst).2.2]; exact Sink.after_perfect h.perfect
  · rw [(h.other fun rs hh => hd ⟨rs, hh⟩).2]; exact h.perfect

theorem Inv.need_eq {st : Stream} {base snk : Sink} {H : Bytes} (h : st.Inv base snk H) :
    st.need = min H.length st.dict := by
  unfold need dict
  rcases hst : st.state with _ | _ | rs
  · rw [(h.other (by rw [hst]; intro rs hh; cases hh)).1]; rfl
  · rw [(h.other (by rw [hst]; intro rs hh; cases hh)).1]; rfl
  · exact (h.data rs hst).1.size_eq

theorem Inv.of_no_data {st : Stream} {base : Sink} (hopt : st.options.memlimit = none)
    (hb : base.Perfect) (hst : ∀ rs, st.state ≠ some (.data rs)) : st.Inv base base [] where
  opt := hopt
  perfect := hb
  data := fun rs h => absurd h (hst rs)
  other := fun _ => ⟨rfl, rfl⟩

theorem Inv.of_data {st : Stream} {base snk : Sink} {H : Bytes} {rs : RunState}
    (hopt : st.options.memlimit = none) (hb : base.Perfect) (hst : st.state = some (.data rs))
    (hi : CircInv rs.output H) (hroomy : rs.output.dictSize ≤ rs.output.memlimit)
    (hsnk : snk = base.after rs.output.dictSize [] H) : st.Inv base snk H where
  opt := hopt
  perfect := hb
  data := by intro rs' h; rw [hst] at h; cases h; exact ⟨hi, hroomy, hsnk⟩
  other := fun hn => absurd hst (hn rs)

theorem Inv.new (opts : Options) (hopt : opts.memlimit = none) {base : Sink} (hb : base.Perfect) :
    (newWithOptions opts).Inv base base [] :=
  Inv.of_no_data hopt hb fun _ h => by cases h

/-- the limited run died of its limit: `Err lzma`, having delivered a prefix -/
def SHit {β : Type} (R L : Sink × Stream × Except Err β) : Prop :=
  L.2.2 = .error .lzma ∧ APre L.1.out R.1.out

/-- `SRel m base st H R L`: `R` is the result (sink, stream, verdict) of some calls on the
reference stream `st` (which has produced `H`), `L` the result of the same calls on
`st.withLimit m`, both started on the same sink -/
structure SRel {β : Type} (m : Nat) (base : Sink) (st : Stream) (H : Bytes)
    (R L : Sink × Stream × Except Err β) : Prop where
  ref : ∀ b, R.2.2 = .ok b → st.need ≤ R.2.1.need ∧ ∃ H1, H <+: H1 ∧ R.2.1.Inv base R.1 H1
  /-- either the limited stream did the same (and what it holds fits), or it died of its limit
  (and what the reference stream holds does not fit) -/
  verdict : st.need ≤ m →
    (L = (R.1, R.2.1.withLimit m, R.2.2) ∧ ∀ b, R.2.2 = .ok b → R.2.1.need ≤ m) ∨
    (SHit R L ∧ ∀ b, R.2.2 = .ok b → ¬ R.2.1.need ≤ m)

section
variable {β : Type} {m : Nat} {base : Sink} {st : Stream} {H : Bytes}
  {R L : Sink × Stream × Except Err β}

theorem SRel.same (h : SRel m base st H R L) (hfit : st.need ≤ m) (b : β) (hb : R.2.2 = .ok b)
    (hle : R.2.1.need ≤ m) : L = (R.1, R.2.1.withLimit m, .ok b) := by
  rcases h.verdict hfit with ⟨e, -⟩ | ⟨-, hn⟩
  · rw [e, hb]
  · exact absurd hle (hn b hb)

theorem SRel.hit (h : SRel m base st H R L) (hfit : st.need ≤ m) (b : β) (hb : R.2.2 = .ok b)
    (hnle : ¬ R.2.1.need ≤ m) : SHit R L := by
  rcases h.verdict hfit with ⟨-, hf⟩ | ⟨hh, -⟩
  · exact absurd (hf b hb) hnle
  · exact hh

theorem SRel.err (h : SRel m base st H R L) (hfit : st.need ≤ m) (e : Err) (he : R.2.2 = .error e) :
    L = (R.1, R.2.1.withLimit m, .error e) ∨ SHit R L := by
  rcases h.verdict hfit with ⟨eq, -⟩ | ⟨hh, -⟩
  · exact Or.inl (by rw [eq, he])
  · exact Or.inr hh

theorem SRel.of_ref_error {s1 : Sink} {t1 : Stream} {e : Err}
    (h : st.need ≤ m → L = (s1, t1.withLimit m, .error e) ∨ SHit (s1, t1, (.error e : Except Err β)) L) :
    SRel m base st H (s1, t1, .error e) L where
  ref := nofun
  verdict := fun hfit => (h hfit).imp (⟨·, nofun⟩) (⟨·, nofun⟩)

theorem SRel.of_ok {snk1 : Sink} {st1 : Stream} {H1 : Bytes} (b : β) (hz : st1.need = st.need)
    (hp : H <+: H1) (h1 : st1.Inv base snk1 H1) :
    SRel m base st H (snk1, st1, .ok b) (snk1, st1.withLimit m, .ok b) where
  ref := by rintro b' ⟨⟩; exact ⟨Nat.le_of_eq hz.symm, H1, hp, h1⟩
  verdict := fun hfit => Or.inl ⟨rfl, by rintro b' ⟨⟩; exact hz ▸ hfit⟩

theorem SRel.ret {snk : Sink} (b : β) (h : st.Inv base snk H) :
    SRel m base st H (snk, st, .ok b) (snk, st.withLimit m, .ok b) :=
  SRel.of_ok b rfl (List.prefix_refl H) h

end

theorem writeS_srel (m : Nat) (data : Bytes) {st : Stream} {base snk : Sink} {H : Bytes}
    (h : st.Inv base snk H) :
    SRel m base st H (st.writeS data snk) ((st.withLimit m).writeS data snk) := by
  rcases hst : st.state with _ | _ | rs
  · have hL : (st.withLimit m).state = none := by simp [Stream.withLimit, hst]
    rw [writeS_none st data snk hst, writeS_none _ data snk hL]
    exact SRel.ret 0 h
  · have hL : (st.withLimit m).state = some .header := by simp [Stream.withLimit, hst]; rfl
    have hnd : ∀ rs, st.state ≠ some (.data rs) := by rw [hst]; intro rs hh; cases hh
    obtain ⟨hH, hsnk⟩ := h.other hnd
    subst hH hsnk
    have hW := write_header_eq st data snk hst
    have hWL := write_header_eq (st.withLimit m) data snk hL
    rw [hdrWrite_withLimit] at hWL
    generalize hw : hdrWrite st data = r at hW hWL
    rcases r with e | ⟨st', k⟩
    · rw [writeS_err_iff.mpr ⟨hW, rfl⟩, writeS_err_iff.mpr ⟨hWL, rfl⟩]
      exact SRel.of_ref_error fun _ => Or.inl rfl
    · rw [writeS_ok_iff.mpr hW, writeS_ok_iff.mpr hWL]
      obtain ⟨hopt, hstate⟩ := hdrWrite_ok hw
      rcases hstate with hh | ⟨rs, d, hrs, hout, hd1, hd2⟩
      · exact SRel.of_ok k (by unfold need; rw [hh, hst]) (List.prefix_refl _)
          (Inv.of_no_data (hopt ▸ h.opt) h.perfect (by rw [hh]; nofun))
      · rw [h.opt] at hout
        exact SRel.of_ok k (by unfold need; rw [hrs, hst]; dsimp only; rw [hout]; rfl)
          (List.prefix_refl _) (Inv.of_data (hopt ▸ h.opt) h.perfect hrs
            (hout ▸ Circ.fromStream_inv _ (by omega)) (by rw [hout]; exact hd2)
            (by rw [hout]; exact (Sink.after_self _ _ _).symm))
  · obtain ⟨hi, hroomy, hsnk⟩ := h.data rs hst
    have hsp := h.snk_perfect
    have hrel := write_data_lim m data hst hi hsp rfl rfl hroomy
    have hneed : st.need = min H.length rs.output.dictSize := by
      rw [h.need_eq]; unfold dict; rw [hst]
    rcases hW : st.write data snk with ⟨s1, e | ⟨st', n⟩⟩
    · rw [hW] at hrel
      rw [writeS_err_iff.mpr ⟨hW, rfl⟩]
      refine SRel.of_ref_error fun hfit => ?_
      rcases hrel.verdict (by omega) with ⟨hL, -⟩ | ⟨⟨-, hl2, hpre⟩, -⟩
      · rw [writeS_err_iff.mpr ⟨hL, rfl⟩]; exact Or.inl rfl
      · have hL : (st.withLimit m).write data snk = (_, .error .lzma) := Prod.ext rfl hl2
        rw [writeS_err_iff.mpr ⟨hL, rfl⟩]
        exact Or.inr ⟨rfl, hpre⟩
    · rw [hW] at hrel
      rw [writeS_ok_iff.mpr hW]
      obtain ⟨-, -, rs', -, -, -, hshape, -⟩ := (write_data_ok_iff hst).1 hW
      have hst' : st'.state = some (.data rs') := by rw [hshape]
      have hwin : st'.winD = rs'.output := by unfold winD; rw [hst']
      obtain ⟨H1, hp, hi1, hd1, hM1, hs1⟩ := hrel.ref _ rfl
      dsimp only at hi1 hd1 hM1 hs1
      rw [hwin] at hi1 hd1 hM1
      have hneed' : st'.need = min H1.length rs.output.dictSize := by
        unfold need; rw [hst']; dsimp only; rw [hi1.size_eq, hd1]
      have hinv' : st'.Inv base s1 H1 := Inv.of_data (hshape ▸ h.opt) h.perfect hst' hi1 (by omega)
        (by rw [hs1, hsnk, hd1, Sink.after_trans _ _ (List.nil_prefix) hp])
      have hlen := hp.length_le
      have hsz : st'.winD.buf.size = st'.need := by rw [hwin, hneed', hi1.size_eq, hd1]
      refine ⟨fun b hb => ⟨by dsimp only; omega, H1, hp, hinv'⟩, fun hfit => ?_⟩
      rcases hrel.verdict (by omega) with ⟨hL, hf⟩ | ⟨hh, hn⟩
      · exact Or.inl ⟨by rw [writeS_ok_iff.mpr hL], by rintro b ⟨⟩; exact hsz ▸ hf _ rfl⟩
      · have hL : (st.withLimit m).write data snk = (_, .error .lzma) := Prod.ext rfl hh.2.1
        refine Or.inr ⟨?_, by rintro b ⟨⟩; exact hsz ▸ hn _ rfl⟩
        rw [writeS_err_iff.mpr ⟨hL, rfl⟩]
        exact ⟨rfl, hh.2.2⟩

/-- sequencing of calls on the stream object: stop at the first error -/
def seqS {β γ : Type} (x : Sink × Stream × Except Err β)
    (k : β → Stream → Sink → Sink × Stream × Except Err γ) : Sink × Stream × Except Err γ :=
  match x with
  | (s, t, .error e) => (s, t, .error e)
  | (s, t, .ok n) => k n t s

theorem SRel.seq {β γ : Type} {m : Nat} {base : Sink} {st : Stream} {H : Bytes}
    {R L : Sink × Stream × Except Err β}
    {k : β → Stream → Sink → Sink × Stream × Except Err γ}
    (h1 : SRel m base st H R L)
    (h2 : ∀ n H1, H <+: H1 → R.2.2 = .ok n → R.2.1.Inv base R.1 H1 →
      SRel m base R.2.1 H1 (k n R.2.1 R.1) (k n (R.2.1.withLimit m) R.1))
    (hmono : ∀ n t s, APre s.out (k n t s).1.out) :
    SRel m base st H (seqS R k) (seqS L k) := by
  obtain ⟨s1, t1, r⟩ := R
  cases r with
  | error e =>
    refine SRel.of_ref_error fun hfit => ?_
    rcases h1.verdict hfit with ⟨rfl, -⟩ | ⟨hh, -⟩
    · exact Or.inl rfl
    · obtain ⟨l1, l2, l3⟩ := L
      cases hh.1
      exact Or.inr ⟨rfl, hh.2⟩
  | ok n =>
    obtain ⟨hn1, H1, hp, hinv⟩ := h1.ref n rfl
    have h2' := h2 n H1 hp rfl hinv
    refine ⟨fun b hb => ?_, fun hfit => ?_⟩
    · obtain ⟨hn2, H2, hp2, hinv2⟩ := h2'.ref b hb
      exact ⟨Nat.le_trans hn1 hn2, H2, hp.trans hp2, hinv2⟩
    · rcases h1.verdict hfit with ⟨rfl, hf⟩ | ⟨hh, hnf⟩
      · exact h2'.verdict (hf n rfl)
      · -- the stream only holds more afterwards: it did not fit before, it does not fit now
        obtain ⟨l1, l2, l3⟩ := L
        cases hh.1
        exact Or.inr ⟨⟨rfl, hh.2.trans (hmono n t1 s1)⟩,
          fun b hb hle => hnf n rfl (Nat.le_trans (h2'.ref b hb).1 hle)⟩

theorem seqS_mono {β γ : Type} {x : Sink × Stream × Except Err β}
    {k : β → Stream → Sink → Sink × Stream × Except Err γ} {snk : Sink}
    (hx : APre snk.out x.1.out) (hk : ∀ n t s, APre s.out (k n t s).1.out) :
    APre snk.out (seqS x k).1.out := by
  obtain ⟨s, t, e | n⟩ := x
  · exact hx
  · exact hx.trans (hk n t s)

theorem writeS_mono (st : Stream) (data : Bytes) (snk : Sink) :
    APre snk.out (st.writeS data snk).1.out := by
  have h := (OM.streamWrite st data).mono snk
  unfold writeS
  rcases hw : st.write data snk with ⟨s1, e | ⟨st', n⟩⟩ <;> rw [hw] at h <;> exact h

theorem feed_succ (fuel : Nat) (st : Stream) (data : Bytes) (acc : Nat) (snk : Sink) :
    feed (fuel + 1) st data acc snk =
      if data.isEmpty then (snk, st, .ok acc)
      else seqS (st.writeS data snk) fun n st' snk' =>
        if n = 0 then (snk', st', .ok acc) else feed fuel st' (data.drop n) (acc + n) snk' := by
  rw [feed]
  split
  · rfl
  · rcases st.writeS data snk with ⟨s, t, e | n⟩ <;> rfl

theorem feed_mono : ∀ (fuel : Nat) (st : Stream) (data : Bytes) (acc : Nat) (snk : Sink),
    APre snk.out (feed fuel st data acc snk).1.out := by
  intro fuel
  induction fuel with
  | zero => intro st data acc snk; exact APre.refl _
  | succ fuel ih =>
    intro st data acc snk
    rw [feed_succ]
    split
    · exact APre.refl _
    · refine seqS_mono (writeS_mono st data snk) ?_
      intro n t s
      split
      · exact APre.refl _
      · exact ih _ _ _ _

theorem feed_srel (m : Nat) : ∀ (fuel : Nat) (data : Bytes) (acc : Nat) {st : Stream} {base snk : Sink}
    {H : Bytes}, st.Inv base snk H →
    SRel m base st H (feed fuel st data acc snk) (feed fuel (st.withLimit m) data acc snk) := by
  intro fuel
  induction fuel with
  | zero => intro data acc st base snk H h; exact SRel.ret acc h
  | succ fuel ih =>
    intro data acc st base snk H h
    rw [feed_succ, feed_succ]
    by_cases hd : data.isEmpty
    · simp only [hd, if_true]; exact SRel.ret acc h
    · simp only [hd]
      refine SRel.seq (writeS_srel m data h) ?_ ?_
      · intro n H1 hp hn hinv
        by_cases h0 : n = 0
        · simp only [h0, if_true]; exact SRel.ret acc hinv
        · simp only [h0, if_false]; exact ih _ _ hinv
      · intro n t s
        split
        · exact APre.refl _
        · exact feed_mono _ _ _ _ _

/-- feed the chunks one after the other, each with the re-submitting loop `feed`; stop at the
first `Err`; report the number of bytes accepted per chunk -/
def feedChunks (fuel : Nat) : List Bytes → Stream → Sink → Sink × Stream × Except Err (List Nat)
  | [], st, snk => (snk, st, .ok [])
  | c :: cs, st, snk =>
    seqS (st.feed fuel c 0 snk) fun n st' snk' =>
      seqS (feedChunks fuel cs st' snk') fun ns st'' snk'' => (snk'', st'', .ok (n :: ns))

theorem feedChunks_mono (fuel : Nat) : ∀ (cs : List Bytes) (st : Stream) (snk : Sink),
    APre snk.out (feedChunks fuel cs st snk).1.out := by
  intro cs
  induction cs with
  | nil => intro st snk; exact APre.refl _
  | cons c cs ih =>
    intro st snk
    unfold feedChunks
    refine seqS_mono (feed_mono fuel st c 0 snk) ?_
    intro n t s
    exact seqS_mono (ih t s) (fun _ _ _ => APre.refl _)

theorem feedChunks_srel (m fuel : Nat) : ∀ (cs : List Bytes) {st : Stream} {base snk : Sink} {H : Bytes},
    st.Inv base snk H →
    SRel m base st H (feedChunks fuel cs st snk) (feedChunks fuel cs (st.withLimit m) snk) := by
  intro cs
  induction cs with
  | nil => intro st base snk H h; exact SRel.ret [] h
  | cons c cs ih =>
    intro st base snk H h
    unfold feedChunks
    refine SRel.seq (feed_srel m fuel c 0 h) ?_ ?_
    · intro n H1 hp hn hinv
      refine SRel.seq (ih hinv) ?_ ?_
      · intro ns H2 hp2 hns hinv2
        exact SRel.ret (n :: ns) hinv2
      · intro ns t s; exact APre.refl _
    · intro n t s
      exact seqS_mono (feedChunks_mono fuel cs t s) (fun _ _ _ => APre.refl _)

theorem finish_lim (m : Nat) {st : Stream} {base snk : Sink} {H : Bytes} (h : st.Inv base snk H)
    (hfit : st.need ≤ m) :
    LimOut m st.dict base.out H id (st.finish snk) ((st.withLimit m).finish snk) := by
  rcases hst : st.state with _ | _ | rs
  · have hL : (st.withLimit m).state = none := by simp [Stream.withLimit, hst]
    rw [finish_none st snk hst, finish_none _ snk hL]
    exact LimOut.of_error _ _
  · have hL : (st.withLimit m).state = some .header := by simp [Stream.withLimit, hst]; rfl
    obtain ⟨rfl, rfl⟩ := h.other (by rw [hst]; intro rs hh; cases hh)
    have e : (st.withLimit m).finish snk = st.finish snk := by
      unfold finish; rw [hst, hL]; rfl
    rw [e]
    refine ⟨fun snkF u hf => ?_, fun _ _ hf => Or.inl hf⟩
    have hsf : snkF = snk := by
      unfold finish at hf
      rw [hst] at hf
      dsimp only at hf
      split at hf
      · cases hf
      · cases hf; rfl
    subst hsf
    exact ⟨[], List.prefix_refl _, by simp, h.perfect, fun _ => hf, fun hn => absurd (by simp) hn⟩
  · obtain ⟨hi, hroomy, hsnk⟩ := h.data rs hst
    have hL : (st.withLimit m).state = some (.data (rs.withLimit m)) := by
      simp only [Stream.withLimit, hst]; rfl
    have hoL : (st.withLimit m).options.allowIncomplete = st.options.allowIncomplete := rfl
    have htL : (st.withLimit m).tmp = st.tmp := rfl
    have hneed : st.need = min H.length rs.output.dictSize := by
      rw [h.need_eq]; unfold dict; rw [hst]
    have hdict : st.dict = rs.output.dictSize := by unfold dict; rw [hst]
    rw [hdict]
    unfold finish
    rw [hst, hL, hoL, htL]
    dsimp only
    by_cases hai : (!st.options.allowIncomplete) = true
    · simp only [hai, if_true]
      exact (DState.processMode_lim .finish m rs.decoder { range := rs.range, code := rs.code }
          (Rd.ofBytes st.tmp) hi h.snk_perfect rfl rfl hroomy).finish
        (win := fun a : DState × Circ × RC × Rd => a.2.1) (g := fun _ => ())
        (fun a s => (bind_run_ok (pure_run _ _)).trans (bind_pure_unit _ s).symm)
        (fun a s => (bind_run_ok (a := a.2.1.withLimit m) (pure_run _ _)).trans
          (bind_pure_unit _ s).symm)
        (by omega) h.perfect hsnk
    · simp only [hai]
      exact (LimRel.ret (win := fun a : Circ => a) (lim := fun a => a.withLimit m) rs.output hi rfl
          rfl).finish (mR := pure rs.output) (mL := pure (rs.output.withLimit m)) (g := fun _ => ())
        (fun a s => (bind_pure_unit _ s).symm) (fun a s => (bind_pure_unit _ s).symm)
        (by omega) h.perfect hsnk

theorem finish_ref {st : Stream} {base snk snkF : Sink} {H : Bytes} (h : st.Inv base snk H)
    (hf : st.finish snk = (snkF, .ok ())) :
    ∃ H1, H <+: H1 ∧ snkF.out = base.out ++ H1.toArray ∧ snkF.Perfect := by
  obtain ⟨H1, hp, ho, hpf, -⟩ := (finish_lim st.need h (Nat.le_refl _)).ok snkF () hf
  exact ⟨H1, hp, ho, hpf⟩

/-- a complete streaming session: create the stream, feed the chunks (re-submitting what a
`write` did not accept), `finish`; the result is the sink and the per-chunk accepted counts,
or the first error -/
def runStream (fuel : Nat) (opts : Options) (chunks : List Bytes) (snk : Sink) :
    Sink × Except Err (List Nat) :=
  match feedChunks fuel chunks (newWithOptions opts) snk with
  | (snk', st', .ok ns) =>
    match st'.finish snk' with
    | (s, .ok ()) => (s, .ok ns)
    | (s, .error e) => (s, .error e)
  | (snk', _, .error e) => (snk', .error e)

theorem runStream_of_feed_err {fuel : Nat} {opts : Options} {chunks : List Bytes} {snk s : Sink}
    {t : Stream} {e : Err} (h : feedChunks fuel chunks (newWithOptions opts) snk = (s, t, .error e)) :
    runStream fuel opts chunks snk = (s, .error e) := by
  unfold runStream; rw [h]

theorem runStream_of_feed_ok {fuel : Nat} {opts : Options} {chunks : List Bytes} {snk s : Sink}
    {t : Stream} {ns : List Nat} (h : feedChunks fuel chunks (newWithOptions opts) snk = (s, t, .ok ns)) :
    runStream fuel opts chunks snk =
      ((t.finish s).1, (t.finish s).2.map fun _ => ns) := by
  unfold runStream; rw [h]
  dsimp only
  rcases t.finish s with ⟨s2, e | u⟩ <;> rfl

/-- a whole streaming session with `memlimit = Some(m)` against `memlimit = None` (perfect sink) -/
theorem runStream_lim (m fuel : Nat) (opts : Options) (chunks : List Bytes) {snk : Sink}
    (hs : snk.Perfect) :
    (∀ snkU ns, runStream fuel { opts with memlimit := none } chunks snk = (snkU, .ok ns) →
      ∃ snkF stF, feedChunks fuel chunks (newWithOptions { opts with memlimit := none }) snk =
          (snkF, stF, .ok ns) ∧
        (min stF.dict (snkU.out.size - snk.out.size) ≤ m →
          runStream fuel { opts with memlimit := some m } chunks snk = (snkU, .ok ns)) ∧
        (¬ min stF.dict (snkU.out.size - snk.out.size) ≤ m →
          (runStream fuel { opts with memlimit := some m } chunks snk).2 = .error .lzma ∧
          APre (runStream fuel { opts with memlimit := some m } chunks snk).1.out snkU.out)) ∧
    (∀ snkU e, runStream fuel { opts with memlimit := none } chunks snk = (snkU, .error e) →
      runStream fuel { opts with memlimit := some m } chunks snk = (snkU, .error e) ∨
        ((runStream fuel { opts with memlimit := some m } chunks snk).2 = .error .lzma ∧
          APre (runStream fuel { opts with memlimit := some m } chunks snk).1.out snkU.out)) := by
  have hinv0 : (newWithOptions { opts with memlimit := none }).Inv snk snk [] := Inv.new _ rfl hs
  have hrel := feedChunks_srel m fuel chunks hinv0
  have hnew : (newWithOptions { opts with memlimit := none }).withLimit m =
      newWithOptions { opts with memlimit := some m } := rfl
  rw [hnew] at hrel
  have hfit0 : (newWithOptions { opts with memlimit := none }).need ≤ m := Nat.zero_le _
  -- a limited session whose feeding died of the limit
  have hdead : ∀ {R : Sink × Stream × Except Err (List Nat)},
      SHit R (feedChunks fuel chunks (newWithOptions { opts with memlimit := some m }) snk) →
      (runStream fuel { opts with memlimit := some m } chunks snk).2 = .error .lzma ∧
        APre (runStream fuel { opts with memlimit := some m } chunks snk).1.out R.1.out := by
    intro R hh
    rcases hL : feedChunks fuel chunks (newWithOptions { opts with memlimit := some m }) snk with
      ⟨l1, l2, l3⟩
    rw [hL] at hh
    cases hh.1
    rw [runStream_of_feed_err hL]
    exact ⟨rfl, hh.2⟩
  rcases hF : feedChunks fuel chunks (newWithOptions { opts with memlimit := none }) snk with
    ⟨snkF, stF, e | ns⟩
  · rw [hF] at hrel
    rw [runStream_of_feed_err hF]
    refine ⟨fun _ _ h => (nomatch h), fun snkU e' h => ?_⟩
    cases h
    rcases hrel.verdict hfit0 with ⟨hL, -⟩ | ⟨hh, -⟩
    · rw [runStream_of_feed_err hL]; exact Or.inl rfl
    · exact Or.inr (hdead hh)
  · rw [hF] at hrel
    rw [runStream_of_feed_ok hF]
    obtain ⟨-, H1, -, hinvF⟩ := hrel.ref ns rfl
    dsimp only at hinvF
    have hfmono := (OM.streamFinish stF).mono snkF
    rcases hfin : stF.finish snkF with ⟨s2, e | u⟩
    · rw [hfin] at hfmono
      refine ⟨fun _ _ h => (nomatch h), fun snkU e' h => ?_⟩
      cases h
      rcases hrel.verdict hfit0 with ⟨hL, hf⟩ | ⟨hh, -⟩
      · rw [runStream_of_feed_ok hL]
        exact ((finish_lim m hinvF (hf ns rfl)).err _ _ hfin).imp (fun hLf => by rw [hLf]; rfl)
          fun hh => ⟨by dsimp only; rw [hh.2.1]; rfl, hh.2.2⟩
      · exact Or.inr ⟨(hdead hh).1, (hdead hh).2.trans hfmono⟩
    · rw [hfin] at hfmono
      refine ⟨fun snkU ns' h => ?_, fun _ _ h => (nomatch h)⟩
      cases h
      refine ⟨snkF, stF, rfl, ?_⟩
      rcases hrel.verdict hfit0 with ⟨hL, hf⟩ | ⟨hh, hn⟩
      · rw [runStream_of_feed_ok hL]
        obtain ⟨H2, -, ho, -, hsame, hhit⟩ := (finish_lim m hinvF (hf ns rfl)).ok _ _ hfin
        have hlen : H2.length = s2.out.size - snk.out.size := by rw [ho]; simp
        refine ⟨fun hle => ?_, fun hnle => ?_⟩
        · dsimp only at hle
          rw [hsame (by rw [hlen]; omega)]; rfl
        · dsimp only at hnle
          have hh := hhit (by rw [hlen]; omega)
          exact ⟨by dsimp only; rw [hh.2.1]; rfl, hh.2.2⟩
      · -- what the stream held before `finish` already exceeds the limit
        obtain ⟨H2, hp2, ho, -⟩ := finish_ref hinvF hfin
        have hlen : H2.length = s2.out.size - snk.out.size := by rw [ho]; simp
        have hneed := hinvF.need_eq
        have := hp2.length_le
        have := hn ns rfl
        exact ⟨fun hle => by dsimp only at *; omega, fun _ => ⟨(hdead hh).1, (hdead hh).2.trans hfmono⟩⟩

/-! ### the stream never holds more than its limit (any sink, any calls) -/

/-- a stream created with `memlimit = Some(m)` whose window (if any) is within the limit -/
def BufOKS (m : Nat) (st : Stream) : Prop :=
  st.options.memlimit = some m ∧
    ∀ rs, st.state = some (.data rs) → rs.output.buf.size ≤ m ∧ rs.output.memlimit = m

theorem BufOKS.new (opts : Options) (m : Nat) :
    BufOKS m (newWithOptions { opts with memlimit := some m }) :=
  ⟨rfl, by intro rs h; cases h⟩

theorem readData_bufOK {m d : Nat} {rs rs' : RunState} {rd rd' : Rd} {snk snk' : Sink}
    (h : readData rs rd snk = (snk', .ok (rs', rd'))) (hi : DState.BufOK m d rs.output) :
    DState.BufOK m d rs'.output := by
  unfold readData at h
  obtain ⟨⟨dec, out, rc, rd1⟩, s1, hpm, h⟩ := mBind_eq_ok.1 h
  obtain ⟨h, -⟩ := mPure_eq_ok.1 h
  cases h
  exact DState.processMode_bufOK hpm hi

theorem write_bufOK {m : Nat} {st st' : Stream} {data : Bytes} {snk snk' : Sink} {n : Nat}
    (hb : BufOKS m st) (h : st.write data snk = (snk', .ok (st', n))) : BufOKS m st' := by
  obtain ⟨hopt, hdata⟩ := hb
  rcases hst : st.state with _ | _ | rs
  · rw [write_none st data snk hst] at h
    cases h; exact ⟨hopt, hdata⟩
  · rw [write_header_eq st data snk hst] at h
    simp only [Prod.mk.injEq] at h
    obtain ⟨ho, hstate⟩ := hdrWrite_ok h.2
    refine ⟨by rw [ho]; exact hopt, ?_⟩
    intro rs hrs
    rcases hstate with hh | ⟨rs', d, hrs', hout, -, -⟩
    · rw [hh] at hrs; cases hrs
    · rw [hrs'] at hrs; cases hrs
      rw [hout, hopt]
      exact ⟨by simp [Circ.fromStream], rfl⟩
  · obtain ⟨hsz, hml⟩ := hdata rs hst
    have hi : DState.BufOK m rs.output.dictSize rs.output := ⟨hsz, hml, rfl⟩
    obtain ⟨rs1, s1, rs', rd', h1, h2, hshape, -⟩ := (write_data_ok_iff hst).1 h
    have hi1 : DState.BufOK m rs.output.dictSize rs1.output := by
      rcases tmpRun_ok_inv h1 with ⟨-, -, rfl⟩ | ⟨-, rd1, h1⟩
      · exact hi
      · exact readData_bufOK h1 hi
    have hi' := readData_bufOK h2 hi1
    refine ⟨by rw [hshape]; exact hopt, ?_⟩
    intro rs'' hrs''
    rw [hshape] at hrs''
    cases hrs''
    exact ⟨hi'.1, hi'.2.1⟩

theorem writeS_bufOK {m : Nat} {st : Stream} (hb : BufOKS m st) (data : Bytes) (snk : Sink) :
    BufOKS m (st.writeS data snk).2.1 := by
  rcases hw : st.write data snk with ⟨s1, e | ⟨st', n⟩⟩
  · rw [writeS_err_iff.mpr ⟨hw, rfl⟩]
    exact ⟨hb.1, by intro rs h; cases h⟩
  · rw [writeS_ok_iff.mpr hw]
    exact write_bufOK hb hw

theorem runCalls_bufOK {m : Nat} : ∀ (cs : List Call) {st : Stream} (snk : Sink), BufOKS m st →
    BufOKS m (runCalls cs st snk).2.1 := by
  intro cs
  induction cs with
  | nil => intro st snk hb; exact hb
  | cons c cs ih =>
    intro st snk hb
    simp only [runCalls]
    have h1 : BufOKS m (stepCall c st snk).2.1 := by
      cases c with
      | write data => exact writeS_bufOK hb data snk
      | flush => simp only [stepCall]; rw [flushS_state]; exact hb
    rcases hs : stepCall c st snk with ⟨snk1, st1, r⟩
    rw [hs] at h1
    have h2 := ih snk1 h1
    rcases hr : runCalls cs st1 snk1 with ⟨snk2, st2, rs⟩
    rw [hr] at h2
    exact h2

end Stream

end Lzma
