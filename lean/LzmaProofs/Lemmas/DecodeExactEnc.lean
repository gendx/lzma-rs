/-
  The reference encoder `encodeProg` flattened to one event list (`progEvents`): it is total on
  raw-well-formed programs and sees the declared dictionary size only through the guards of
  `SpecSt.step`.  `ForcesRead`: event lists (like the end marker's) whose coding shifts out at least
  one byte, so that the decoder's reader cannot be exhausted before them.
-/
import LzmaProofs.Lemmas.RangeCoder
import LzmaProofs.Lemmas.DecodeExactStep
import LzmaProofs.Lemmas.SafetyLoop
namespace Lzma
open REnc

theorem encodeEvents_append (a b : List Ev) : ∀ (p : Probs) (e : REnc) (snk : Sink),
    encodeEvents (a ++ b) p e snk =
      match encodeEvents a p e snk with
      | (snk', .ok r) => encodeEvents b r.1 r.2 snk'
      | (snk', .error x) => (snk', .error x) := by
  induction a with
  | nil => intro p e snk; rfl
  | cons ev a ih =>
    intro p e snk
    cases ev with
    | pbit i bit =>
      rw [List.cons_append, encodeEvents_pbit_eq, encodeEvents_pbit_eq]
      cases hg : p.get i with
      | error x => rfl
      | ok v =>
        simp only [bind_run, liftE_ok]
        rcases hb : e.encodeBit v bit snk with ⟨s1, _ | x⟩
        · rfl
        · exact ih _ _ _
    | dbit bit =>
      rw [List.cons_append, encodeEvents_dbit_eq, encodeEvents_dbit_eq]
      simp only [bind_run]
      rcases hb : REnc.encodeDirect e bit snk with ⟨s1, _ | x⟩
      · rfl
      · exact ih _ _ _

theorem encodeEvents_ok_inv (evs : List Ev) (p : Probs) (e : REnc) (snk snkF : Sink)
    (pF : Probs) (eF : REnc) (hs : snk.script = []) (he : EOk e) (hp : ProbsOk p)
    (h : encodeEvents evs p e snk = (snkF, .ok (pF, eF))) : snkF.script = [] ∧ EOk eF ∧ ProbsOk pF :=
  let ⟨a, b, c, _⟩ := encode_run evs p e snk snkF pF eF hs he hp h
  ⟨c, a, b⟩

/-- all events `encodeProg` emits for a program, in order -/
def progEvents (dict : Nat) (props : Props) : SpecSt → List Sym → List Ev
  | _, [] => []
  | spec, sym :: rest =>
    rawSymEvents (ctxOf props spec) sym.toRaw ++ progEvents dict props (nextSpec dict spec sym) rest

/-- the spec state after `encodeProg` -/
def progSpec (dict : Nat) : SpecSt → List Sym → SpecSt
  | spec, [] => spec
  | spec, sym :: rest => progSpec dict (nextSpec dict spec sym) rest

theorem progEvents_append (dict : Nat) (props : Props) : ∀ (a b : List Sym) (spec : SpecSt),
    progEvents dict props spec (a ++ b) =
      progEvents dict props spec a ++ progEvents dict props (progSpec dict spec a) b
  | [], b, spec => rfl
  | s :: a, b, spec => by
    simp only [List.cons_append, progEvents, progSpec, List.append_assoc]
    rw [progEvents_append dict props a b]

theorem progSpec_of_run {dict : Nat} (prog : List Sym) (spec st : SpecSt) (b : Bool)
    (h : SpecSt.run dict spec prog = some (st, b)) : progSpec dict spec prog = st :=
  SpecSt.run_ind (P := fun spec prog r => progSpec dict spec prog = r.1) (fun _ => rfl) (fun _ => rfl)
    (fun hs _ ih => by simp only [progSpec, nextSpec_of_step hs, ih]) prog h

theorem encodeProg_eq (dict : Nat) : ∀ (prog : List Sym) (s : EncSt) (e : REnc) (snk : Sink),
    encodeProg dict prog s e snk =
      match encodeEvents (progEvents dict s.props s.spec prog) s.probs e snk with
      | (snk', .ok r) => (snk', .ok ({ s with probs := r.1, spec := progSpec dict s.spec prog }, r.2))
      | (snk', .error x) => (snk', .error x)
  | [], s, e, snk => rfl
  | sym :: rest, s, e, snk => by
    rw [encodeProg_cons, bind_run, progEvents, encodeEvents_append]
    rcases encodeEvents (rawSymEvents (ctxOf s.props s.spec) sym.toRaw) s.probs e snk
      with ⟨s1, x | ⟨p', e'⟩⟩
    · rfl
    · exact encodeProg_eq dict rest _ _ _

theorem paths_index {α : Type} {V : PIdx → Prop} {E : Err → Prop} {Q : α → Prop}
    {P : Nat → Nat → Prop} {t : Coder PIdx α} (ht : Safety.Paths V E Q P t)
    {evs rest : List Ev} {a : α} (h : runEv t evs = some (a, rest)) {i : PIdx} {b : Bool}
    (hm : Ev.pbit i b ∈ evs) : V i ∨ Ev.pbit i b ∈ rest := by
  induction ht generalizing evs with
  | ret _ _ => cases h; exact .inr hm
  | fail _ _ => cases h
  | @bit _ j k _ hv _ ih =>
    match evs, h with
    | .pbit j' b' :: evs', h =>
      by_cases hj : j = j'
      · subst hj
        rw [runEv_bit_cons] at h
        rcases List.mem_cons.1 hm with e | hm'
        · cases e; exact .inl hv
        · exact ih b' h hm'
      · simp [runEv, hj] at h
  | direct _ _ ih =>
    match evs, h with
    | .dbit b' :: evs', h =>
      rw [runEv_direct_cons] at h
      exact ih b' h ((List.mem_cons.1 hm).resolve_left (by simp))

theorem rawSymEvents_valid {R : Nat} {c : ECtx} (hst : c.state < 12) (hps : c.posState < 16)
    (hrow : c.litRow < R) {raw : RawSym} (hwf : raw.WF) (i : PIdx) (b : Bool)
    (hm : Ev.pbit i b ∈ rawSymEvents c raw) : Safety.IdxValid R i := by
  let dc : Ctx := { state := c.state, posState := c.posState, litRow := .ok c.litRow,
                    matchByte := .ok c.matchByte }
  have hsafe := Safety.symTree_safe (R := R) (c := dc) ⟨hst, hps, hrow, trivial⟩
  have hrt := sym_roundtrip_lemma dc c raw ⟨rfl, rfl, fun _ => rfl, fun _ _ => rfl⟩ hwf []
  exact (paths_index hsafe hrt (by rwa [List.append_nil])).resolve_right List.not_mem_nil

/-- symbols whose raw form the decoder can return: lengths 2..273, distances 1..2^32 (the
largest is the end marker), `rep` index 0..3 -/
def Sym.RawOk (s : Sym) : Prop := s.toRaw.WF

instance : DecidablePred Sym.RawOk := fun s => inferInstanceAs (Decidable s.toRaw.WF)

theorem ctxOf_bounds {props : Props} (hp : Safety.PropsOk props) (spec : SpecSt) :
    (ctxOf props spec).posState < 16 ∧ (ctxOf props spec).litRow < 1 <<< (props.lc + props.lp) := by
  obtain ⟨hlc, hlp, hpb⟩ := hp
  constructor
  · show spec.hist.size &&& ((1 <<< props.pb) - 1) < 16
    have h1 : spec.hist.size &&& ((1 <<< props.pb) - 1) ≤ (1 <<< props.pb) - 1 := Nat.and_le_right
    have h2 : 2 ^ props.pb ≤ 2 ^ 4 := Nat.pow_le_pow_right (by omega) hpb
    rw [Nat.shiftLeft_eq, Nat.one_mul] at h1 ⊢
    omega
  · rw [Nat.shiftLeft_eq, Nat.one_mul]
    refine Safety.litRow_bound (len := spec.hist.size) (lp := props.lp) hlc ?_
    split
    · omega
    · exact UInt8.toNat_lt _

theorem nextSpec_state {dict : Nat} {spec : SpecSt} (h : spec.state < 12) (sym : Sym) :
    (nextSpec dict spec sym).state < 12 := by
  unfold nextSpec
  split
  · rename_i st b hs
    rcases SpecSt.step_some hs with ⟨_, -, rfl, -⟩ | ⟨-, rfl, -⟩ | ⟨r, n, c, hc, -, -, rfl, -⟩
    · exact Nat.lt_of_le_of_lt (SpecSt.litState_le _) h
    · exact h
    · exact (SpecSt.copyOf_bounds hc).2.1
  · cases sym with
    | mtch =>
      dsimp only
      split <;> omega
    | _ => exact h

theorem progEvents_valid {dict : Nat} {props : Props} (hp : Safety.PropsOk props) :
    ∀ (prog : List Sym) (spec : SpecSt), spec.state < 12 → (∀ s ∈ prog, Sym.RawOk s) →
    ∀ i b, Ev.pbit i b ∈ progEvents dict props spec prog →
      Safety.IdxValid (1 <<< (props.lc + props.lp)) i
  | [], _, _, _, i, b, h => by simp [progEvents] at h
  | sym :: rest, spec, hst, hwf, i, b, h => by
    simp only [progEvents, List.mem_append] at h
    rcases h with h | h
    · obtain ⟨h1, h2⟩ := ctxOf_bounds hp spec
      exact rawSymEvents_valid (c := ctxOf props spec) hst h1 h2 (hwf sym (by simp)) i b h
    · exact progEvents_valid hp rest _ (nextSpec_state hst sym)
        (fun s hs => hwf s (by simp [hs])) i b h

theorem run_rawOk {dict : Nat} (prog : List Sym) (spec st : SpecSt) (b : Bool)
    (h : SpecSt.run dict spec prog = some (st, b)) : ∀ s ∈ prog, Sym.RawOk s :=
  SpecSt.run_ind (P := fun _ prog _ => ∀ s ∈ prog, Sym.RawOk s) (fun _ _ hs => nomatch hs)
    (fun _ _ hs => by cases List.mem_singleton.1 hs; decide)
    (fun hstep _ ih _ hs => by
      rcases List.mem_cons.1 hs with rfl | hs'
      · exact Sym.toRaw_wf hstep
      · exact ih _ hs') prog h

theorem encodeProg_total {props : Props} (hp : Safety.PropsOk props) (dict : Nat) (prog : List Sym)
    (hwf : ∀ s ∈ prog, Sym.RawOk s) (snk : Sink) (hs : snk.script = []) :
    ∃ snkF probsF eF snkB e2,
      encodeEvents (progEvents dict props {} prog) (Probs.init (1 <<< (props.lc + props.lp))) {} snk
        = (snkF, .ok (probsF, eF)) ∧
      eF.finish snkF = (snkB, .ok e2) := by
  refine encodeEvents_total _ _ {} snk hs eok_fresh (probsOk_init _) ?_
  intro i b hm
  have hv := progEvents_valid (dict := dict) hp prog {} (by show (0 : Nat) < 12; omega) hwf i b hm
  obtain ⟨v, hg, -⟩ := Safety.Probs.get_safe (Safety.ProbsInv_init (1 <<< (props.lc + props.lp))) hv
  exact ⟨v, hg⟩

theorem encodeSyms_events (props : Props) (dict : Nat) (prog : List Sym) :
    encodeSyms props dict prog =
      ((encodeEvents (progEvents dict props {} prog) (Probs.init (1 <<< (props.lc + props.lp))) {} >>=
        fun r => r.2.finish) {}).1.out.toList := by
  show _ = ((encodeEvents (progEvents dict (EncSt.new props).props (EncSt.new props).spec prog)
    (EncSt.new props).probs {} >>= fun r => r.2.finish) {}).1.out.toList
  unfold encodeSyms
  simp only [bind_run, encodeProg_eq]
  rcases encodeEvents (progEvents dict (EncSt.new props).props (EncSt.new props).spec prog)
    (EncSt.new props).probs {} {} with ⟨s1, x | r⟩
  · rfl
  · simp only
    rcases r.2.finish s1 with ⟨s2, x | e⟩ <;> rfl

theorem encodeSyms_eq {props : Props} {dict : Nat} {prog : List Sym} {snkF snkB : Sink}
    {probsF : Probs} {eF e2 : REnc}
    (henc : encodeEvents (progEvents dict props {} prog) (Probs.init (1 <<< (props.lc + props.lp))) {} {}
      = (snkF, .ok (probsF, eF)))
    (hfin : eF.finish snkF = (snkB, .ok e2)) :
    encodeSyms props dict prog = snkB.out.toList := by
  rw [encodeSyms_events, bind_run_ok henc, hfin]

theorem progEvents_mono_dict {d d' : Nat} (hd : d ≤ d') (props : Props) (prog : List Sym)
    {spec : SpecSt} {r : SpecSt × Bool} (h : SpecSt.run d spec prog = some r) :
    progEvents d props spec prog = progEvents d' props spec prog :=
  SpecSt.run_ind (P := fun spec prog _ => progEvents d props spec prog = progEvents d' props spec prog)
    (fun _ => rfl) (fun _ => rfl)
    (fun hs _ ih => by
      simp only [progEvents, nextSpec_of_step hs, nextSpec_of_step (SpecSt.step_mono_dict hd hs), ih])
    prog h

theorem encodeSyms_dict_indep {d d' : Nat} {props : Props} {prog : List Sym} {r r' : SpecSt × Bool}
    (h : SpecSt.run d {} prog = some r) (h' : SpecSt.run d' {} prog = some r') :
    encodeSyms props d prog = encodeSyms props d' prog := by
  rw [encodeSyms_events, encodeSyms_events, progEvents_mono_dict (Nat.le_max_left d d') props prog h,
    progEvents_mono_dict (Nat.le_max_right d d') props prog h']

/-- coding `evs` (from any consistent state) performs at least one normalisation shift -/
def ForcesRead (evs : List Ev) : Prop :=
  ∀ (probs : Probs) (e : REnc) (snk snkF : Sink) (r : Probs × REnc), snk.script = [] → EOk e →
    ProbsOk probs → encodeEvents evs probs e snk = (snkF, .ok r) → 0 < normCount evs probs e

/-- the shifts of `a ++ b` are those of `a` plus those of `b`: `encode_en` counts all three -/
theorem ForcesRead.append_left (a : List Ev) {b : List Ev} (h : ForcesRead b) : ForcesRead (a ++ b) := by
  intro p e snk snkF r hs he hp henc
  obtain ⟨pF, eF⟩ := r
  have hab := henc
  rw [encodeEvents_append] at hab
  rcases ha : encodeEvents a p e snk with ⟨snk', x | ⟨p', e'⟩⟩ <;> rw [ha] at hab
  · cases hab
  · obtain ⟨hs', he', hp'⟩ := encodeEvents_ok_inv a p e snk snk' p' e' hs he hp ha
    have := h p' e' snk' snkF _ hs' he' hp' hab
    have h1 := encode_en _ _ _ _ _ _ _ hs he hp ha
    have h2 := encode_en _ _ _ _ _ _ _ hs he hp henc
    have h3 := encode_en _ _ _ _ _ _ _ hs' he' hp' hab
    omega

/-- without a normalisation shift each direct bit halves the range -/
theorem normCount_directEv_zero : ∀ (n v : Nat) (rest : List Ev) (p : Probs) (e : REnc),
    16777216 ≤ e.range → normCount (directEv n v ++ rest) p e = 0 → 2 ^ (24 + n) ≤ e.range
  | 0, _, _, _, _, he, _ => he
  | n+1, v, rest, p, e, _, h => by
    simp only [directEv, List.cons_append, normCount] at h
    generalize (((v >>> n) &&& 1) != 0) = b at h
    split at h
    · omega
    · rename_i h1
      have hstep : (stepDirect e b).1 = midDirect e b := by
        unfold stepDirect norm1
        rw [if_neg h1]
      rw [Nat.zero_add, hstep] at h
      have ih := normCount_directEv_zero n v rest p _ (Nat.le_of_not_lt h1) h
      have hr : (midDirect e b).range = e.range / 2 := by
        simp [midDirect, Nat.shiftRight_eq_div_pow]
      rw [hr] at ih
      rw [show 24 + (n + 1) = 24 + n + 1 from rfl, Nat.pow_succ]
      omega

/-- nine or more direct bits in a row force a shift (the range is below `2^32`) -/
theorem forcesRead_direct {n : Nat} (hn : 9 ≤ n) (v : Nat) (rest : List Ev) :
    ForcesRead (directEv n v ++ rest) := by
  intro p e snk snkF r hs he hp henc
  refine Nat.pos_of_ne_zero fun h0 => ?_
  have h1 := normCount_directEv_zero n v rest p e he.lo h0
  have h2 := he.hi
  have : (2 : Nat) ^ 33 ≤ 2 ^ (24 + n) := Nat.pow_le_pow_right (by omega) (by omega)
  omega

/-! ## the end marker: distance field `0xFFFFFFFF`, whatever the length

LZMA recognises the end marker by its distance field alone; `Sym.eos` is the marker of length 2,
`Sym.mtch 0x100000000 len` the one of length `len`.  The latter has no meaning in `SpecSt.step`
(its distance exceeds every history), so it is decoded at the level of the bit string
(`decode_bits`) and leaves through the decoder's `rep0 = 0xFFFFFFFF` exit. -/

namespace LongMarker

theorem toRaw_long_marker (len : Nat) :
    (Sym.mtch 0x100000000 len).toRaw = .mtch (len - 2) 0xFFFFFFFF := rfl

theorem toRaw_eos : (Sym.eos).toRaw = (Sym.mtch 0x100000000 2).toRaw := rfl

end LongMarker

theorem rawOk_long_marker {len : Nat} (hlen : 2 ≤ len ∧ len ≤ 273) :
    Sym.RawOk (Sym.mtch 0x100000000 len) := by
  show len - 2 < 272 ∧ 0x100000000 - 1 < 2 ^ 32
  omega

theorem encodeSyms_eos_eq (props : Props) (dict : Nat) (p : List Sym) :
    encodeSyms props dict (p ++ [.eos]) = encodeSyms props dict (p ++ [.mtch 0x100000000 2]) := by
  rw [encodeSyms_events, encodeSyms_events, progEvents_append, progEvents_append]
  rfl

/-- the distance part of the marker, for every decoded length `l`: position slot 63 (in the
slot tree of `min l 3`), 26 direct bits all one, 4 align bits all one -/
theorem distEv_long_marker (l : Nat) :
    distEv l 0xFFFFFFFF =
      bitTreeEv (.posSlot (if l > 3 then 3 else l)) 6 1 63 ++
        (directEv 26 0xFFFFFFF ++ revBitTreeEv .align 0 4 1 0xF) := by
  unfold distEv
  simp only [posSlotOf_marker]
  congr 1

/-- the 26 direct bits of the marker's distance force a shift, whatever its length field -/
theorem forcesRead_long_marker (c : ECtx) (l : Nat) (rest : List Ev) :
    ForcesRead (rawSymEvents c (.mtch l 0xFFFFFFFF) ++ rest) := by
  have : rawSymEvents c (.mtch l 0xFFFFFFFF) ++ rest =
      ([.pbit (.isMatch ((c.state <<< 4) + c.posState)) true, .pbit (.isRep c.state) false] ++
        lenEv false c.posState l ++ bitTreeEv (.posSlot (if l > 3 then 3 else l)) 6 1 63) ++
      (directEv 26 0xFFFFFFF ++ (revBitTreeEv .align 0 4 1 0xF ++ rest)) := by
    simp only [rawSymEvents, distEv_long_marker, List.append_assoc]
  rw [this]
  exact ForcesRead.append_left _ (forcesRead_direct (by omega) _ _)

/-- the end marker cannot be coded without shifting: before it the decoder's reader is not empty -/
theorem forcesRead_marker (c : ECtx) (rest : List Ev) :
    ForcesRead (rawSymEvents c (.mtch 0 0xFFFFFFFF) ++ rest) :=
  forcesRead_long_marker c 0 rest

end Lzma
