/-
  C05 — the symbol loop `process_mode`: invariants (from the C07 safety layer), the loop
  body with an explicit continuation, irrelevance of the fuel, the fuel-free loop `PL` and
  the one-shot tail `fin` (`.finish` loop, size check, `output.finish`).
-/
import LzmaProofs.Lemmas.StreamEquiv
import LzmaProofs.Lemmas.Need20Sym
import LzmaProofs.Lemmas.Window
namespace Lzma
namespace StreamEq

open DState Safety

/-! ## the invariant of the data phase -/

structure Inv (s : DState) (w : Circ) (rc : RC) : Prop where
  ds : DStateInv s
  cw : CircSafe w
  dict : w.dictSize < 4294967296
  rc : RCInv rc

theorem applySym_dict {s : DState} {w : Circ} {rc : RC} {rd : Rd} {sym : RawSym} (hw : CircSafe w)
    {snk k : Sink} {st : Status} {s' : DState} {w' : Circ}
    (h : applySym s w rc rd sym snk = (k, .ok (st, s', w'))) : w'.dictSize = w.dictSize := by
  rcases (applySym_ok h).2 with ⟨-, -, -, -, rfl, -⟩ | ⟨-, ⟨b, ha⟩ | ⟨l, d, ha⟩⟩
  · rfl
  · exact (Circ.appendLiteral_size_le ha hw.2.2.2.2.2).2.2
  · exact (Circ.appendLz_size_le ha hw.2.2.2.2.2).2.2

/-- measure of the symbol loop: staged + visible bytes, then the range -/
def lmu (s : DState) (rc : RC) (a : Bytes) : Nat :=
  (a.length + s.partialBuf.length) * 4294967296 + rc.range

theorem processNext_inv {s : DState} {w : Circ} {rc : RC} {a : Bytes} {snk k : Sink}
    {st : Status} {s' : DState} {w' : Circ} {rc' : RC} {rd' : Rd} (hI : Inv s w rc)
    (h : processNext s w rc ⟨a, false⟩ snk = (k, .ok (st, s', w', rc', rd'))) :
    Inv s' w' rc' ∧ rd'.bad = false ∧ rd'.rem <:+ a ∧
      rd'.rem.length * 4294967296 + rc'.range < a.length * 4294967296 + rc.range ∧
      s'.partialBuf = s.partialBuf ∧ s'.unpackedSize = s.unpackedSize := by
  have h1 := processNext_safe (ω := Circ) ⟨a, false⟩ hI.ds hI.cw hI.rc snk
  rw [h] at h1
  obtain ⟨hds, hcw, hrc, _, hmu, hpb, hus⟩ := h1
  obtain ⟨sym, probs, hr, ha⟩ := processNext_ok_iff.1 h
  obtain ⟨hb, hsuf, _⟩ := runDec_ok_app true _ _ _ _ _ _ _ _ hr
  have hd := applySym_dict hI.cw ha
  exact ⟨⟨hds, hcw, by rw [hd]; exact hI.dict, hrc⟩, hb, hsuf, hmu, hpb, hus⟩

/-! ## the loop body with an explicit continuation -/

/-- the body of `processLoop` with the recursive call replaced by `k` -/
def loopBody (mode : Mode) (k : DState → Circ → RC → Rd → M (DState × Circ × RC × Rd))
    (s : DState) (w : Circ) (rc : RC) (rd : Rd) : M (DState × Circ × RC × Rd) := do
  let stop ← liftE (stopTest mode s w rc rd)
  if stop then pure (s, w, rc, rd)
  else if !s.partialBuf.isEmpty then do
    let (s, rd) ← liftE (s.readPartialInputBuf rd)
    if mode = .stream ∧ s.partialBuf.length < MAX_REQUIRED_INPUT ∧
        !(s.tryProcessNext w s.partialBuf rc) then
      pure (s, w, rc, rd)
    else do
      let (st, s', w, rc, tmp) ← processNext s w rc (Rd.ofBytes s.partialBuf)
      let s := { s' with partialBuf := tmp.rem }
      if st = .finished then pure (s, w, rc, rd) else k s w rc rd
  else do
    liftE rd.fillBuf
    if mode = .stream ∧ rd.rem.length < MAX_REQUIRED_INPUT ∧ !(s.tryProcessNext w rd.rem rc) then do
      let (s, rd) ← liftE (s.readPartialInputBuf rd)
      pure (s, w, rc, rd)
    else do
      let (st, s, w, rc, rd) ← processNext s w rc rd
      if st = .finished then pure (s, w, rc, rd) else k s w rc rd

theorem processLoop_succ (mode : Mode) (f : Nat) (s : DState) (w : Circ) (rc : RC) (rd : Rd) :
    processLoop mode (f + 1) s w rc rd = loopBody mode (processLoop mode f) s w rc rd := rfl

/-- the loop's stop test on a flat reader -/
def stopB (mode : Mode) (s : DState) (w : Circ) (rc : RC) (a : Bytes) : Bool :=
  match s.unpackedSize with
  | some n => decide (w.len ≥ n)
  | none =>
    match mode with
    | .stream => a.isEmpty && s.partialBuf.isEmpty
    | .finish => (rc.code == 0 && a.isEmpty) && s.partialBuf.isEmpty

theorem stop_eq (mode : Mode) (s : DState) (w : Circ) (rc : RC) (a : Bytes) :
    stopTest mode s w rc ⟨a, false⟩ = .ok (stopB mode s w rc a) := by
  unfold stopTest stopB
  cases s.unpackedSize with
  | some n => rfl
  | none =>
    cases mode with
    | stream => cases a <;> rfl
    | finish => rw [isFinishedOk_flat]; rfl

theorem LB_stop {mode : Mode} {k} {s : DState} {w : Circ} {rc : RC} {a : Bytes} (snk : Sink)
    (h : stopB mode s w rc a = true) :
    loopBody mode k s w rc ⟨a, false⟩ snk = (snk, .ok (s, w, rc, ⟨a, false⟩)) := by
  unfold loopBody
  rw [stop_eq]
  simp [bind_run, h]

/-- the part of an iteration after `process_next` -/
def pnTail (k : DState → Circ → RC → Rd → M (DState × Circ × RC × Rd)) (a1 : Rd) (stage : Bool)
    (res : Sink × Except Err (Status × DState × Circ × RC × Rd)) :
    Sink × Except Err (DState × Circ × RC × Rd) :=
  match res with
  | (k', Except.ok (st, s', w', rc', tmp)) =>
    if stage then
      (if st = .finished then (k', Except.ok ({ s' with partialBuf := tmp.rem }, w', rc', a1))
       else k { s' with partialBuf := tmp.rem } w' rc' a1 k')
    else
      (if st = .finished then (k', Except.ok (s', w', rc', tmp)) else k s' w' rc' tmp k')
  | (k', Except.error e) => (k', Except.error e)

theorem readPartial_eq (s : DState) (a : Bytes) :
    s.readPartialInputBuf ⟨a, false⟩ =
      .ok ({ s with partialBuf := s.partialBuf ++ a.take (min (20 - s.partialBuf.length) a.length) },
        ⟨a.drop (min (20 - s.partialBuf.length) a.length), false⟩) := by
  simp [readPartialInputBuf, MAX_REQUIRED_INPUT]

theorem LB_buf_ret {mode : Mode} {k} {s s1 : DState} {w : Circ} {rc : RC} {a : Bytes} {rd1 : Rd} (snk : Sink)
    (h : stopB mode s w rc a = false) (hpb : s.partialBuf ≠ [])
    (hr : s.readPartialInputBuf ⟨a, false⟩ = .ok (s1, rd1))
    (hc : mode = .stream ∧ s1.partialBuf.length < 20 ∧ tryProcessNext s1 w s1.partialBuf rc = false) :
    loopBody mode k s w rc ⟨a, false⟩ snk = (snk, .ok (s1, w, rc, rd1)) := by
  unfold loopBody
  rw [stop_eq, hr]
  have hne : s.partialBuf.isEmpty = false := by cases hs : s.partialBuf <;> simp_all
  have hc' : mode = .stream ∧ s1.partialBuf.length < MAX_REQUIRED_INPUT ∧
      (!tryProcessNext s1 w s1.partialBuf rc) = true := by
    simpa [MAX_REQUIRED_INPUT] using hc
  simp only [bind_run, liftE_ok, h, Bool.false_eq_true, if_false, hne, Bool.not_false, if_true]
  rw [if_pos hc']
  rfl

theorem LB_buf_next {mode : Mode} {k} {s s1 : DState} {w : Circ} {rc : RC} {a : Bytes} {rd1 : Rd} (snk : Sink)
    (h : stopB mode s w rc a = false) (hpb : s.partialBuf ≠ [])
    (hr : s.readPartialInputBuf ⟨a, false⟩ = .ok (s1, rd1))
    (hc : ¬ (mode = .stream ∧ s1.partialBuf.length < 20 ∧ tryProcessNext s1 w s1.partialBuf rc = false)) :
    loopBody mode k s w rc ⟨a, false⟩ snk =
      pnTail k rd1 true (processNext s1 w rc ⟨s1.partialBuf, false⟩ snk) := by
  unfold loopBody
  rw [stop_eq, hr]
  have hne : s.partialBuf.isEmpty = false := by cases hs : s.partialBuf <;> simp_all
  have hc' : ¬ (mode = .stream ∧ s1.partialBuf.length < MAX_REQUIRED_INPUT ∧
      (!tryProcessNext s1 w s1.partialBuf rc) = true) := by
    simpa [MAX_REQUIRED_INPUT] using hc
  simp only [bind_run, liftE_ok, h, Bool.false_eq_true, if_false, hne, Bool.not_false, if_true]
  rw [if_neg hc', bind_run]
  show _ = pnTail k rd1 true (processNext s1 w rc (Rd.ofBytes s1.partialBuf) snk)
  rcases processNext s1 w rc (Rd.ofBytes s1.partialBuf) snk with ⟨k', r⟩
  cases r with
  | error e => rfl
  | ok y =>
    obtain ⟨st, s', w', rc', tmp⟩ := y
    simp only [pnTail, if_true]
    split <;> rfl

theorem LB_direct_ret {mode : Mode} {k} {s : DState} {w : Circ} {rc : RC} {a : Bytes} (snk : Sink)
    (h : stopB mode s w rc a = false) (hpb : s.partialBuf = [])
    (hc : mode = .stream ∧ a.length < 20 ∧ tryProcessNext s w a rc = false) :
    loopBody mode k s w rc ⟨a, false⟩ snk =
      (snk, .ok ({ s with partialBuf := a }, w, rc, ⟨[], false⟩)) := by
  unfold loopBody
  have hr : s.readPartialInputBuf ⟨a, false⟩ = .ok ({ s with partialBuf := a }, ⟨[], false⟩) := by
    rw [readPartial_eq, hpb]
    have : min (20 - ([] : Bytes).length) a.length = a.length := by simp; omega
    rw [this]; simp
  rw [stop_eq, hr]
  have hne : s.partialBuf.isEmpty = true := by simp [hpb]
  have hc' : mode = .stream ∧ a.length < MAX_REQUIRED_INPUT ∧ (!tryProcessNext s w a rc) = true := by
    simpa [MAX_REQUIRED_INPUT] using hc
  simp only [bind_run, liftE_ok, h, Bool.false_eq_true, if_false, hne, Bool.not_true, Rd.fillBuf,
    Bool.and_false]
  rw [if_pos hc']
  rfl

theorem LB_direct_next {mode : Mode} {k} {s : DState} {w : Circ} {rc : RC} {a : Bytes} (snk : Sink)
    (h : stopB mode s w rc a = false) (hpb : s.partialBuf = [])
    (hc : ¬ (mode = .stream ∧ a.length < 20 ∧ tryProcessNext s w a rc = false)) :
    loopBody mode k s w rc ⟨a, false⟩ snk =
      pnTail k ⟨[], false⟩ false (processNext s w rc ⟨a, false⟩ snk) := by
  unfold loopBody
  rw [stop_eq]
  have hne : s.partialBuf.isEmpty = true := by simp [hpb]
  have hc' : ¬ (mode = .stream ∧ a.length < MAX_REQUIRED_INPUT ∧ (!tryProcessNext s w a rc) = true) := by
    simpa [MAX_REQUIRED_INPUT] using hc
  simp only [bind_run, liftE_ok, h, Bool.false_eq_true, if_false, hne, Bool.not_true, Rd.fillBuf,
    Bool.and_false]
  rw [if_neg hc', bind_run]
  rcases processNext s w rc ⟨a, false⟩ snk with ⟨k', r⟩
  cases r with
  | error e => rfl
  | ok y =>
    obtain ⟨st, s', w', rc', tmp⟩ := y
    simp only [pnTail, Bool.false_eq_true, if_false]
    split <;> rfl

/-! ## facts about `read_partial_input_buf` -/

theorem readPartial_facts {s : DState} {w : Circ} {rc : RC} (a : Bytes) (hI : Inv s w rc) :
    ∃ pb1 a1, s.readPartialInputBuf ⟨a, false⟩ = .ok ({ s with partialBuf := pb1 }, ⟨a1, false⟩) ∧
      s.partialBuf ++ a = pb1 ++ a1 ∧ pb1.length ≤ 20 ∧ (pb1.length < 20 → a1 = []) ∧
      Inv { s with partialBuf := pb1 } w rc ∧ a1 <:+ a ∧
      (s.partialBuf.length < 20 → a ≠ [] → a1.length < a.length) ∧
      (s.partialBuf ≠ [] → pb1 ≠ []) ∧
      a1.length + pb1.length = a.length + s.partialBuf.length := by
  have hpl := hI.ds.pbuf
  refine ⟨_, _, readPartial_eq s a, ?_, ?_, ?_, ?_, ?_, ?_, ?_, ?_⟩
  · rw [List.append_assoc, List.take_append_drop]
  · simp only [List.length_append, List.length_take]; omega
  · intro h
    simp only [List.length_append, List.length_take] at h
    apply List.drop_eq_nil_of_le; omega
  · refine ⟨hI.ds.of_eq rfl hI.ds.state rfl ?_, hI.cw, hI.dict, hI.rc⟩
    simp only [List.length_append, List.length_take]; omega
  · exact List.drop_suffix _ _
  · intro h1 h2
    have : 0 < a.length := List.length_pos_iff.mpr h2
    simp only [List.length_drop]; omega
  · intro h1 h2
    exact h1 (List.append_eq_nil_iff.mp h2).1
  · simp only [List.length_append, List.length_take, List.length_drop]; omega

/-! ## the fuel is irrelevant once it exceeds the measure -/

theorem mu_step {a1 pb1 al pl t r r' K : Nat} (hlen : a1 + pb1 = al + pl)
    (hmu : t * K + r' < pb1 * K + r) : (a1 + t) * K + r' < (al + pl) * K + r := by
  rw [← hlen, Nat.add_mul, Nat.add_mul]; omega

theorem fuel_bound {x r K : Nat} (h : r < K) : x * K + r < (x + 1) * K + 1 := by
  rw [Nat.add_mul]; omega

theorem loopBody_congr {mode : Mode} {k1 k2} {s : DState} {w : Circ} {rc : RC} {a : Bytes} (snk : Sink)
    (hI : Inv s w rc)
    (hk : ∀ s' w' rc' a' snk', Inv s' w' rc' → lmu s' rc' a' < lmu s rc a →
      k1 s' w' rc' ⟨a', false⟩ snk' = k2 s' w' rc' ⟨a', false⟩ snk') :
    loopBody mode k1 s w rc ⟨a, false⟩ snk = loopBody mode k2 s w rc ⟨a, false⟩ snk := by
  cases hs : stopB mode s w rc a with
  | true => rw [LB_stop snk hs, LB_stop snk hs]
  | false =>
    by_cases hpb : s.partialBuf = []
    · by_cases hc : (mode = .stream ∧ a.length < 20 ∧ tryProcessNext s w a rc = false)
      · rw [LB_direct_ret snk hs hpb hc, LB_direct_ret snk hs hpb hc]
      · rw [LB_direct_next snk hs hpb hc, LB_direct_next snk hs hpb hc]
        rcases hr : processNext s w rc ⟨a, false⟩ snk with ⟨k', r⟩
        cases r with
        | error e => rfl
        | ok y =>
          obtain ⟨st, s', w', rc', rd'⟩ := y
          obtain ⟨hI', hbad, hsuf, hmu, hpb', _⟩ := processNext_inv hI hr
          obtain ⟨a', _⟩ := rd'
          simp only at hbad hsuf hmu
          subst hbad
          simp only [pnTail, Bool.false_eq_true, if_false]
          split
          · rfl
          · refine hk _ _ _ _ _ hI' ?_
            simp only [lmu, hpb', hpb, List.length_nil, Nat.add_zero]
            exact hmu
    · obtain ⟨pb1, a1, hr, _, hl20, _, hI1, _, _, _, hlen⟩ := readPartial_facts a hI
      by_cases hc : (mode = .stream ∧ ({ s with partialBuf := pb1 } : DState).partialBuf.length < 20 ∧
          tryProcessNext { s with partialBuf := pb1 } w ({ s with partialBuf := pb1 } : DState).partialBuf rc = false)
      · rw [LB_buf_ret snk hs hpb hr hc, LB_buf_ret snk hs hpb hr hc]
      · rw [LB_buf_next snk hs hpb hr hc, LB_buf_next snk hs hpb hr hc]
        show pnTail k1 _ true (processNext { s with partialBuf := pb1 } w rc ⟨pb1, false⟩ snk) =
          pnTail k2 _ true (processNext { s with partialBuf := pb1 } w rc ⟨pb1, false⟩ snk)
        rcases hp : processNext { s with partialBuf := pb1 } w rc ⟨pb1, false⟩ snk with ⟨k', r⟩
        cases r with
        | error e => rfl
        | ok y =>
          obtain ⟨st, s', w', rc', tmp⟩ := y
          obtain ⟨hI', hbad, hsuf, hmu, hpb', _⟩ := processNext_inv hI1 hp
          simp only [pnTail, if_true]
          split
          · rfl
          · have hle : tmp.rem.length ≤ pb1.length := hsuf.length_le
            refine hk _ _ _ _ _ ⟨hI'.ds.of_eq rfl hI'.ds.state rfl (by show tmp.rem.length ≤ 20; omega),
              hI'.cw, hI'.dict, hI'.rc⟩ ?_
            have hmu' : tmp.rem.length * 4294967296 + rc'.range < pb1.length * 4294967296 + rc.range := hmu
            show (a1.length + tmp.rem.length) * 4294967296 + rc'.range <
              (a.length + s.partialBuf.length) * 4294967296 + rc.range
            exact mu_step hlen hmu'

theorem processLoop_fuel (mode : Mode) : ∀ (f1 f2 : Nat) (s : DState) (w : Circ) (rc : RC) (a : Bytes)
    (snk : Sink), Inv s w rc → lmu s rc a < f1 → lmu s rc a < f2 →
    processLoop mode f1 s w rc ⟨a, false⟩ snk = processLoop mode f2 s w rc ⟨a, false⟩ snk := by
  intro f1
  induction f1 with
  | zero => intro f2 s w rc a snk _ h; omega
  | succ f1 ih =>
    intro f2 s w rc a snk hI h1 h2
    cases f2 with
    | zero => omega
    | succ f2 =>
      rw [processLoop_succ, processLoop_succ]
      refine loopBody_congr snk hI ?_
      intro s' w' rc' a' snk' hI' hlt
      exact ih f2 s' w' rc' a' snk' hI' (by omega) (by omega)

/-- the loop of `process_mode` with the model's own fuel -/
def PL (mode : Mode) (s : DState) (w : Circ) (rc : RC) (rd : Rd) : M (DState × Circ × RC × Rd) :=
  processLoop mode (loopFuel s rd) s w rc rd

theorem lmu_lt_loopFuel {s : DState} {w : Circ} {rc : RC} (a : Bytes) (hI : Inv s w rc) :
    lmu s rc a < loopFuel s ⟨a, false⟩ := by
  exact fuel_bound hI.rc.2.1

theorem PL_unfold {mode : Mode} {s : DState} {w : Circ} {rc : RC} (a : Bytes) (snk : Sink)
    (hI : Inv s w rc) :
    PL mode s w rc ⟨a, false⟩ snk = loopBody mode (PL mode) s w rc ⟨a, false⟩ snk := by
  obtain ⟨F, hF⟩ : ∃ F, loopFuel s ⟨a, false⟩ = F + 1 := ⟨_, rfl⟩
  have hlt0 := lmu_lt_loopFuel a hI
  unfold PL
  rw [hF] at hlt0 ⊢
  rw [processLoop_succ]
  refine loopBody_congr snk hI ?_
  intro s' w' rc' a' snk' hI' hlt
  exact processLoop_fuel mode _ _ _ _ _ _ _ hI' (by omega) (lmu_lt_loopFuel a' hI')

theorem processLoop_eq_PL {mode : Mode} {s : DState} {w : Circ} {rc : RC} (a : Bytes) (snk : Sink)
    (hI : Inv s w rc) {n : Nat} (hn : lmu s rc a < n) :
    processLoop mode n s w rc ⟨a, false⟩ snk = PL mode s w rc ⟨a, false⟩ snk :=
  processLoop_fuel mode _ _ _ _ _ _ _ hI hn (lmu_lt_loopFuel a hI)

/-! ## the one-shot tail -/

/-- the size check of `process_mode(Finish)` followed by `output.finish()` -/
def postOf (u : Option Nat) (w : Circ) : M Unit :=
  match u with
  | some n => if n ≠ w.len then throwM .lzma else w.finish
  | none => w.finish

/-- the size check and `finish` applied to a loop result -/
def finK (r : Sink × Except Err (DState × Circ × RC × Rd)) : Sink × Except Err Unit :=
  match r with
  | (k, Except.ok (s', w', _, _)) => postOf s'.unpackedSize w' k
  | (k, Except.error e) => (k, Except.error e)

/-- `.finish` loop on the remaining input `R`, size check, `output.finish()` -/
def fin (s : DState) (w : Circ) (rc : RC) (R : Bytes) : M Unit := fun snk =>
  finK (PL .finish s w rc ⟨R, false⟩ snk)

theorem fin_eq (s : DState) (w : Circ) (rc : RC) (R : Bytes) (snk : Sink) :
    fin s w rc R snk = finK (PL .finish s w rc ⟨R, false⟩ snk) := rfl

attribute [irreducible] PL

theorem fin_stop {s : DState} {w : Circ} {rc : RC} {R : Bytes} (snk : Sink) (hI : Inv s w rc)
    (h : stopB .finish s w rc R = true) : fin s w rc R snk = postOf s.unpackedSize w snk := by
  rw [fin_eq, PL_unfold R snk hI, LB_stop snk h]
  rfl

theorem pnTail_err (K) (a1 : Rd) (stage : Bool) (k : Sink) (e : Err) :
    pnTail K a1 stage (k, .error e) = (k, .error e) := rfl

theorem pnTail_cont (K) (a1 : Rd) (k : Sink) (s' : DState) (w' : Circ) (rc' : RC) (tmp : Rd) :
    pnTail K a1 false (k, .ok (.continue, s', w', rc', tmp)) = K s' w' rc' tmp k := rfl

theorem pnTail_fin (K) (a1 : Rd) (k : Sink) (s' : DState) (w' : Circ) (rc' : RC) (tmp : Rd) :
    pnTail K a1 false (k, .ok (.finished, s', w', rc', tmp)) = (k, .ok (s', w', rc', tmp)) := rfl

theorem pnTail_cont_buf (K) (a1 : Rd) (k : Sink) (s' : DState) (w' : Circ) (rc' : RC) (tmp : Rd) :
    pnTail K a1 true (k, .ok (.continue, s', w', rc', tmp)) =
      K { s' with partialBuf := tmp.rem } w' rc' a1 k := rfl

theorem pnTail_fin_buf (K) (a1 : Rd) (k : Sink) (s' : DState) (w' : Circ) (rc' : RC) (tmp : Rd) :
    pnTail K a1 true (k, .ok (.finished, s', w', rc', tmp)) =
      (k, .ok ({ s' with partialBuf := tmp.rem }, w', rc', a1)) := rfl

theorem finK_ok (k : Sink) (s' : DState) (w' : Circ) (rc' : RC) (rd' : Rd) :
    finK (k, .ok (s', w', rc', rd')) = postOf s'.unpackedSize w' k := rfl

theorem finK_err (k : Sink) (e : Err) : finK (k, .error e) = (k, .error e) := rfl

theorem fin_next_err {s : DState} {w : Circ} {rc : RC} {R : Bytes} {snk k : Sink} {e : Err}
    (hI : Inv s w rc) (hpb : s.partialBuf = []) (h : stopB .finish s w rc R = false)
    (hp : processNext s w rc ⟨R, false⟩ snk = (k, .error e)) :
    fin s w rc R snk = (k, .error e) := by
  rw [fin_eq, PL_unfold R snk hI, LB_direct_next snk h hpb (by simp), hp, pnTail_err, finK_err]

theorem fin_next_cont {s s' : DState} {w w' : Circ} {rc rc' : RC} {R R' : Bytes} {snk k : Sink}
    (hI : Inv s w rc) (hpb : s.partialBuf = []) (h : stopB .finish s w rc R = false)
    (hp : processNext s w rc ⟨R, false⟩ snk = (k, .ok (.continue, s', w', rc', ⟨R', false⟩))) :
    fin s w rc R snk = fin s' w' rc' R' k := by
  rw [fin_eq, PL_unfold R snk hI, LB_direct_next snk h hpb (by simp), hp, pnTail_cont, fin_eq]

theorem fin_next_fin {s s' : DState} {w w' : Circ} {rc rc' : RC} {R : Bytes} {rd' : Rd} {snk k : Sink}
    (hI : Inv s w rc) (hpb : s.partialBuf = []) (h : stopB .finish s w rc R = false)
    (hp : processNext s w rc ⟨R, false⟩ snk = (k, .ok (.finished, s', w', rc', rd'))) :
    fin s w rc R snk = postOf s'.unpackedSize w' k := by
  rw [fin_eq, PL_unfold R snk hI, LB_direct_next snk h hpb (by simp), hp, pnTail_fin, finK_ok]

end StreamEq
end Lzma
