/-
  C07: the `.xz` container.  Every parser returns a reader no longer than the one it got and
  each block consumes at least its header-size byte, so the block loop's bound is never hit.
-/
import LzmaProofs.Lemmas.SafetyLzma2
import LzmaProofs.Lemmas.XzInv
namespace Lzma
namespace Safety

theorem tryFrom_safe (id : Nat) : ESafe (fun _ => True) (CheckMethod.tryFrom id) := by
  unfold CheckMethod.tryFrom
  repeat' split
  all_goals first | trivial | rfl

theorem parseStreamFlags_safe (f : Nat) : ESafe (fun _ => True) (parseStreamFlags f) := by
  unfold parseStreamFlags
  split
  · rfl
  · exact tryFrom_safe _

theorem parseStreamHeader_safe (rd : Rd) :
    ESafe (fun x => x.2.rem.length ≤ rd.rem.length) (parseStreamHeader rd) := by
  unfold parseStreamHeader
  refine (readTag_safe rd _).bind ?_
  rintro ⟨ok, rd1⟩ h1
  refine ESafe_guard rfl ?_
  refine (readExact_safe rd1 2).bind ?_
  rintro ⟨fb, rd2⟩ ⟨h2, _⟩
  refine (readU32LE_safe rd2).bind ?_
  rintro ⟨crc, rd3⟩ ⟨h3, _⟩
  refine ESafe_guard rfl ?_
  refine (parseStreamFlags_safe _).bind ?_
  intro check _
  refine ESafe_pure.mpr ?_
  dsimp only at h1 h2 h3 ⊢; omega

theorem getMultibyteAux_safe : ∀ (fuel i result : Nat) (acc : Bytes) (rd : Rd),
    ESafe (fun x => x.2.2.rem.length ≤ rd.rem.length) (getMultibyteAux fuel i result acc rd) := by
  intro fuel
  induction fuel with
  | zero => intro i result acc rd; rfl
  | succ fuel ih =>
    intro i result acc rd
    unfold getMultibyteAux
    refine (readU8_safe rd).bind ?_
    rintro ⟨byte, rd1⟩ h1
    dsimp only at h1 ⊢
    split
    · refine ESafe_pure.mpr ?_
      dsimp only; omega
    · refine (ih _ _ _ rd1).mono ?_
      intro x hx; omega

theorem getMultibyte_safe (rd : Rd) :
    ESafe (fun x => x.2.2.rem.length ≤ rd.rem.length) (getMultibyte rd) :=
  getMultibyteAux_safe 9 0 0 [] rd

theorem readZeroBytes_safe : ∀ (n : Nat) (acc : Bytes) (rd : Rd),
    ESafe (fun x => x.2.rem.length + n = rd.rem.length) (readZeroBytes n acc rd) := by
  intro n
  induction n with
  | zero => intro acc rd; exact ESafe_pure.mpr rfl
  | succ n ih =>
    intro acc rd
    unfold readZeroBytes
    refine (readU8_safe rd).bind ?_
    rintro ⟨b, rd1⟩ h1
    refine ESafe_guard rfl ((ih _ rd1).mono ?_)
    intro x hx; dsimp only at h1; omega

theorem checkRecords_safe : ∀ (rs : List Record) (dig : Bytes) (rd : Rd),
    ESafe (fun x => x.2.rem.length ≤ rd.rem.length) (checkRecords rs dig rd) := by
  intro rs
  induction rs with
  | nil => intro dig rd; exact ESafe_pure.mpr (Nat.le_refl _)
  | cons r rs ih =>
    intro dig rd
    unfold checkRecords
    refine (getMultibyte_safe rd).bind ?_
    rintro ⟨unpadded, b1, rd1⟩ h1
    refine ESafe_guard rfl ?_
    refine (getMultibyte_safe rd1).bind ?_
    rintro ⟨unpacked, b2, rd2⟩ h2
    refine ESafe_guard rfl ((ih _ rd2).mono ?_)
    intro x hx; dsimp only at h1 h2; omega

theorem checkIndex_safe (start : Nat) (records : List Record) (rd : Rd) :
    ESafe (fun rd' => rd'.rem.length ≤ rd.rem.length) (checkIndex start records rd) := by
  unfold checkIndex
  refine (getMultibyte_safe rd).bind ?_
  rintro ⟨numRecords, b, rd1⟩ h1
  refine ESafe_guard rfl ?_
  refine (checkRecords_safe records _ rd1).bind ?_
  rintro ⟨dig, rd2⟩ h2
  refine (readZeroBytes_safe _ [] rd2).bind ?_
  rintro ⟨pad, rd3⟩ h3
  refine (readU32LE_safe rd3).bind ?_
  rintro ⟨crc, rd4⟩ ⟨h4, _⟩
  refine ESafe_guard rfl (ESafe_pure.mpr ?_)
  dsimp only at h1 h2 h3 h4 ⊢; omega

theorem readFilters_safe : ∀ (n headerSize : Nat) (acc : List Filter) (rd : Rd),
    ESafe (fun x => x.2.rem.length ≤ rd.rem.length) (readFilters n headerSize acc rd) := by
  intro n
  induction n with
  | zero => intro hs acc rd; exact ESafe_pure.mpr (Nat.le_refl _)
  | succ n ih =>
    intro hs acc rd
    unfold readFilters
    refine (getMultibyte_safe rd).bind ?_
    rintro ⟨id, b1, rd1⟩ h1
    refine ESafe_guard rfl ?_
    refine (getMultibyte_safe rd1).bind ?_
    rintro ⟨sz, b2, rd2⟩ h2
    refine ESafe_guard rfl ?_
    have := readExact_safe rd2 sz
    dsimp -zeta only
    split
    · rename_i x hx
      rw [hx] at this
      refine (ih _ _ x.2).mono ?_
      intro y hy
      have := this.1
      dsimp only at h1 h2; omega
    · rfl

theorem readBlockHeader_safe (rd : Rd) (headerSize : Nat) :
    ESafe (fun x => x.2.rem.length ≤ rd.rem.length) (readBlockHeader rd headerSize) := by
  unfold readBlockHeader
  refine (readU8_safe rd).bind ?_
  rintro ⟨flags, rd1⟩ h1
  refine ESafe_guard rfl ?_
  -- an optional multibyte field, then the rest `k` of the header
  have opt : ∀ {α : Type} (c : Prop) [Decidable c] (rd2 : Rd) (k : Option Nat × Rd → Except Err α)
      {Q : α → Prop}, (∀ x : Option Nat × Rd, x.2.rem.length ≤ rd2.rem.length → ESafe Q (k x)) →
      ESafe Q (if c then do
          let (v, _, rd) ← getMultibyte rd2
          let x ← pure (some v, rd)
          k x
        else do
          let x ← pure (none, rd2)
          k x) := by
    intro α c _ rd2 k Q hk
    split
    · refine (getMultibyte_safe rd2).bind ?_
      rintro ⟨v, _, rd3⟩ h
      exact hk _ h
    · exact hk _ (Nat.le_refl _)
  refine opt _ rd1 _ ?_
  rintro ⟨ps, rd2⟩ h2
  refine opt _ rd2 _ ?_
  rintro ⟨us, rd3⟩ h3
  refine (readFilters_safe _ _ _ rd3).bind ?_
  rintro ⟨filters, rd4⟩ h4
  refine (flushZeroPadding_safe rd4).bind ?_
  rintro ⟨ok, rd5⟩ h5
  refine ESafe_guard rfl (ESafe_pure.mpr ?_)
  dsimp only at h1 h2 h3 h4 h5 ⊢; omega

theorem decodeFilter_safe (rd : Rd) (f : Filter) :
    ESafe (fun x => x.2.rem.length ≤ rd.rem.length) (decodeFilter rd f) := by
  unfold decodeFilter
  refine ESafe_guard rfl (Lzma2Decoder_new_safe.bind ?_)
  intro d hd
  have := Lzma2Decoder_decompress_safe hd rd {}
  split
  · rename_i snk d' rd' heq
    rw [heq] at this
    exact ESafe_pure.mpr this.2
  · rename_i snk e heq
    rw [heq] at this
    exact this

theorem laterFilters_safe : ∀ (fs : List Filter) (buf : Bytes),
    ESafe (fun _ => True) (laterFilters fs buf) := by
  intro fs
  induction fs with
  | nil => intro buf; trivial
  | cons f fs ih =>
    intro buf
    unfold laterFilters
    refine (decodeFilter_safe _ f).bind ?_
    rintro ⟨nb, _⟩ _
    exact ih nb

theorem validateBlockCheck_safe (rd : Rd) (buf : Bytes) (c : CheckMethod) :
    ESafe (fun rd' => rd'.rem.length ≤ rd.rem.length) (validateBlockCheck rd buf c) := by
  -- a checksum of `n` bytes is read and compared
  have cmp : ∀ {n : Nat} (rd1 : Rd) (c : Prop) [Decidable c], rd1.rem.length + n = rd.rem.length →
      ESafe (fun rd' => rd'.rem.length ≤ rd.rem.length)
        (if c then throw .xz else pure rd1 : Except Err Rd) := by
    intro n rd1 c _ h
    split
    · rfl
    · exact ESafe_pure.mpr (by omega)
  cases c with
  | none => exact ESafe_pure.mpr (Nat.le_refl _)
  | crc32 => exact (readU32LE_safe rd).bind fun ⟨_, rd1⟩ h => cmp rd1 _ h.1
  | crc64 => exact (readU64LE_safe rd).bind fun ⟨_, rd1⟩ h => cmp rd1 _ h.1
  | sha256 => rfl

theorem readBlockFilters_safe (bh : BlockHeader) (rd : Rd) :
    ESafe (fun x => x.2.rem.length ≤ rd.rem.length) (readBlockFilters bh rd) := by
  unfold readBlockFilters
  split
  · exact ESafe_pure.mpr (Nat.le_refl _)
  · rename_i f fs _
    refine (decodeFilter_safe rd f).bind ?_
    rintro ⟨buf, rd1⟩ h1
    have rest : ESafe (fun (x : Bytes × Rd) => x.2.rem.length ≤ rd.rem.length)
        (laterFilters fs buf >>= fun buf => pure (buf, rd1)) :=
      (laterFilters_safe fs buf).bind fun b _ => ESafe_pure.mpr h1
    dsimp -zeta only
    split
    · exact ESafe_guard rfl rest
    · exact rest

theorem blockDataStage_safe (rd : Rd) (hs : UInt8) (hhs : hs ≠ 0) :
    ESafe (fun p => p.2.2.rem.length ≤ rd.rem.length) (blockDataStage rd hs) := by
  unfold blockDataStage
  have h0 : 1 ≤ hs.toNat <<< 2 := by
    have : hs.toNat ≠ 0 := fun h => hhs (UInt8.toNat_inj.mp h)
    rw [Nat.shiftLeft_eq]; omega
  rw [subChk_safe h0, ok_bind]
  have hlen := split_length rd (hs.toNat <<< 2 - 1)
  refine (readBlockHeader_safe _ _).bind ?_
  rintro ⟨bh, hdrRd⟩ h1
  refine (readU32LE_safe _).bind ?_
  rintro ⟨crc, rd2⟩ ⟨h2, _⟩
  split
  · rfl
  · refine (readBlockFilters_safe bh rd2).bind fun z h3 => ESafe_pure.mpr ?_
    dsimp only at h1 h2 h3 ⊢; rw [unsplit_length] at h2; omega

theorem readBlockTail_safe (start : Nat) (rd : Rd) (tmpbuf : Bytes) (check : CheckMethod)
    (hstart : rd.rem.length ≤ start) :
    MSafe (fun x => x.2.rem.length ≤ rd.rem.length) (readBlockTail start rd tmpbuf check) := by
  unfold readBlockTail
  refine MSafe.bind (MSafe.liftE (readZeroBytes_safe _ [] rd)) ?_
  rintro ⟨_, rd1⟩ h1
  refine MSafe.bind (MSafe.liftE (validateBlockCheck_safe rd1 tmpbuf check)) ?_
  intro rd2 h2
  refine MSafe.bind (writeAll_safe _) ?_
  intro _ _
  dsimp only at h1 ⊢
  rw [subChk_safe (by omega), liftE_ok_bind]
  exact MSafe_pure.mpr (by dsimp only; omega)

theorem readBlock_safe (start : Nat) (rd : Rd) (check : CheckMethod) (hs : UInt8)
    (hhs : hs ≠ 0) (hstart : rd.rem.length ≤ start) :
    MSafe (fun x => x.2.rem.length ≤ rd.rem.length) (readBlock start rd check hs) := by
  rw [readBlock_eq]
  refine MSafe.bind (MSafe.liftE (blockDataStage_safe rd hs hhs)) ?_
  rintro ⟨bh, tmpbuf, rd1⟩ h1
  have tail := (readBlockTail_safe start rd1 tmpbuf check (Nat.le_trans h1 hstart)).mono
    fun x hx => Nat.le_trans hx h1
  unfold blockWriteStage
  split
  · split
    · exact MSafe_throwM.mpr rfl
    · exact tail
  · exact tail

theorem blockLoop_safe (check : CheckMethod) : ∀ (fuel : Nat) (records : List Record) (rd : Rd),
    rd.rem.length < fuel →
    MSafe (fun x => x.2.rem.length ≤ rd.rem.length) (blockLoop check fuel records rd) := by
  intro fuel
  induction fuel with
  | zero => intro records rd hf; omega
  | succ fuel ih =>
    intro records rd hf
    unfold blockLoop
    refine MSafe.bind (MSafe.liftE (readU8_safe rd)) ?_
    rintro ⟨hs, rd1⟩ h1
    dsimp -zeta only at h1 ⊢
    split
    · refine MSafe.bind (MSafe.liftE (checkIndex_safe _ records rd1)) ?_
      intro rd2 h2
      refine MSafe_pure.mpr ?_
      dsimp only; omega
    · rename_i hne
      refine MSafe.bind (readBlock_safe _ rd1 check hs hne (by omega)) ?_
      rintro ⟨rec, rd2⟩ h2
      dsimp -zeta only at h2 ⊢
      refine (ih _ rd2 (by omega)).mono ?_
      intro x hx; omega

theorem xzDecompress_safe (rd : Rd) :
    MSafe (fun rd' => rd'.rem.length ≤ rd.rem.length) (xzDecompress rd) := by
  unfold xzDecompress
  refine MSafe.bind (MSafe.liftE (parseStreamHeader_safe rd)) ?_
  rintro ⟨check, rd1⟩ h1
  refine MSafe_guard rfl ?_
  refine MSafe.bind (blockLoop_safe check _ [] rd1 (by omega)) ?_
  rintro ⟨indexSize, rd2⟩ h2
  refine MSafe.bind (MSafe.liftE (readU32LE_safe rd2)) ?_
  rintro ⟨crc, rd3⟩ ⟨h3, _⟩
  refine MSafe.bind (MSafe.liftE (readExact_safe rd3 4)) ?_
  rintro ⟨bs, rd4⟩ ⟨h4, _⟩
  refine MSafe_guard rfl ?_
  refine MSafe.bind (MSafe.liftE (readExact_safe rd4 2)) ?_
  rintro ⟨fb, rd5⟩ ⟨h5, _⟩
  refine MSafe.bind (MSafe.liftE (parseStreamFlags_safe _)) ?_
  intro flags _
  refine MSafe_guard rfl (MSafe_guard rfl ?_)
  refine MSafe.bind (MSafe.liftE (readTag_safe rd5 _)) ?_
  rintro ⟨ok, rd6⟩ h6
  refine MSafe_guard rfl ?_
  refine MSafe.bind (MSafe.liftE (isEof_safe rd6)) ?_
  intro eof _
  refine MSafe_guard rfl (MSafe_pure.mpr ?_)
  dsimp only at h1 h2 h3 h4 h5 h6 ⊢; omega

theorem xzDecompress_no_panic (rd : Rd) (snk : Sink) (w : String) :
    (xzDecompress rd snk).2 ≠ .error (.panic w) :=
  (xzDecompress_safe rd snk).ne_panic w

theorem xzDecompress_terminates (rd : Rd) (snk : Sink) :
    (xzDecompress rd snk).2 ≠ .error .fuel :=
  (xzDecompress_safe rd snk).ne_fuel

end Safety
end Lzma
