/-
  History independence of the `Lzma2Decoder` object (C02, C14): a chunk list whose first LZMA
  chunk sets new properties (`StartsFresh`) is executed by ANY usable object (`Lzma2Decoder.Inv`
  of `Lemmas/Reset.lean`: table sizes intact, staging buffer empty) exactly as by the fresh one
  (`run_chunks_hist`).  (`parse_uncompressed` never touches the coder state; `reset_state` with new
  properties re-creates every table and register; `set_unpacked_size` overwrites the size; the
  window is created per `decompress` call.)
-/
import LzmaProofs.Lemmas.Lzma2ExactRun
import LzmaProofs.Lemmas.Reset
namespace Lzma
namespace L2H
open DState L2 L2E

/-- the FIRST LZMA chunk (if there is one) sets new properties (reset class ≥ 2, which implies a
state reset).  Nothing is demanded of uncompressed chunks before it (lzma-rs creates the window
per `decompress` call, so a missing dictionary reset in the first chunk cannot expose old data). -/
def StartsFresh : List SChunk → Prop
  | [] => True
  | .raw _ _ :: cs => StartsFresh cs
  | .lzma cls _ _ :: _ => cls ≥ 2

instance decStartsFresh : (cs : List SChunk) → Decidable (StartsFresh cs)
  | [] => isTrue trivial
  | .raw _ _ :: cs => decStartsFresh cs
  | .lzma cls _ _ :: _ => inferInstanceAs (Decidable (cls ≥ 2))

/-- what the format demands (and every conforming encoder produces): the first chunk resets the
dictionary — an LZMA chunk of class 3, or an uncompressed chunk with dictionary reset after which
the first LZMA chunk sets new properties -/
def StartsFreshStrict : List SChunk → Prop
  | [] => True
  | .raw rd _ :: cs => rd = true ∧ StartsFresh cs
  | .lzma cls _ _ :: _ => cls = 3

instance (cs : List SChunk) : Decidable (StartsFreshStrict cs) := by
  cases cs with
  | nil => exact isTrue trivial
  | cons c cs =>
    cases c with
    | raw rd data => unfold StartsFreshStrict; infer_instance
    | lzma cls props prog => unfold StartsFreshStrict; infer_instance

theorem StartsFreshStrict.startsFresh : ∀ {cs : List SChunk}, StartsFreshStrict cs → StartsFresh cs
  | [], _ => trivial
  | .raw _ _ :: _, h => h.2
  | .lzma cls _ _ :: _, h => by
    have h3 : cls = 3 := h
    show cls ≥ 2
    omega

def AllRaw : List SChunk → Prop
  | [] => True
  | .raw _ _ :: cs => AllRaw cs
  | .lzma _ _ _ :: _ => False

instance decAllRaw : (cs : List SChunk) → Decidable (AllRaw cs)
  | [] => isTrue trivial
  | .raw _ _ :: cs => decAllRaw cs
  | .lzma _ _ _ :: _ => isFalse id

/-- the range invariant of the safety proofs implies the size invariant of C14 -/
theorem wf_of_dinv {st : DState} (h : Safety.DStateInv st) : st.WF :=
  ⟨⟨h.probs.lit.1, h.probs.posSlot.1, h.probs.align.1, h.probs.posDec.1, h.probs.isMatch.1,
     h.probs.isRep.1, h.probs.isRepG0.1, h.probs.isRepG1.1, h.probs.isRepG2.1, h.probs.isRep0Long.1,
     ⟨h.probs.len.low.1, h.probs.len.mid.1, h.probs.len.high.1⟩,
     ⟨h.probs.repLen.low.1, h.probs.repLen.mid.1, h.probs.repLen.high.1⟩⟩, h.rows⟩

theorem exec_raw_any {r : Bool} {data : Bytes} {d1 d1' : Lzma2Decoder} {a a' : Accum} {s s' : Sink}
    (h : (Chunk.raw r data).Exec d1 a s d1' a' s') (d2 : Lzma2Decoder) :
    d1' = d1 ∧ (Chunk.raw r data).Exec d2 a s d2 a' s' :=
  ⟨h.1, rfl, h.2⟩

theorem reset_then_size {d1 d2 : Lzma2Decoder} (h1 : d1.Inv) (h2 : d2.Inv) {p : Props} {u : Option Nat}
    {st1 : DState} (h : d1.lzmaState.resetState p = .ok st1) :
    ∃ st2, d2.lzmaState.resetState p = .ok st2 ∧ st2.setUnpackedSize u = st1.setUnpackedSize u := by
  cases hv : p.validate with
  | error e => rw [DState.resetState_of_invalid _ hv] at h; cases h
  | ok x =>
    cases x
    rw [DState.resetState_eq h1.wf hv] at h
    cases h
    refine ⟨_, DState.resetState_eq h2.wf hv, ?_⟩
    simp only [DState.setUnpackedSize, h1.partialBuf, h2.partialBuf]

theorem exec_reset_any {c : UInt8} {u : Nat} {b : UInt8} {payload : Bytes} {d1 d2 d' : Lzma2Decoder}
    {a a' : Accum} {s s' : Sink} (h1 : d1.Inv) (h2 : d2.Inv) (hc : 0xA0 ≤ c.toNat)
    (h : (Chunk.packed c u (some b) payload).Exec d1 a s d' a' s') :
    (Chunk.packed c u (some b) payload).Exec d2 a s d' a' s' := by
  obtain ⟨s0, a0, st0, rc, tk, st1, rc1, tk1, e1, e2, e3, e4, e5, e6, e7, e8⟩ := h
  rw [if_pos hc] at e2
  obtain ⟨st0', g1, g2⟩ := reset_then_size h1 h2 (u := some (u + a0.len)) e2
  refine ⟨s0, a0, st0', rc, tk, st1, rc1, tk1, e1, ?_, e3, ?_, e5, e6, e7, e8⟩
  · rw [if_pos hc]; exact g1
  · rw [g2]; exact e4

/-- `d0` is the decoder coupled to the reference encoder's state `es`; `d` is ANY usable decoder
object -/
theorem run_chunks_hist {s0 : Sink} : ∀ (cs : List SChunk) (es : EncSt) (F : Bytes)
    (d0 d : Lzma2Decoder) (a : Accum) (k : Sink), Inv s0 F d0 a k es → d.Inv → WF2Aux es cs →
    StartsFresh cs →
    ∃ (chs : List Chunk) (out : Bytes) (d0' d' : Lzma2Decoder) (a' : Accum) (k' : Sink) (es' : EncSt)
      (F' : Bytes),
      expand2Aux es.spec cs = some out ∧ (∀ c ∈ chs, c.WF) ∧
      encode2Aux es cs = chs.flatMap Chunk.bytes ∧
      Run chs d0 a k d0' a' k' ∧ Run chs d a k d' a' k' ∧
      Inv s0 F' d0' a' k' es' ∧ F' ++ es'.spec.hist.toList = F ++ es.spec.hist.toList ++ out ∧
      (d' = d0' ∨ (AllRaw cs ∧ d' = d ∧ d0' = d0))
  | [], es, F, d0, d, a, k, hinv, _, _, _ =>
    ⟨[], [], d0, d, a, k, es, F, rfl, by simp, rfl, Run.nil _ _ _, Run.nil _ _ _, hinv, by simp,
      .inr ⟨trivial, rfl, rfl⟩⟩
  | .raw rd data :: cs, es, F, d0, d, a, k, hinv, hd, hwf, hsf => by
    obtain ⟨hwfc, hwfs⟩ := hwf
    obtain ⟨ch, sp', out1, d1, a1, k1, F1, h1, h2, h3, h4, h5, h6, h7, -, r', data', rfl⟩ :=
      chunk_ok hinv (.raw rd data) hwfc
    obtain ⟨hd1, h3'⟩ := exec_raw_any h3 d
    subst hd1
    obtain ⟨chs, out2, d0', d', a', k', es', F', g1, g2, g3, g4, g4', g5, g6, g7⟩ :=
      run_chunks_hist cs _ F1 d1 d a1 k1 h6 hd hwfs hsf
    rw [h5] at g1 g6
    refine ⟨.raw r' data' :: chs, out1 ++ out2, d0', d', a', k', es', F', ?_,
      List.forall_mem_cons.2 ⟨h1, g2⟩, ?_,
      Run.cons h3 g4, Run.cons h3' g4', g5, ?_, g7⟩
    · simp only [expand2Aux, h4, g1, Option.map_some]
    · simp only [encode2Aux, List.flatMap_cons, h2, g3]
    · rw [g6, h7]; simp only [List.append_assoc]
  | .lzma cls props prog :: cs, es, F, d0, d, a, k, hinv, hd, hwf, hsf => by
    obtain ⟨hwfc, hwfs⟩ := hwf
    obtain ⟨ch, sp', out1, d1, a1, k1, F1, h1, h2, h3, h4, h5, h6, h7, -, hsh⟩ :=
      chunk_ok hinv (.lzma cls props prog) hwfc
    obtain ⟨c, u, b, payload, rfl, hc⟩ := hsh hsf
    have h3' := exec_reset_any ⟨wf_of_dinv hinv.cpl.dinv, hinv.cpl.pbuf⟩ hd (by omega) h3
    obtain ⟨chs, out2, d', a', k', es', F', g1, g2, g3, g4, g5, g6⟩ :=
      run_chunks cs _ F1 d1 a1 k1 h6 hwfs
    rw [h5] at g1 g6
    refine ⟨.packed c u (some b) payload :: chs, out1 ++ out2, d', d', a', k', es', F', ?_,
      List.forall_mem_cons.2 ⟨h1, g2⟩, ?_, Run.cons h3 g4, Run.cons h3' g4, g5, ?_, .inl rfl⟩
    · simp only [expand2Aux, h4, g1, Option.map_some]
    · simp only [encode2Aux, List.flatMap_cons, h2, g3]
    · rw [g6, h7]; simp only [List.append_assoc]

end L2H
end Lzma
