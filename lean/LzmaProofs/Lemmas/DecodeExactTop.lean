/-
  From a Finish-mode run of the symbol loop to the result of `lzmaDecompress`: header,
  `LzmaDecoder::new`, `RangeDecoder::new`, fuel, `finish`.  The header enters only through what
  `read_header` returns on it (`HdrReads`); `decode_fresh` runs the decoder along a reference-encoded
  program from the fresh state, and the three end-to-end theorems (size in effect, end marker,
  out-of-window copy) follow for any header.
-/
import LzmaProofs.Lemmas.DecodeExact
import LzmaProofs.Lemmas.MemLimit
import LzmaProofs.Lemmas.SafetyLzma
namespace Lzma
open DState REnc

/-- the size in effect for a header size field -/
def sizeOfField (field : Nat) : Option Nat := if field = 0xFFFFFFFFFFFFFFFF then none else some field

/-- `read_header` under `opts` on `hdr ++ rest` (any `rest`) returns `props`, the dictionary
size `dict` and the size in effect `u`, and stands right behind `hdr` -/
def HdrReads (hdr : Bytes) (opts : Options) (props : Props) (dict : Nat) (u : Option Nat) : Prop :=
  ∀ rest : Bytes, readHeader (Rd.ofBytes (hdr ++ rest)) opts =
    .ok ({ props := props, dictSize := dict, unpackedSize := u }, { rem := rest })

/-- `tl` is the size field the option kind reads (`hlen`: eight bytes, or none for `UseProvided`);
`lzmaHeader` with and without size field unfolds to this shape -/
theorem hdrReads_built {props : Props} (hp : Safety.PropsOk props) {D : Nat} (hD : D < 2 ^ 32)
    (tl : Bytes) {opts : Options} (hlen : tl.length + 5 = hdrLen opts.unpackedSize) :
    HdrReads (UInt8.ofNat (props.lc + 9 * (props.lp + 5 * props.pb)) :: leBytes 4 D ++ tl) opts props
      (max D 4096) (effSize opts.unpackedSize (leVal tl)) := by
  intro rest
  obtain ⟨hlc, hlp, hpb⟩ := hp
  have hb : (UInt8.ofNat (props.lc + 9 * (props.lp + 5 * props.pb))).toNat =
      props.lc + 9 * (props.lp + 5 * props.pb) := by
    rw [UInt8.toNat_ofNat']; omega
  have hprops : ({ lc := (props.lc + 9 * (props.lp + 5 * props.pb)) % 9,
                   lp := (props.lc + 9 * (props.lp + 5 * props.pb)) / 9 % 5,
                   pb := (props.lc + 9 * (props.lp + 5 * props.pb)) / 45 } : Props) = props := by
    rcases props with ⟨lc, lp, pb⟩
    simp only at hlc hlp ⊢
    have d9 : (lc + 9 * (lp + 5 * pb)) / 9 = lp + 5 * pb := by
      rw [Nat.add_mul_div_left _ _ (by decide : 0 < 9), Nat.div_eq_of_lt (by omega), Nat.zero_add]
    rw [← Nat.div_div_eq_div_mul _ 9 5, d9, Nat.add_mul_mod_self_left, Nat.add_mul_mod_self_left,
      Nat.add_mul_div_left _ _ (by decide : 0 < 5), Nat.mod_eq_of_lt (by omega : lc < 9),
      Nat.mod_eq_of_lt (by omega : lp < 5), Nat.div_eq_of_lt (by omega : lp < 5), Nat.zero_add]
  have e2 : effSize opts.unpackedSize (leVal ((tl ++ rest).take 8)) =
      effSize opts.unpackedSize (leVal tl) := by
    cases hu : opts.unpackedSize with
    | useProvided x => rfl
    | _ => rw [List.take_left' (by rw [hu] at hlen; simpa [hdrLen] using hlen)]
  have e3 : (tl ++ rest).drop (hdrLen opts.unpackedSize - 5) = rest := List.drop_left' (by omega)
  rw [Rd.ofBytes, List.append_assoc, readHeader_cons_append _ _ _ _ _ (leBytes_length 4 D), hb,
    if_neg (by omega), if_neg (by rw [List.length_append]; omega), hprops, e2, e3,
    leVal_leBytes 4 D (by simpa using hD)]

theorem readHeader_lzmaHeader {props : Props} (hp : Safety.PropsOk props) {D : Nat} (hD : D < 2 ^ 32)
    {field : Nat} (hf : field < 2 ^ 64) (rest : Bytes) {opts : Options}
    (hopt : opts.unpackedSize = .readFromHeader) :
    readHeader (Rd.ofBytes (lzmaHeader props D (some field) ++ rest)) opts =
      .ok ({ props := props, dictSize := max D 4096, unpackedSize := sizeOfField field },
           { rem := rest }) := by
  have := hdrReads_built hp hD (leBytes 8 field) (opts := opts) (by rw [hopt, leBytes_length]; rfl) rest
  rwa [hopt, leVal_leBytes 8 field (by simpa using hf)] at this

theorem hdrReads_lzmaHeader {props : Props} (hp : Safety.PropsOk props) {D : Nat} (hD : D < 2 ^ 32)
    {field : Nat} (hf : field < 2 ^ 64) {opts : Options} (hopt : opts.unpackedSize = .readFromHeader) :
    HdrReads (lzmaHeader props D (some field)) opts props (max D 4096) (sizeOfField field) :=
  fun rest => readHeader_lzmaHeader hp hD hf rest hopt

/-- the decoder state `DecoderState::new` builds -/
def freshState (props : Props) (u : Option Nat) : DState :=
  { props := props, unpackedSize := u, probs := Probs.init (1 <<< (props.lc + props.lp)) }

theorem lzmaDecoder_new_eq {props : Props} (hp : Safety.PropsOk props) {dict : Nat} (hd : dict ≠ 0)
    (u : Option Nat) (ml : Option Nat) :
    LzmaDecoder.new { props := props, dictSize := dict, unpackedSize := u } ml =
      .ok { params := { props := props, dictSize := dict, unpackedSize := u },
            memlimit := ml.getD USIZE_MAX, state := freshState props u } := by
  simp [LzmaDecoder.new, DState.new, Safety.validate_ok hp, hd, bind, Except.bind, freshState,
    pure, Except.pure]

theorem decEnc_fresh {props : Props} (hp : Safety.PropsOk props) (u : Option Nat) {d m : Nat}
    (hd : 0 < d) {s0 : Sink} (hs : s0.Perfect) :
    DecEnc (circModel d m s0) (freshState props u) (Circ.fromStream d m) s0 (EncSt.new props) where
  probs := rfl
  props := rfl
  state := rfl
  rep0 := rfl
  rep1 := rfl
  rep2 := rfl
  rep3 := rfl
  lc := hp.1
  litsz := by simp [EncSt.new, Probs.init]
  pok := probsOk_init _
  win := ⟨Circ.fromStream_inv m hd, rfl, rfl, hs, by simp [flushedLen, EncSt.new]⟩
  mb := fun h => absurd h (by show ¬ (0 : Nat) ≥ 7; omega)

section assemble
variable {props : Props} {dict : Nat} {u : Option Nat} {hdr rest : Bytes} {opts : Options}
  {snk0 : Sink} {rc : RC} {rd2 : Rd}

/-- the termination theorem applies to the fresh state -/
theorem freshLoop_fuel (hp : Safety.PropsOk props) (hdict : 0 < dict) (m : Nat)
    (hrc : RC.new { rem := rest } = .ok (rc, rd2)) :
    (processLoop .finish (loopFuel (freshState props u) rd2) (freshState props u)
      (Circ.fromStream dict m) rc rd2 snk0).2 ≠ .error .fuel := by
  have hrci : Safety.RCInv rc := by
    have := Safety.RC_new_safe { rem := rest }
    rw [hrc] at this
    exact this.1
  have hsi : Safety.DStateInv (freshState props u) := by
    have := Safety.DState_new_safe hp u
    simp only [DState.new, Safety.validate_ok hp, bind, Except.bind, pure, Except.pure] at this
    exact this.1
  exact Safety.processLoop_terminates .finish _ rd2 hsi (Safety.CircSafe_fromStream hdict) hrci
    (Safety.loopFuel_suffices rd2 hrci) snk0

theorem lzmaDecompress_of_run (hp : Safety.PropsOk props) (hdict : 0 < dict)
    (hhdr : HdrReads hdr opts props dict u) (hrc : RC.new { rem := rest } = .ok (rc, rd2))
    {k : Nat} {x : Exit} {c' : Cfg Circ}
    (hrun : FinishRun ⟨freshState props u, Circ.fromStream dict (opts.memlimit.getD USIZE_MAX),
      rc, rd2, snk0⟩ k x c')
    (hsz : ∀ n, u = some n → c'.w.len = n) {H : Bytes}
    (hrep : (circModel dict (opts.memlimit.getD USIZE_MAX) snk0).Rep c'.w H c'.snk) :
    ∃ snk, lzmaDecompress (Rd.ofBytes (hdr ++ rest)) opts snk0 = (snk, .ok c'.rd) ∧
      snk.out = snk0.out ++ H.toArray ∧ snk.lastFlush = true ∧ snk.Perfect := by
  obtain ⟨hci, hcd, -, hcp, hco⟩ := hrep
  obtain ⟨snk, hfin, hperf, hout, hlf⟩ := Circ.finish_spec (s0 := snk0) hci hcp (by rw [hcd]; exact hco)
  refine ⟨snk, lzmaDecompress_ok_iff.2 ⟨_, _, _, rc, rd2, c'.s, c'.w, c'.rc, c'.snk, hhdr rest,
    lzmaDecoder_new_eq hp (Nat.ne_of_gt hdict) _ _, hrc, ?_, hfin⟩, hout, hlf, hperf⟩
  exact processMode_ok_iff.2
    ⟨hrun.loop_ok_of_ne_fuel rfl _ (freshLoop_fuel hp hdict _ hrc), fun n hn _ => hsz n hn⟩

theorem lzmaDecompress_of_steps_error (hp : Safety.PropsOk props) (hdict : 0 < dict)
    (hhdr : HdrReads hdr opts props dict u) (hrc : RC.new { rem := rest } = .ok (rc, rd2))
    {k : Nat} {c1 : Cfg Circ}
    (hsteps : FinishSteps ⟨freshState props u, Circ.fromStream dict (opts.memlimit.getD USIZE_MAX),
      rc, rd2, snk0⟩ k c1)
    (hstop : stopTest .finish c1.s c1.w c1.rc c1.rd = .ok false) (hfill : c1.rd.fillBuf = .ok ())
    {snk1 : Sink} {x : Err}
    (hnext : processNext c1.s c1.w c1.rc c1.rd c1.snk = (snk1, .error x)) :
    lzmaDecompress (Rd.ofBytes (hdr ++ rest)) opts snk0 = (snk1, .error x) := by
  have hmode := processMode_loop_error
    (hsteps.loop_err_of_ne_fuel rfl hstop hfill hnext _ (freshLoop_fuel hp hdict _ hrc))
  rw [lzmaDecompress_eq, hhdr rest]
  dsimp only
  rw [lzmaDecoder_new_eq hp (Nat.ne_of_gt hdict)]
  dsimp only
  rw [LzmaDecoder.decompress_err_pm
    (dec := ⟨⟨props, dict, u⟩, opts.memlimit.getD USIZE_MAX, freshState props u⟩) (snk := snk0) hrc hmode]
  rfl

end assemble

section endToEnd
variable {props : Props} {dict : Nat} {hdr : Bytes} {opts : Options}

/-- `prog = good ++ tail` with `good` well-formed for `dict` and `tail` merely encodable: from the
fresh state the loop performs one iteration per symbol of `good` and is then coupled to the
encoder that still has the events of `tail` to code -/
theorem decode_fresh (hp : Safety.PropsOk props) (hdict : 0 < dict) {prog good tail : List Sym}
    (hprog : good ++ tail = prog) {st : SpecSt} (hrun : SpecSt.run dict {} good = some (st, false))
    (htail : ∀ s ∈ tail, Sym.RawOk s) (T : Bytes) {u : Option Nat} {m : Nat}
    (hmem : min st.hist.size dict ≤ m) {snk0 : Sink} (hs0 : snk0.script = [])
    (hmode : (∃ n, u = some n ∧ st.hist.size ≤ n) ∨
      (u = none ∧ (T ≠ [] ∨ ForcesRead (progEvents dict props st tail)))) :
    ∃ snkF snkB probsF eF e2 rc rd2 s' w' k' probs' e' esnk' rc' rd',
      eF.finish snkF = (snkB, .ok e2) ∧
      RC.new { rem := encodeSyms props dict prog ++ T } = .ok (rc, rd2) ∧
      FinishSteps ⟨freshState props u, Circ.fromStream dict m, rc, rd2, snk0⟩ good.length
        ⟨s', w', rc', rd', k'⟩ ∧
      DecEnc (circModel dict m snk0) s' w' k' { EncSt.new props with probs := probs', spec := st } ∧
      esnk'.script = [] ∧ RcSim snkB.out.toList T e' esnk'.out.toList rc' rd' ∧
      encodeEvents (progEvents dict props st tail) probs' e' esnk' = (snkF, .ok (probsF, eF)) ∧
      rd'.bad = false ∧ s'.partialBuf = [] ∧ s'.unpackedSize = u := by
  subst hprog
  obtain ⟨snkF, probsF, eF, snkB, e2, henc, hfin⟩ := encodeProg_total hp dict (good ++ tail)
    (fun s hs => (List.mem_append.1 hs).elim (run_rawOk good {} st false hrun s) (htail s)) {} rfl
  obtain ⟨P, hP, hinit⟩ := rc_roundtrip_init (snk0 := {}) rfl (probsOk_init _) henc hfin
  obtain ⟨rc, rd2, hnew, hbad, hsim⟩ := hinit T false
  have hpay : encodeSyms props dict (good ++ tail) = P := by
    rw [encodeSyms_eq henc hfin, hP]; rfl
  rw [progEvents_append, progSpec_of_run good {} st false hrun] at henc
  obtain ⟨s', w', k', probs', e', esnk', rc', rd', h⟩ :=
    decode_prog (M := circModel dict m snk0) (Nat.le_refl _) hfin _ good (freshState props u) _ snk0
      (EncSt.new props) {} {} rc rd2 st (decEnc_fresh hp _ hdict hs0) hrun hmem rfl hbad hmode rfl
      hsim henc
  exact ⟨snkF, snkB, probsF, eF, e2, rc, rd2, s', w', k', probs', e', esnk', rc', rd', hfin,
    hpay ▸ hnew, h⟩

/-- `C01.lzma_decode_exact_sized` behind any header on which `read_header` yields the size of the
program's output as the size in effect -/
theorem decode_exact_sized (hp : Safety.PropsOk props) (hdict : 0 < dict) {prog : List Sym}
    {st : SpecSt} (hrun : SpecSt.run dict {} prog = some (st, false)) (T : Bytes)
    (hhdr : HdrReads hdr opts props dict (some st.hist.size))
    (hmem : min st.hist.size dict ≤ opts.memlimit.getD USIZE_MAX)
    (snk0 : Sink) (hs0 : snk0.script = []) :
    ∃ snk, lzmaDecompress (Rd.ofBytes (hdr ++ (encodeSyms props dict prog ++ T))) opts snk0 =
        (snk, .ok { rem := T }) ∧
      snk.out = snk0.out ++ st.hist ∧ snk.lastFlush = true := by
  obtain ⟨snkF, snkB, probsF, eF, e2, rc, rd2, s', w', k', probs', e', esnk', rc', rd', hfin, hnew,
      hsteps, hinv, hs, hsim, henc, hbad, -, hu⟩ :=
    decode_fresh hp hdict (List.append_nil prog) hrun (fun _ h => nomatch h) T hmem hs0
      (.inl ⟨_, rfl, Nat.le_refl _⟩)
  obtain ⟨hrem, -, -⟩ := rc_roundtrip_final hs hinv.pok hsim henc hfin
  have hlen : w'.len = st.hist.size := by
    rw [← Array.length_toList]; exact (circModel dict _ snk0).len hinv.win
  obtain ⟨snk, hres, hout, hlf, -⟩ := lzmaDecompress_of_run hp hdict hhdr hnew
    (hsteps.append_run (.sizeReached (n := st.hist.size) hu (Nat.le_of_eq hlen.symm)))
    (fun n hn => by cases hn; exact hlen) hinv.win
  refine ⟨snk, ?_, by simpa using hout, hlf⟩
  rw [hres]
  rcases rd' with ⟨r, b⟩
  cases hrem; cases hbad; rfl

/-- `C01.lzma_decode_exact_long_marker` behind any header read with no size in effect.  The clean-EOF
exit of the loop cannot fire before the marker: `forcesRead_long_marker`. -/
theorem decode_exact_long_marker_of_header (hp : Safety.PropsOk props) (hdict : 0 < dict)
    (prog : List Sym) (st : SpecSt) (hrun : SpecSt.run dict {} prog = some (st, false))
    (len : Nat) (hlen : 2 ≤ len ∧ len ≤ 273) (hhdr : HdrReads hdr opts props dict none)
    (hmem : min st.hist.size dict ≤ opts.memlimit.getD USIZE_MAX)
    (snk0 : Sink) (hs0 : snk0.script = []) :
    ∃ snk, lzmaDecompress (Rd.ofBytes (hdr ++ encodeSyms props dict (prog ++ [.mtch 0x100000000 len])))
        opts snk0 = (snk, .ok { rem := [] }) ∧
      snk.out = snk0.out ++ st.hist ∧ snk.lastFlush = true := by
  have hfr : ForcesRead (progEvents dict props st [.mtch 0x100000000 len]) := by
    rw [progEvents, progEvents]
    exact forcesRead_long_marker _ _ _
  obtain ⟨snkF, snkB, probsF, eF, e2, rc, rd2, s', w', k', probs', e', esnk', rc', rd', hfin, hnew,
      hsteps, hinv, hs, hsim, henc, hbad, hpb, hu⟩ :=
    decode_fresh hp hdict rfl hrun
      (fun s h => by cases List.mem_singleton.1 h; exact rawOk_long_marker hlen) [] hmem hs0
      (.inr ⟨rfl, .inr hfr⟩)
  have hstop := stopTest_coupled hfin hinv hpb hs hsim henc (.inr ⟨hu, .inr hfr⟩)
  obtain ⟨s'', rc'', hnext, -, -⟩ := decode_long_marker hfin hinv (l := len - 2) (by omega) hs hbad
    hsim (by rwa [progEvents, progEvents, List.append_nil] at henc)
  rw [List.append_nil] at hnew
  obtain ⟨snk, hres, hout, hlf, -⟩ := lzmaDecompress_of_run hp hdict hhdr hnew
    (hsteps.append_run (.marker hstop (fillBuf_of_good hbad) hnext)) (fun n hn => nomatch hn)
    hinv.win
  exact ⟨snk, hres, by simpa using hout, hlf⟩

/-- `C01.lzma_decode_exact_marker` behind any header read with no size in effect: `Sym.eos` is
the marker of length 2 -/
theorem decode_exact_marker (hp : Safety.PropsOk props) (hdict : 0 < dict) {prog : List Sym}
    {st : SpecSt} (hrun : SpecSt.run dict {} prog = some (st, false))
    (hhdr : HdrReads hdr opts props dict none)
    (hmem : min st.hist.size dict ≤ opts.memlimit.getD USIZE_MAX)
    (snk0 : Sink) (hs0 : snk0.script = []) :
    ∃ snk, lzmaDecompress (Rd.ofBytes (hdr ++ encodeSyms props dict (prog ++ [.eos]))) opts snk0 =
        (snk, .ok { rem := [] }) ∧
      snk.out = snk0.out ++ st.hist ∧ snk.lastFlush = true := by
  rw [encodeSyms_eos_eq]
  exact decode_exact_long_marker_of_header hp hdict prog st hrun 2 (by omega) hhdr hmem snk0 hs0

theorem min_le_getD_none (n : Nat) {d : Nat} (hd : d ≤ 2 ^ 32) :
    min n d ≤ (none : Option Nat).getD USIZE_MAX := by
  show _ ≤ USIZE_MAX
  unfold USIZE_MAX U64
  omega

/-- `C01.reject_out_of_window` behind any header -/
theorem decode_reject_outOfWindow (hp : Safety.PropsOk props) (hdict : 0 < dict)
    {good : List Sym} {bad : Sym} {rest : List Sym} {st : SpecSt}
    (hrun : SpecSt.run dict {} good = some (st, false)) (hbad : bad.OutOfWindow dict st)
    (hrest : ∀ s ∈ rest, Sym.RawOk s) {u : Option Nat} (T : Bytes)
    (hu : (∃ n, u = some n ∧ st.hist.size < n) ∨ (u = none ∧ T ≠ []))
    (hhdr : HdrReads hdr opts props dict u)
    (hmem : min st.hist.size dict ≤ opts.memlimit.getD USIZE_MAX)
    (snk0 : Sink) (hs0 : snk0.script = []) :
    ∃ snk, lzmaDecompress (Rd.ofBytes (hdr ++ (encodeSyms props dict (good ++ [bad] ++ rest) ++ T)))
        opts snk0 = (snk, .error .lzma) ∧
      snk.out = snk0.out ++ (st.hist.toList.take (flushedLen dict st.hist.size)).toArray := by
  obtain ⟨snkF, snkB, probsF, eF, e2, rc, rd2, s', w', k', probs', e', esnk', rc', rd', hfin, hnew,
      hsteps, hinv, hs, hsim, henc, hbd, hpb, hu'⟩ :=
    decode_fresh (props := props) hp hdict (tail := bad :: rest) (List.append_assoc good [bad] rest).symm
      hrun (List.forall_mem_cons.2 ⟨hbad.rawOk, hrest⟩) T hmem hs0
      (hu.imp (fun ⟨n, h1, h2⟩ => ⟨n, h1, Nat.le_of_lt h2⟩) (fun ⟨h1, h2⟩ => ⟨h1, .inl h2⟩))
  have hstop := stopTest_coupled hfin hinv hpb hs hsim henc
    (hu.imp (fun ⟨n, h1, h2⟩ => ⟨n, hu'.trans h1, h2⟩) (fun ⟨h1, h2⟩ => ⟨hu'.trans h1, .inl h2⟩))
  -- the bits of `bad` are decoded, then `append_lz` refuses the distance
  obtain ⟨probs1, e1, esnk1, rc1, rd1, hd, -, hp1, hsz, -⟩ := decode_bits hfin hinv hbad.rawOk hs hsim henc
  have hnext : processNext s' w' rc' rd' k' = (k', .error .lzma) := by
    simp only [processNext, bind_run, hd, liftE_ok,
      applySym_outOfWindow (hinv.withProbs hp1 hsz) hbad rc1 rd1]
  exact ⟨k', lzmaDecompress_of_steps_error hp hdict hhdr hnew hsteps hstop (fillBuf_of_good hbd) hnext,
    hinv.win.2.2.2.2⟩

end endToEnd

end Lzma
