/-
  C07: the two windows never panic.

  `LzBufSafe ω` packages what the symbol loop needs from a window: an invariant
  kept by the appending operations under which no operation returns a bad error.
  `lastN`/`appendLz` are only ever called with `dist = rep0 + 1 ≥ 1`; with
  `dist = 0` the accumulating window would panic in the model (`buf[size]`), so
  `0 < dist` is a hypothesis.
-/
import LzmaProofs.Lemmas.Safety
namespace Lzma
namespace Safety

class LzBufSafe (ω : Type) [LzBuf ω] where
  inv : ω → Prop
  lastOr_safe : ∀ (w : ω) (b : UInt8), inv w → ESafe (fun _ => True) (LzBuf.lastOr w b)
  lastN_safe : ∀ (w : ω) (d : Nat), inv w → 0 < d → ESafe (fun _ => True) (LzBuf.lastN w d)
  appendLiteral_safe : ∀ (w : ω) (b : UInt8), inv w → MSafe inv (LzBuf.appendLiteral w b)
  appendLz_safe : ∀ (w : ω) (l d : Nat), inv w → 0 < d → MSafe inv (LzBuf.appendLz w l d)

/-- invariant of `LzCircularBuffer`: a non-zero dictionary size, the cursor inside the
allocated part of the buffer and inside the dictionary, and the memory bounds: the lazily
grown buffer never exceeds the dictionary size, the number of bytes produced, or the
memory limit -/
def CircSafe (w : Circ) : Prop :=
  0 < w.dictSize ∧ w.cursor ≤ w.buf.size ∧ w.cursor < w.dictSize ∧ w.buf.size ≤ w.dictSize ∧
    w.buf.size ≤ w.len ∧ w.buf.size ≤ w.memlimit

theorem CircSafe_fromStream {d m : Nat} (h : 0 < d) : CircSafe (Circ.fromStream d m) :=
  ⟨h, Nat.le_refl _, h, Nat.zero_le _, Nat.zero_le _, Nat.zero_le _⟩

theorem Circ.set_safe (w : Circ) (idx : Nat) (v : UInt8) :
    ESafe (fun w' => w'.dictSize = w.dictSize ∧ w'.cursor = w.cursor ∧ w'.len = w.len ∧
        w'.memlimit = w.memlimit ∧ idx < w'.buf.size ∧
        (w'.buf.size = w.buf.size ∨ (w'.buf.size = idx + 1 ∧ idx + 1 ≤ w.memlimit)))
      (w.set idx v) := by
  unfold Circ.set
  simp only
  split
  · split
    · simp; omega
    · simp
  · simp; omega

/-! The errors of the window reads, exactly: `.lzma` for a distance beyond the data, and a panic
only for a zero dictionary size (circular window) or a zero distance (accumulating window). -/

theorem Circ.offsetOf_err (w : Circ) (dist : Nat) :
    EErr (fun e => (∃ s, e = .panic s) ∧ ¬ (0 < w.dictSize ∧ dist ≤ w.dictSize + w.cursor))
      (w.offsetOf dist) := by
  unfold Circ.offsetOf
  refine EErr.bind ?_ fun a => ?_
  · unfold subChk
    split
    · exact EErr_ok
    · exact EErr_error.2 ⟨⟨_, rfl⟩, fun hc => by omega⟩
  · split
    · exact EErr_error.2 ⟨⟨_, rfl⟩, fun hc => by omega⟩
    · exact EErr_ok

theorem Circ.lastOr_err (w : Circ) (b : UInt8) :
    EErr (fun e => (∃ s, e = .panic s) ∧ w.dictSize = 0) (w.lastOr b) := by
  unfold Circ.lastOr
  split
  · exact EErr_ok
  · exact ((Circ.offsetOf_err w 1).mono fun e ⟨hs, hn⟩ => ⟨hs, by omega⟩).bind fun _ => EErr_ok

theorem Circ.lastN_err (w : Circ) (d : Nat) :
    EErr (fun e => e = .lzma ∨ (∃ s, e = .panic s) ∧ w.dictSize = 0) (w.lastN d) := by
  unfold Circ.lastN
  split
  · exact EErr_error.2 (.inl rfl)
  · split
    · exact EErr_error.2 (.inl rfl)
    · exact ((Circ.offsetOf_err w d).mono fun e ⟨hs, hn⟩ => .inr ⟨hs, by omega⟩).bind fun _ => EErr_ok

theorem Circ.offsetOf_safe (w : Circ) (dist : Nat) (h : CircSafe w) (hd : dist ≤ w.dictSize) :
    ESafe (fun _ => True) (w.offsetOf dist) :=
  ((Circ.offsetOf_err w dist).mono fun e ⟨_, hn⟩ => absurd ⟨h.1, by omega⟩ hn).safe

theorem Circ.appendLiteral_safe (w : Circ) (b : UInt8) (h : CircSafe w) :
    MSafe (fun w' => CircSafe w' ∧ w'.dictSize = w.dictSize ∧ w'.memlimit = w.memlimit ∧
        w'.len = w.len + 1) (w.appendLiteral b) := by
  unfold Circ.appendLiteral
  refine MSafe.bind (MSafe.liftE (Circ.set_safe w w.cursor b)) ?_
  rintro w1 ⟨h1, h2, h3, h4, h5, h6⟩
  obtain ⟨g1, g2, g3, g4, g5, g6⟩ := h
  simp only
  split
  · refine MSafe.bind (writeAll_safe _) ?_
    intro _ _
    refine MSafe_pure.mpr ⟨⟨?_, ?_, ?_, ?_, ?_, ?_⟩, h1, h4, ?_⟩ <;> dsimp only <;> omega
  · refine MSafe_pure.mpr ⟨⟨?_, ?_, ?_, ?_, ?_, ?_⟩, h1, h4, ?_⟩ <;> dsimp only <;> omega

theorem Circ.copyLoop_safe : ∀ (n : Nat) (w : Circ) (off : Nat), CircSafe w →
    MSafe CircSafe (Circ.copyLoop n w off)
  | 0, w, off, h => by simp [Circ.copyLoop, h]
  | n+1, w, off, h => by
    simp only [Circ.copyLoop]
    refine MSafe.bind (Circ.appendLiteral_safe w _ h) ?_
    intro w1 ⟨h1, _⟩
    exact Circ.copyLoop_safe n w1 _ h1

theorem Circ.appendLz_safe (w : Circ) (l d : Nat) (h : CircSafe w) :
    MSafe CircSafe (w.appendLz l d) := by
  unfold Circ.appendLz
  split
  · simp
  · split
    · simp
    · refine MSafe.bind (MSafe.liftE (Circ.offsetOf_safe w d h (by omega))) ?_
      intro off _
      exact Circ.copyLoop_safe l w off h

theorem Circ.finish_safe (w : Circ) (h : CircSafe w) : MSafe (fun _ => True) w.finish := by
  unfold Circ.finish
  simp only
  split
  · split
    · exact MSafe.bind (writeAll_safe _) (fun _ _ => flushSink_safe)
    · exact absurd h.2.1 (by assumption)
  · exact flushSink_safe

instance : LzBufSafe Circ where
  inv := CircSafe
  lastOr_safe w b h := ((Circ.lastOr_err w b).mono fun e ⟨_, h0⟩ => by have := h.1; omega).safe
  lastN_safe w d h _ := ((Circ.lastN_err w d).mono fun e he =>
    he.elim (fun h => h ▸ rfl) fun ⟨_, h0⟩ => by have := h.1; omega).safe
  appendLiteral_safe w b h := (Circ.appendLiteral_safe w b h).mono (fun _ h => h.1)
  appendLz_safe w l d h _ := Circ.appendLz_safe w l d h

theorem Accum.lastOr_err (w : Accum) (b : UInt8) : EErr (fun _ => False) (w.lastOr b) := by
  unfold Accum.lastOr
  split
  · exact EErr_ok
  · rw [Array.getElem?_eq_getElem (show w.buf.size - 1 < w.buf.size by omega)]
    exact EErr_ok

theorem Accum.lastN_err (w : Accum) (d : Nat) :
    EErr (fun e => e = .lzma ∨ (∃ s, e = .panic s) ∧ d = 0) (w.lastN d) := by
  unfold Accum.lastN
  split
  · exact EErr_error.2 (.inl rfl)
  · by_cases hd : d = 0
    · rw [Array.getElem?_eq_none (by omega)]
      exact EErr_error.2 (.inr ⟨⟨_, rfl⟩, hd⟩)
    · rw [Array.getElem?_eq_getElem (show w.buf.size - d < w.buf.size by omega)]
      exact EErr_ok

/-- invariant of `LzAccumBuffer`: the buffer holds exactly the bytes produced since the
last `reset` -/
def AccumInv (w : Accum) : Prop := w.buf.size = w.len

theorem AccumInv_fromStream (m : Nat) : AccumInv (Accum.fromStream m) := rfl

theorem AccumInv_appendBytes {w : Accum} (h : AccumInv w) (bs : Bytes) : AccumInv (w.appendBytes bs) := by
  unfold AccumInv Accum.appendBytes at *
  simp; omega

theorem Accum.appendLiteral_safe (w : Accum) (b : UInt8) (h : AccumInv w) :
    MSafe AccumInv (w.appendLiteral b) := by
  unfold Accum.appendLiteral
  simp only
  split
  · simp
  · refine MSafe_pure.mpr ?_
    unfold AccumInv at *
    simp; omega

theorem Accum.copyLoop_safe : ∀ (n : Nat) (buf : Array UInt8) (off : Nat), off < buf.size →
    ESafe (fun b => b.size = buf.size + n) (Accum.copyLoop n buf off)
  | 0, _, _, _ => rfl
  | n+1, buf, off, h => by
    simp only [Accum.copyLoop]
    have : buf[off]? = some buf[off] := by simp [h]
    rw [this]
    refine (Accum.copyLoop_safe n _ _ (by simp; omega)).mono ?_
    intro b hb
    simp at hb
    omega

theorem Accum.appendLz_safe (w : Accum) (l d : Nat) (hd : 0 < d) (h : AccumInv w) :
    MSafe AccumInv (w.appendLz l d) := by
  unfold Accum.appendLz
  split
  · simp
  · refine MSafe.bind (MSafe.liftE (Accum.copyLoop_safe l w.buf _ (by omega))) ?_
    intro b hb
    refine MSafe_pure.mpr ?_
    unfold AccumInv at *
    dsimp only
    omega

theorem Accum.reset_safe (w : Accum) : MSafe AccumInv w.reset := by
  unfold Accum.reset
  refine MSafe.bind (writeAll_safe _) ?_
  intro _ _
  exact MSafe_pure.mpr rfl

theorem Accum.finish_safe (w : Accum) : MSafe (fun _ => True) w.finish := by
  unfold Accum.finish
  exact MSafe.bind (writeAll_safe _) (fun _ _ => flushSink_safe)

instance : LzBufSafe Accum where
  inv := AccumInv
  lastOr_safe w b _ := ((Accum.lastOr_err w b).mono fun _ h => h.elim).safe
  lastN_safe w d _ hd := ((Accum.lastN_err w d).mono fun e he =>
    he.elim (fun h => h ▸ rfl) fun ⟨_, h0⟩ => by omega).safe
  appendLiteral_safe w b h := Accum.appendLiteral_safe w b h
  appendLz_safe w l d h hd := Accum.appendLz_safe w l d hd h

/-- with `dist = 0` the accumulating window's `last_n` indexes `buf[len]`: a panic.
(The decoder never does this: it passes `rep0 + 1`.) -/
example : (Accum.fromStream 10).lastN 0 = .error (.panic "lzbuffer: index out of bounds") := by
  rfl

end Safety
end Lzma
