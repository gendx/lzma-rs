/-
  C05 — the bit counts of the paths of the LZMA symbol tree and the closed
  numeric inequality: no symbol needs more than 20 input bytes.
-/
import LzmaProofs.Lemmas.Need20
import LzmaProofs.Lemmas.SafetyWindow
namespace Lzma
namespace Need20
open Safety

/-- the window/state reads of the context do not fail with an end-of-data error
(in the model they fail with `.lzma` or a panic only) -/
structure CtxNoEnd (c : Ctx) : Prop where
  litRow : ∀ e, c.litRow = .error e → NoEnd e
  matchByte : ∀ e, c.matchByte = .error e → NoEnd e

/-- the paths of the symbol tree, for the byte count: no index validity is needed, and the only
errors in the tree are those of the two window reads -/
theorem symTree_pathBound {c : Ctx} (h : CtxNoEnd c) :
    Paths (fun _ => True) NoEnd (fun _ => True) SymP (symTree c) :=
  symTree_paths (fun _ _ => trivial) h.litRow h.matchByte

/-- 21 bytes are impossible for 22 probability bits and 26 direct bits -/
theorem need20_num : 2 ^ 32 * D 22 26 ≤ 256 ^ (20 + 1) * 2 ^ 24 * W 22 26 := by
  unfold W D; decide +kernel

/-- … but the same argument does not exclude 20 bytes (the margin is below one bit) -/
theorem need20_num_tight : ¬ 2 ^ 32 * D 22 26 ≤ 256 ^ (19 + 1) * 2 ^ 24 * W 22 26 := by
  unfold W D; decide +kernel

/-- the 23-probability-bit path shrinks the range less than the `(22, 26)` path -/
theorem dom_23_0 : Dom 22 26 23 0 := by
  unfold Dom W D; decide +kernel

theorem symP_dom : ∀ a' b', SymP a' b' → Dom 22 26 a' b' := by
  intro a' b' h
  rcases h with ⟨ha, hb⟩ | ⟨ha, rfl⟩
  · exact Dom.of_le ha hb
  · exact dom_23_0.trans (Dom.of_le ha (Nat.le_refl _))

/-! ## `symTree` is not `BitBound 22 26`: the `pos_slot = 12` path has 23 probability bits -/

/-- number of probability bits along the path chosen by the given bits -/
def probsOn {ι α : Type} : Coder ι α → List Bool → Nat
  | .bit _ k, c :: cs => probsOn (k c) cs + 1
  | .direct k, c :: cs => probsOn (k c) cs
  | _, _ => 0

theorem BitBound.probsOn_le {ι α : Type} {Q : α → Prop} {a b : Nat} {t : Coder ι α}
    (h : BitBound Q a b t) : ∀ cs, probsOn t cs ≤ a := by
  induction h with
  | ret _ => intro cs; simp [probsOn]
  | fail _ => intro cs; simp [probsOn]
  | bit _ ih =>
    intro cs
    cases cs with
    | nil => simp [probsOn]
    | cons c cs => simp only [probsOn]; exact Nat.succ_le_succ (ih c cs)
  | direct _ ih =>
    intro cs
    cases cs with
    | nil => simp [probsOn]
    | cons c cs => simp only [probsOn]; exact ih c cs

/-- `is_match = 1, is_rep = 0, choice = 1, choice2 = 1`, 8 length bits, slot
`001100₂ = 12`, 5 reverse-tree bits -/
def path23 : List Bool :=
  [true, false, true, true] ++ List.replicate 8 false ++
    [false, false, true, true, false, false] ++ List.replicate 5 false

theorem symTree_probsOn_path23 (c : Ctx) : probsOn (symTree c) path23 = 23 := by
  rfl

theorem symTree_not_bitBound_22 (c : Ctx) (Q : RawSym → Prop) (b : Nat) :
    ¬ BitBound Q 22 b (symTree c) := by
  intro h
  have := h.probsOn_le path23
  rw [symTree_probsOn_path23] at this
  omega

/-! ## the contexts the decoder builds satisfy `CtxNoEnd` -/

theorem subChk_noEnd (what : String) (a b : Nat) : EErr NoEnd (subChk what a b) := by
  unfold subChk
  split
  · exact EErr_ok
  · exact EErr_error.2 (NoEnd_panic _)

theorem mkCtx_noEnd {ω : Type} [LzBuf ω] (s : DState) (w : ω)
    (h1 : EErr NoEnd (LzBuf.lastOr w 0)) (h2 : ∀ n, EErr NoEnd (LzBuf.lastN w n)) :
    CtxNoEnd (s.mkCtx w) := by
  constructor
  · show EErr NoEnd (s.mkCtx w).litRow
    unfold DState.mkCtx
    refine h1.bind fun prev => (subChk_noEnd _ _ _).bind fun sh => ?_
    simp only
    split
    · exact EErr_ok
    · exact EErr_error.2 (NoEnd_panic _)
  · show EErr NoEnd (s.mkCtx w).matchByte
    unfold DState.mkCtx
    exact (h2 _).bind fun b => EErr_ok

theorem noEnd_of_lzma_or_panic {C : Prop} {e : Err} (h : e = .lzma ∨ (∃ s, e = .panic s) ∧ C) :
    NoEnd e := by
  rcases h with rfl | ⟨⟨s, rfl⟩, _⟩
  · exact NoEnd_lzma
  · exact NoEnd_panic s

/-- the contexts of the LZMA decoder over the circular window (`.lzma`, `.xz`, stream) -/
theorem mkCtx_noEnd_circ (s : DState) (w : Circ) : CtxNoEnd (s.mkCtx w) :=
  mkCtx_noEnd s w ((Circ.lastOr_err w 0).mono fun _ h => noEnd_of_lzma_or_panic (.inr h))
    fun n => (Circ.lastN_err w n).mono fun _ => noEnd_of_lzma_or_panic

/-- the contexts of the LZMA2 decoder over the accumulating window -/
theorem mkCtx_noEnd_accum (s : DState) (w : Accum) : CtxNoEnd (s.mkCtx w) :=
  mkCtx_noEnd s w ((Accum.lastOr_err w 0).mono fun _ h => h.elim)
    fun n => (Accum.lastN_err w n).mono fun _ => noEnd_of_lzma_or_panic

end Need20
end Lzma
