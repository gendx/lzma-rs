/-
  The flat reader's primitives as iffs on the remaining bytes (`Rd.readExact_ok`, `Rd.readU8_ok`, …),
  little-endian fields (`leVal`/`leBytes` inverse to each other, `Rd.readLE_eq_iff`), and what the XZ
  container needs besides: multibyte integers (`MbEnc`, `getMultibyte_ok_iff`, the encoder's
  `multibyteBytes_eq`), the padding formula, the CRC value bounds and some bit arithmetic.
-/
import LzmaProofs.Lemmas.Monad
namespace Lzma

-- the container proofs (this file, `XzInv`, `XzFwd`) simplify with these throughout
attribute [simp] Except.throw_bind' Except.throw_ne_ok Except.pure_eq_ok throwM_bind throwM_ne_ok

/-! ## Reader primitives -/

namespace Rd

theorem ext' {r r' : Rd} (h1 : r.rem = r'.rem) (h2 : r.bad = r'.bad) : r = r' := by
  cases r; cases r'; simp_all

theorem readU8_ok {r r' : Rd} {b : UInt8} :
    r.readU8 = .ok (b, r') ↔ r.rem = b :: r'.rem ∧ r'.bad = r.bad := by
  obtain ⟨rem, bad⟩ := r
  obtain ⟨rem', bad'⟩ := r'
  cases rem <;> simp [readU8, eq_comm, and_assoc]

theorem readExact_ok {r r' : Rd} {n : Nat} {bs : Bytes} :
    r.readExact n = .ok (bs, r') ↔ r.rem = bs ++ r'.rem ∧ bs.length = n ∧ r'.bad = r.bad := by
  obtain ⟨rem, bad⟩ := r
  obtain ⟨rem', bad'⟩ := r'
  simp only [readExact]
  split
  · simp only [Except.ok.injEq, Prod.mk.injEq, Rd.mk.injEq]
    constructor
    · rintro ⟨rfl, rfl, rfl⟩
      simp; omega
    · rintro ⟨h, rfl, rfl⟩
      subst h
      simp
  · simp only [reduceCtorEq, false_iff]
    rintro ⟨h, rfl, -⟩
    subst h
    simp at *

/-- `read_exact` followed by a pure function of the bytes read (`read_u32`, `read_u64`, `read_tag`) -/
theorem readExact_map_ok {r r' : Rd} {n : Nat} {f : Bytes → β} {v : β} :
    (do let (bs, r) ← r.readExact n; pure (f bs, r)) = Except.ok (v, r') ↔
      ∃ bs, r.rem = bs ++ r'.rem ∧ bs.length = n ∧ v = f bs ∧ r'.bad = r.bad := by
  simp only [Except.bind_eq_ok', Prod.exists, readExact_ok, Except.pure_eq_ok, Prod.mk.injEq]
  constructor
  · rintro ⟨bs, r1, ⟨h1, h2, h3⟩, rfl, rfl⟩
    exact ⟨bs, h1, h2, rfl, h3⟩
  · rintro ⟨bs, h1, h2, rfl, h3⟩
    exact ⟨bs, r', ⟨h1, h2, h3⟩, rfl, rfl⟩

theorem readU32LE_ok {r r' : Rd} {v : Nat} :
    r.readU32LE = .ok (v, r') ↔
      ∃ bs, r.rem = bs ++ r'.rem ∧ bs.length = 4 ∧ v = leVal bs ∧ r'.bad = r.bad :=
  readExact_map_ok

theorem readU64LE_ok {r r' : Rd} {v : Nat} :
    r.readU64LE = .ok (v, r') ↔
      ∃ bs, r.rem = bs ++ r'.rem ∧ bs.length = 8 ∧ v = leVal bs ∧ r'.bad = r.bad :=
  readExact_map_ok

theorem readU16BE_ok {r r' : Rd} {v : Nat} :
    r.readU16BE = .ok (v, r') ↔
      ∃ b1 b2, r.rem = b1 :: b2 :: r'.rem ∧ v = b1.toNat * 256 + b2.toNat ∧ r'.bad = r.bad := by
  rw [readU16BE, readExact_map_ok]
  constructor
  · rintro ⟨bs, h1, h2, rfl, h3⟩
    match bs, h2 with
    | [b1, b2], _ => exact ⟨b1, b2, h1, by simp [beVal], h3⟩
  · rintro ⟨b1, b2, h1, rfl, h3⟩
    exact ⟨[b1, b2], h1, rfl, by simp [beVal], h3⟩

theorem isEof_true_iff {rd : Rd} : rd.isEof = .ok true ↔ rd.rem = [] ∧ rd.bad = false := by
  unfold Rd.isEof
  cases rd.rem <;> cases rd.bad <;> simp

theorem readTag_ok {r r' : Rd} {tag : Bytes} {ok : Bool} :
    r.readTag tag = .ok (ok, r') ↔
      ∃ bs, r.rem = bs ++ r'.rem ∧ bs.length = tag.length ∧ ok = (bs == tag) ∧ r'.bad = r.bad :=
  readExact_map_ok (f := (· == tag))

end Rd

/-! ## little-endian fields -/

theorem leBytes_leVal (bs : Bytes) : leBytes bs.length (leVal bs) = bs := by
  induction bs with
  | nil => rfl
  | cons b r ih =>
    have hb := b.toNat_lt
    simp only [List.length_cons, leBytes, leVal]
    rw [show (b.toNat + 256 * leVal r) % 256 = b.toNat by omega,
      show (b.toNat + 256 * leVal r) / 256 = leVal r by omega, ih]
    simp

theorem leVal_leBytes : ∀ (k n : Nat), n < 256 ^ k → leVal (leBytes k n) = n
  | 0, n, h => by simp at h; subst h; rfl
  | k+1, n, h => by
    have hk : n / 256 < 256 ^ k := by
      rw [Nat.pow_succ] at h
      exact Nat.div_lt_of_lt_mul (by rwa [Nat.mul_comm] at h)
    simp only [leBytes, leVal, leVal_leBytes k (n / 256) hk, UInt8.toNat_ofNat']
    omega

@[simp] theorem leBytes_length (k n : Nat) : (leBytes k n).length = k := by
  induction k generalizing n with
  | zero => rfl
  | succ k ih => simp [leBytes, ih]

theorem crc32_lt (bs : Bytes) : crc32 bs < 256 ^ 4 := by unfold crc32; exact UInt32.toNat_lt _
theorem crc64_lt (bs : Bytes) : crc64 bs < 256 ^ 8 := by unfold crc64; exact UInt64.toNat_lt _

theorem Rd.eq_iff {rd r : Rd} : rd = r ↔ rd.rem = r.rem ∧ r.bad = rd.bad :=
  ⟨fun h => h ▸ ⟨rfl, rfl⟩, fun h => Rd.ext' h.1 h.2.symm⟩

theorem leBytes_eq_iff {bs : Bytes} {n v : Nat} (hv : v < 256 ^ n) :
    bs = leBytes n v ↔ bs.length = n ∧ v = leVal bs := by
  constructor
  · rintro rfl; exact ⟨leBytes_length n v, (leVal_leBytes n v hv).symm⟩
  · rintro ⟨rfl, rfl⟩; exact (leBytes_leVal bs).symm

theorem Rd.readLE_eq_iff {rd r : Rd} {n v : Nat} (hv : v < 256 ^ n) :
    (do let (bs, r) ← rd.readExact n; pure (leVal bs, r)) = Except.ok (v, r) ↔
      rd.rem = leBytes n v ++ r.rem ∧ r.bad = rd.bad := by
  rw [Rd.readExact_map_ok]
  constructor
  · rintro ⟨bs, h1, h2, h3, h4⟩
    rw [← (leBytes_eq_iff hv).2 ⟨h2, h3⟩]; exact ⟨h1, h4⟩
  · rintro ⟨h1, h2⟩
    exact ⟨_, h1, ((leBytes_eq_iff hv).1 rfl).1, ((leBytes_eq_iff hv).1 rfl).2, h2⟩

theorem Rd.readU32LE_eq_iff {rd r : Rd} {v : Nat} (hv : v < 256 ^ 4) :
    rd.readU32LE = .ok (v, r) ↔ rd.rem = leBytes 4 v ++ r.rem ∧ r.bad = rd.bad :=
  Rd.readLE_eq_iff hv

theorem Rd.readU64LE_eq_iff {rd r : Rd} {v : Nat} (hv : v < 256 ^ 8) :
    rd.readU64LE = .ok (v, r) ↔ rd.rem = leBytes 8 v ++ r.rem ∧ r.bad = rd.bad :=
  Rd.readLE_eq_iff hv

/-! ## bit arithmetic -/

theorem xor_shiftLeft_of_lt {x m k : Nat} (h : x < 2 ^ k) : x ^^^ (m <<< k) = x + m * 2 ^ k := by
  have h1 : x ^^^ (m <<< k) = (m <<< k) ||| x := by
    apply Nat.eq_of_testBit_eq
    intro j
    simp only [Nat.testBit_xor, Nat.testBit_or, Nat.testBit_shiftLeft]
    by_cases hj : k ≤ j
    · have : x.testBit j = false :=
        Nat.testBit_lt_two_pow (Nat.lt_of_lt_of_le h (Nat.pow_le_pow_right (by omega) hj))
      simp [this]
    · simp [hj]
  rw [h1, ← Nat.shiftLeft_add_eq_or_of_lt h, Nat.shiftLeft_eq]
  omega

theorem and_7F (n : Nat) : n &&& 0x7F = n % 128 := Nat.and_two_pow_sub_one_eq_mod n 7
theorem and_3 (n : Nat) : n &&& 0x03 = n % 4 := Nat.and_two_pow_sub_one_eq_mod n 2

/-- bit 7 of a byte: `0xFF = 0x80 ||| 0x7F` and `0x80 &&& 0x7F = 0` -/
theorem and_80_eq_zero (n : Nat) (h : n < 256) : n &&& 0x80 = 0 ↔ n < 128 := by
  constructor
  · intro h0
    have h1 : n &&& 0xFF = (n &&& 0x80) ||| (n &&& 0x7F) := by
      rw [← Nat.and_or_distrib_left]; rfl
    rw [h0, Nat.zero_or, and_7F, show (0xFF : Nat) = 2 ^ 8 - 1 from rfl,
      Nat.and_two_pow_sub_one_eq_mod] at h1
    omega
  · intro hlt
    have h1 : (n &&& 0x80) % 128 = 0 := by rw [← and_7F, Nat.and_assoc]; exact Nat.and_zero n
    have h2 : n &&& 0x80 ≤ n := Nat.and_le_left
    omega

/-! ## the padding formula -/

theorem padding_formula (c : Nat) : paddingSize c = (4 - c % 4) % 4 := by
  unfold paddingSize
  rw [and_3]
  have hx : (c ^^^ 0x03) % 4 = (c % 4) ^^^ 3 := by
    have := Nat.xor_mod_two_pow (a := c) (b := 3) (n := 2)
    simpa using this
  rw [Nat.add_mod, hx]
  have h4 : c % 4 < 4 := Nat.mod_lt _ (by omega)
  generalize c % 4 = r at *
  have : r = 0 ∨ r = 1 ∨ r = 2 ∨ r = 3 := by omega
  rcases this with h | h | h | h <;> subst h <;> decide

theorem Fwd.paddingSize_lt (c : Nat) : paddingSize c < 4 := by
  rw [padding_formula]; omega

theorem Fwd.add_paddingSize_mod (c : Nat) : (c + paddingSize c) % 4 = 0 := by
  rw [padding_formula]; omega

/-! ## what `get_multibyte` accepts -/

/-- `MbEnc bs v`: `bs` is a (not necessarily minimal) variable-length encoding of `v`:
every byte but the last has bit 7 set, the last has it clear; seven value bits per byte,
least significant group first. -/
inductive MbEnc : Bytes → Nat → Prop
  | last (b : UInt8) : b.toNat < 128 → MbEnc [b] b.toNat
  | more (b : UInt8) (r : Bytes) (v : Nat) :
      128 ≤ b.toNat → MbEnc r v → MbEnc (b :: r) (b.toNat - 128 + 128 * v)

/-- what `get_multibyte` accepts: an encoding of at most 9 bytes -/
def MbInt (bs : Bytes) (v : Nat) : Prop := MbEnc bs v ∧ bs.length ≤ 9

theorem MbEnc.length_pos {bs : Bytes} {v : Nat} (h : MbEnc bs v) : 1 ≤ bs.length := by
  cases h <;> simp

theorem MbEnc.unique {bs : Bytes} {v w : Nat} (h1 : MbEnc bs v) (h2 : MbEnc bs w) : v = w := by
  induction h1 generalizing w with
  | last b hb =>
    cases h2 with
    | last _ _ => rfl
    | more _ _ _ hb' _ => omega
  | more b r v hb hr ih =>
    cases h2 with
    | last _ hb' => omega
    | more _ _ w' _ hr' => rw [ih hr']

theorem xor_mb_step (res b w i : Nat) :
    res ^^^ ((b &&& 0x7F) <<< (i * 7)) ^^^ (w <<< ((i + 1) * 7)) =
      res ^^^ ((b % 128 + 128 * w) <<< (i * 7)) := by
  rw [and_7F, Nat.xor_assoc]
  congr 1
  rw [show (i + 1) * 7 = 7 + i * 7 by omega, Nat.shiftLeft_add, ← Nat.shiftLeft_xor_distrib]
  congr 1
  rw [xor_shiftLeft_of_lt (k := 7) (show b % 128 < 2 ^ 7 by omega)]
  omega

theorem MbEnc.cast {bs : Bytes} {v w : Nat} (h : MbEnc bs v) (e : v = w) : MbEnc bs w := e ▸ h

theorem getMultibyteAux_ok_iff : ∀ (fuel i res : Nat) (acc : Bytes) (rd : Rd) {v : Nat} {bs : Bytes}
    {r : Rd}, getMultibyteAux fuel i res acc rd = .ok (v, bs, r) ↔
      ∃ new w, bs = acc ++ new ∧ rd.rem = new ++ r.rem ∧ r.bad = rd.bad ∧ MbEnc new w ∧
        new.length ≤ fuel ∧ v = res ^^^ (w <<< (i * 7))
  | 0, _, _, _, _, _, _, _ => by
    simp only [getMultibyteAux, Except.throw_ne_ok, false_iff]
    rintro ⟨new, w, -, -, -, hm, hl, -⟩
    have := hm.length_pos
    omega
  | fuel+1, i, res, acc, rd, v, bs, r => by
    simp only [getMultibyteAux, Except.bind_eq_ok', Prod.exists, Rd.readU8_ok, ite_eq_ok,
      Except.pure_eq_ok, Prod.mk.injEq, getMultibyteAux_ok_iff fuel]
    constructor
    · rintro ⟨b, r1, ⟨h1, h2⟩, ⟨hc, rfl, rfl, rfl⟩ | ⟨hc, new, w, rfl, h3, h4, h5, h6, rfl⟩⟩
      · rw [and_80_eq_zero _ b.toNat_lt] at hc
        refine ⟨[b], b.toNat, rfl, by simpa using h1, h2, .last b hc, by simp, ?_⟩
        rw [and_7F, Nat.mod_eq_of_lt hc]
      · rw [and_80_eq_zero _ b.toNat_lt] at hc
        have := b.toNat_lt
        refine ⟨b :: new, _, by simp, by simp [h1, h3], by rw [h4, h2], .more b new w (by omega) h5,
          by simp; omega, ?_⟩
        rw [xor_mb_step, show b.toNat % 128 = b.toNat - 128 by omega]
    · rintro ⟨new, w, rfl, h1, h2, hm, hl, rfl⟩
      cases hm with
      | last b hb =>
        exact ⟨b, r, ⟨h1, h2⟩, .inl ⟨(and_80_eq_zero _ b.toNat_lt).2 hb, by rw [and_7F, Nat.mod_eq_of_lt hb],
          rfl, rfl⟩⟩
      | more b rest w hb hr =>
        have := b.toNat_lt
        refine ⟨b, ⟨rest ++ r.rem, rd.bad⟩, ⟨h1, rfl⟩, .inr ⟨fun h => ?_, rest, w, by simp, rfl, h2, hr,
          by simpa using hl, ?_⟩⟩
        · rw [and_80_eq_zero _ b.toNat_lt] at h; omega
        · rw [xor_mb_step, show b.toNat % 128 = b.toNat - 128 by omega]

theorem getMultibyte_ok_iff {rd r : Rd} {v : Nat} {bs : Bytes} :
    getMultibyte rd = .ok (v, bs, r) ↔ rd.rem = bs ++ r.rem ∧ r.bad = rd.bad ∧ MbInt bs v := by
  rw [getMultibyte, getMultibyteAux_ok_iff]
  constructor
  · rintro ⟨new, w, rfl, h1, h2, h3, h4, rfl⟩
    exact ⟨h1, h2, by simpa using h3, h4⟩
  · rintro ⟨h1, h2, h3, h4⟩
    exact ⟨bs, v, rfl, h1, h2, h3, h4, by simp⟩

/-! ## the multibyte encoding -/

/-- the XZ multibyte integer `n` written in exactly `w` bytes: seven bits per byte, least
significant group first, continuation bit `0x80` on every byte but the last. -/
def encodeMb : Nat → Nat → Bytes
  | 0, _ => []
  | w+1, n =>
    if w = 0 then [UInt8.ofNat (n % 128)]
    else UInt8.ofNat (128 + n % 128) :: encodeMb w (n / 128)

/-- the minimal width of `n` -/
def mbWidth (n : Nat) : Nat := if n < 128 then 1 else mbWidth (n / 128) + 1
termination_by n
decreasing_by omega

@[simp] theorem encodeMb_length (w n : Nat) : (encodeMb w n).length = w := by
  induction w generalizing n with
  | zero => simp [encodeMb]
  | succ w ih => unfold encodeMb; split <;> simp_all

theorem encodeMb_one (n : Nat) : encodeMb 1 n = [UInt8.ofNat (n % 128)] := by simp [encodeMb]

theorem mbWidth_pos (n : Nat) : 1 ≤ mbWidth n := by
  unfold mbWidth; split <;> omega

theorem lt_of_mbWidth_le : ∀ (w n : Nat), mbWidth n ≤ w → n < 2 ^ (7 * w)
  | 0, n, h => by have := mbWidth_pos n; omega
  | w+1, n, h => by
    unfold mbWidth at h
    split at h
    · have : 2 ^ 7 ≤ 2 ^ (7 * (w+1)) := Nat.pow_le_pow_right (by omega) (by omega)
      omega
    · have ih := lt_of_mbWidth_le w (n / 128) (by omega)
      have : 2 ^ (7 * (w+1)) = 128 * 2 ^ (7 * w) := by
        rw [show 7 * (w+1) = 7 + 7 * w by omega, Nat.pow_add]
      omega

theorem mbWidth_le_of_lt : ∀ (w n : Nat), 1 ≤ w → n < 2 ^ (7 * w) → mbWidth n ≤ w
  | 0, _, h, _ => by omega
  | w+1, n, _, hn => by
    unfold mbWidth
    split
    · omega
    · rename_i h128
      have hw : 1 ≤ w := by
        rcases Nat.eq_zero_or_pos w with h0 | h0
        · subst h0; simp at hn; omega
        · exact h0
      have : 2 ^ (7 * (w+1)) = 128 * 2 ^ (7 * w) := by
        rw [show 7 * (w+1) = 7 + 7 * w by omega, Nat.pow_add]
      have := mbWidth_le_of_lt w (n / 128) hw (by omega)
      omega

theorem mbWidth_le_nine (n : Nat) (h : n < 2 ^ 63) : mbWidth n ≤ 9 :=
  mbWidth_le_of_lt 9 n (by omega) (by simpa using h)

theorem MbEnc.encodeMb : ∀ (w n : Nat), 1 ≤ w → n < 2 ^ (7 * w) → MbEnc (encodeMb w n) n
  | 0, _, h, _ => by omega
  | w+1, n, _, hn => by
    have hmod : n % 128 < 128 := Nat.mod_lt _ (by omega)
    unfold Lzma.encodeMb
    split
    · rename_i hw
      subst hw
      have hn' : n < 128 := by simpa using hn
      refine (MbEnc.last _ ?_).cast ?_ <;> simp [UInt8.toNat_ofNat'] <;> omega
    · have hpow : 2 ^ (7 * (w+1)) = 128 * 2 ^ (7 * w) := by
        rw [show 7 * (w+1) = 7 + 7 * w by omega, Nat.pow_add]
      have hb : (UInt8.ofNat (128 + n % 128)).toNat = 128 + n % 128 := by
        simp [UInt8.toNat_ofNat']; omega
      refine (MbEnc.more _ _ _ (by omega) (MbEnc.encodeMb w (n / 128) (by omega) (by omega))).cast ?_
      rw [hb]; omega

theorem multibyte_roundtrip (w n : Nat) (r : Bytes) (b : Bool)
    (hw1 : 1 ≤ w) (hw9 : w ≤ 9) (hn : n < 2 ^ (7 * w)) :
    getMultibyte { rem := encodeMb w n ++ r, bad := b }
      = .ok (n, encodeMb w n, { rem := r, bad := b }) :=
  getMultibyte_ok_iff.2 ⟨rfl, rfl, .encodeMb w n hw1 hn, by simpa using hw9⟩

/-! ## the encoder's `write_multibyte` -/

theorem mbWidth_of_lt {n : Nat} (h : n < 128) : mbWidth n = 1 := by
  unfold mbWidth; simp [h]
theorem mbWidth_of_ge {n : Nat} (h : 128 ≤ n) : mbWidth n = mbWidth (n / 128) + 1 := by
  rw [mbWidth]; simp [Nat.not_lt.mpr h]

theorem writeMultibyteAux_eq : ∀ (fuel n : Nat), mbWidth n ≤ fuel →
    writeMultibyteAux fuel n = encodeMb (mbWidth n) n
  | 0, n, h => by have := mbWidth_pos n; omega
  | fuel+1, n, h => by
    unfold writeMultibyteAux
    simp only [and_7F, Nat.shiftRight_eq_div_pow]
    have h27 : (2 : Nat) ^ 7 = 128 := by decide
    rw [h27]
    by_cases h128 : n < 128
    · have : n / 128 = 0 := by omega
      simp [this, encodeMb, mbWidth_of_lt h128]
    · have hge : 128 ≤ n := by omega
      have hne : n / 128 ≠ 0 := by omega
      have hor : 0x80 ||| n % 128 = 128 + n % 128 := by
        have := Nat.two_pow_add_eq_or_of_lt (i := 7) (b := n % 128) (by omega) 1
        simpa using this.symm
      have hpos := mbWidth_pos (n / 128)
      have hw : mbWidth (n / 128) ≠ 0 := by omega
      rw [mbWidth_of_ge hge] at h ⊢
      simp only [hne, if_false, hor, encodeMb, hw]
      rw [writeMultibyteAux_eq fuel (n / 128) (by omega)]

theorem multibyteBytes_eq (n : Nat) (h : n < 2 ^ 63) :
    multibyteBytes n = encodeMb (mbWidth n) n :=
  writeMultibyteAux_eq 10 n (by have := mbWidth_le_nine n h; omega)

theorem getMultibyte_multibyteBytes (n : Nat) (h : n < 2 ^ 63) (r : Bytes) (b : Bool) :
    getMultibyte { rem := multibyteBytes n ++ r, bad := b }
      = .ok (n, multibyteBytes n, { rem := r, bad := b }) := by
  rw [multibyteBytes_eq n h]
  exact multibyte_roundtrip _ n r b (mbWidth_pos n) (mbWidth_le_nine n h)
    (lt_of_mbWidth_le _ n (Nat.le_refl _))

/-! ## rejection of over-long encodings -/

theorem getMultibyteAux_all_cont : ∀ (l : Bytes) (i result : Nat) (acc r : Bytes) (b : Bool),
    (∀ x ∈ l, x.toNat &&& 0x80 ≠ 0) →
    getMultibyteAux l.length i result acc { rem := l ++ r, bad := b } = .error .xz
  | [], _, _, _, _, _, _ => rfl
  | x :: l, i, result, acc, r, b, h => by
    have hx := h x (by simp)
    simp only [List.length_cons, getMultibyteAux, Rd.readU8, List.cons_append, bind, Except.bind,
      hx, if_false]
    exact getMultibyteAux_all_cont l _ _ _ r b (fun y hy => h y (by simp [hy]))

theorem getMultibyte_reject_long (l r : Bytes) (b : Bool) (hl : l.length = 9)
    (h : ∀ x ∈ l, x.toNat &&& 0x80 ≠ 0) :
    getMultibyte { rem := l ++ r, bad := b } = .error .xz := by
  unfold getMultibyte
  rw [← hl]
  exact getMultibyteAux_all_cont l 0 0 [] r b h

end Lzma
