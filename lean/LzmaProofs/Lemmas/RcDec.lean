/-
  The range decoder: evaluation lemmas for `normalize`, `decode_bit`, `get_bit`,
  absence of panics, range/probability invariants and progress.
-/
import LzmaProofs.Lemmas.RcEnc
namespace Lzma
open RcArith

theorem rc_except_ok_bind {ε α β : Type} (a : α) (f : α → Except ε β) :
    ((Except.ok a : Except ε α) >>= f) = f a := rfl

theorem rc_except_pure_bind {ε α β : Type} (a : α) (f : α → Except ε β) :
    ((pure a : Except ε α) >>= f) = f a := rfl

namespace RC

theorem normalize_ge (rc : RC) (rd : Rd) (h : 16777216 ≤ rc.range) :
    RC.normalize rc rd = .ok (rc, rd) := by
  have : ¬ rc.range < 0x01000000 := by omega
  simp [RC.normalize, this]; rfl

theorem getBit_eq (rc : RC) (rd : Rd) :
    RC.getBit rc rd =
      (RC.normalize { range := rc.range >>> 1,
                      code := if rc.range >>> 1 ≤ rc.code then rc.code - rc.range >>> 1 else rc.code } rd).map
        (fun x => (decide (rc.range >>> 1 ≤ rc.code), x.1, x.2)) := by
  unfold RC.getBit
  simp only [ge_iff_le, decide_eq_true_eq]
  cases RC.normalize _ rd <;> rfl

/-! ## no panics, invariants, progress -/

theorem bound_le (range p : Nat) (hp : p ≤ 2048) : (range >>> 11) * p ≤ range := by
  rw [Nat.shiftRight_eq_div_pow]
  have h1 : range / 2 ^ 11 * p ≤ range / 2 ^ 11 * 2048 := Nat.mul_le_mul_left _ hp
  omega

theorem bound_lt {range p : Nat} (hp : p ≤ 2048) (hr : range < 4294967296) :
    (range >>> 11) * p < 4294967296 := Nat.lt_of_le_of_lt (bound_le range p hp) hr

theorem normalize_cases (rc : RC) (rd : Rd) :
    (16777216 ≤ rc.range ∧ RC.normalize rc rd = .ok (rc, rd)) ∨
    (rc.range < 16777216 ∧ rd.rem = [] ∧ RC.normalize rc rd = .error rd.endErr) ∨
    (rc.range < 16777216 ∧ ∃ b rest, rd.rem = b :: rest ∧
      RC.normalize rc rd = .ok ({ range := rc.range * 256, code := shlU32 rc.code 8 ^^^ b.toNat },
        { rd with rem := rest })) := by
  by_cases h : 16777216 ≤ rc.range
  · exact .inl ⟨h, normalize_ge rc rd h⟩
  · have h' : rc.range < 16777216 := by omega
    have h0 : rc.range < 0x01000000 := h'
    cases hrem : rd.rem with
    | nil =>
      have hr : rd.readU8 = .error rd.endErr := by simp [Rd.readU8, hrem]
      exact .inr (.inl ⟨h', rfl, by simp only [RC.normalize, h0, if_true, hr]; rfl⟩)
    | cons b rest =>
      refine .inr (.inr ⟨h', b, rest, rfl, ?_⟩)
      have hr : rd.readU8 = .ok (b, { rd with rem := rest }) := by simp [Rd.readU8, hrem]
      simp only [RC.normalize, h0, if_true, hr, rc_except_ok_bind]
      rw [shlU32_eq _ h']
      rfl

/-- the shift case when `code` has room for a byte (as it has while `code < range`) -/
theorem normalize_lt (rc : RC) (rd : Rd) (b : UInt8) (rest : Bytes) (h : rc.range < 16777216)
    (hc : rc.code < 16777216) (hrem : rd.rem = b :: rest) :
    RC.normalize rc rd =
      .ok ({ range := rc.range * 256, code := rc.code * 256 + b.toNat }, { rd with rem := rest }) := by
  rcases normalize_cases rc rd with ⟨h1, _⟩ | ⟨_, h1, _⟩ | ⟨_, b', rest', h1, h2⟩
  · omega
  · rw [hrem] at h1; cases h1
  · rw [hrem] at h1; cases h1
    rw [h2, shlU32_eq _ hc, xor_byte _ _ b.toNat_lt]

theorem endErr_ne_panic (rd : Rd) (s : String) : rd.endErr ≠ .panic s := by
  unfold Rd.endErr; split <;> simp

theorem normalize_no_panic (rc : RC) (rd : Rd) (s : String) :
    RC.normalize rc rd ≠ .error (.panic s) := by
  rcases normalize_cases rc rd with ⟨_, h⟩ | ⟨_, _, h⟩ | ⟨_, b, rest, _, h⟩ <;> rw [h] <;> simp
  exact endErr_ne_panic rd s

/-- `decode_bit` as one normalisation of the narrowed state: for a probability `≤ 0x800` and a
`u32` bound none of the checked operations fails -/
theorem decodeBit_spec (u : Bool) (p : Nat) (rc : RC) (rd : Rd) (hp : p ≤ 2048)
    (hr : (rc.range >>> 11) * p < 4294967296) :
    RC.decodeBit u p rc rd =
      (RC.normalize
        (if rc.code < (rc.range >>> 11) * p then { range := (rc.range >>> 11) * p, code := rc.code }
         else { range := rc.range - (rc.range >>> 11) * p, code := rc.code - (rc.range >>> 11) * p }) rd).map
        (fun x => (decide ((rc.range >>> 11) * p ≤ rc.code),
          if u then updP p (decide ((rc.range >>> 11) * p ≤ rc.code)) else p, x.1, x.2)) := by
  have hb := bound_le rc.range p hp
  have h1 : mulChk U32 "decode_bit: bound overflow" (rc.range >>> 11) p = .ok ((rc.range >>> 11) * p) := by
    simp [mulChk, U32, hr]
  unfold RC.decodeBit
  rw [h1]
  by_cases hlt : rc.code < (rc.range >>> 11) * p
  · have hd : decide ((rc.range >>> 11) * p ≤ rc.code) = false := by simp; omega
    have h2 : subChk "decode_bit: 0x800 - prob" 0x800 p = .ok (0x800 - p) := by simp [subChk, hp]
    have h3 : addChk U16 "decode_bit: prob += overflow" p ((0x800 - p) >>> 5) = .ok (updP p false) := by
      have : p + (2048 - p) >>> 5 < U16 := by rw [Nat.shiftRight_eq_div_pow]; unfold U16; omega
      simp [addChk, this, updP]
    rw [if_pos hlt, hd]
    cases u <;> simp only [rc_except_ok_bind, rc_except_pure_bind, hlt, if_true, h2, h3,
      Bool.false_eq_true, if_false] <;> cases RC.normalize _ rd <;> rfl
  · have hd : decide ((rc.range >>> 11) * p ≤ rc.code) = true := by simp; omega
    have h2 : subChk "decode_bit: code -= bound" rc.code ((rc.range >>> 11) * p)
        = .ok (rc.code - (rc.range >>> 11) * p) := by simp [subChk]; omega
    have h3 : subChk "decode_bit: range -= bound" rc.range ((rc.range >>> 11) * p)
        = .ok (rc.range - (rc.range >>> 11) * p) := by simp [subChk, hb]
    rw [if_neg hlt, hd]
    simp only [rc_except_ok_bind, hlt, if_false, h2, h3]
    cases u <;> cases RC.normalize _ rd <;> rfl

theorem map_ne_panic {α β : Type} {r : Except Err α} {f : α → β} {s : String}
    (h : r ≠ .error (.panic s)) : r.map f ≠ .error (.panic s) := by
  cases r with
  | ok a => simp [Except.map]
  | error e => simpa [Except.map] using h

/-- `decode_bit` never panics (for a probability `≤ 0x800` and a `u32` range): the three
checked operations succeed; the only possible errors are the reader's EOF / I/O error. -/
theorem decodeBit_no_panic (u : Bool) (p : Nat) (rc : RC) (rd : Rd) (hp : p ≤ 2048)
    (hr : rc.range < 4294967296) (s : String) :
    RC.decodeBit u p rc rd ≠ .error (.panic s) := by
  rw [decodeBit_spec u p rc rd hp (bound_lt hp hr)]
  exact map_ne_panic (normalize_no_panic _ _ _)

theorem getBit_no_panic (rc : RC) (rd : Rd) (s : String) :
    RC.getBit rc rd ≠ .error (.panic s) := by
  rw [getBit_eq]
  exact map_ne_panic (normalize_no_panic _ _ _)

theorem map_eq_ok {α β : Type} {r : Except Err α} {f : α → β} {y : β} (h : r.map f = .ok y) :
    ∃ x, r = .ok x ∧ f x = y := by
  cases r with
  | ok a => exact ⟨a, rfl, by simpa [Except.map] using h⟩
  | error e => simp [Except.map] at h

theorem normalize_ok_inv {m rc' : RC} {rd rd' : Rd} (hlo : 65536 ≤ m.range)
    (hhi : m.range < 4294967296) (h : RC.normalize m rd = .ok (rc', rd')) :
    16777216 ≤ rc'.range ∧ rc'.range < 4294967296 ∧ rd'.bad = rd.bad ∧
    (m.code < m.range → rc'.code < rc'.range) ∧
    ((rd' = rd ∧ rc' = m) ∨ (m.range < 16777216 ∧ ∃ x, rd.rem = x :: rd'.rem)) := by
  rcases normalize_cases m rd with ⟨h1, h2⟩ | ⟨_, _, h2⟩ | ⟨h1, b, rest, hrem, h2⟩
  · rw [h2] at h; cases h
    exact ⟨h1, hhi, rfl, fun h => h, .inl ⟨rfl, rfl⟩⟩
  · rw [h2] at h; cases h
  · rw [h2] at h; cases h
    refine ⟨by simp; omega, by simp; omega, rfl, fun hc => ?_, .inr ⟨h1, b, hrem⟩⟩
    have hc' : m.code < 16777216 := by omega
    have := b.toNat_lt
    simp only [shlU32_eq _ hc', xor_byte _ _ this]
    omega

theorem decodeBit_ok_inv {u : Bool} {p : Nat} {rc : RC} {rd : Rd} {b : Bool} {p' : Nat} {rc' : RC}
    {rd' : Rd} (hp : ProbOk p) (hlo : 16777216 ≤ rc.range) (hhi : rc.range < 4294967296)
    (h : RC.decodeBit u p rc rd = .ok (b, p', rc', rd')) :
    16777216 ≤ rc'.range ∧ rc'.range < 4294967296 ∧
    p' = (if u then updP p b else p) ∧ ProbOk p' ∧ rd'.bad = rd.bad ∧
    (rc.code < rc.range → rc'.code < rc'.range) ∧
    ((rd' = rd ∧ rc'.range < rc.range) ∨ (∃ x, rd.rem = x :: rd'.rem)) := by
  obtain ⟨hb1, hb2⟩ := REnc.bound_facts hlo hhi hp
  rw [decodeBit_spec u p rc rd (by have := hp.2; omega) (by omega)] at h
  obtain ⟨⟨rc1, rd1⟩, hn, hf⟩ := map_eq_ok h
  simp only [Prod.mk.injEq] at hf
  obtain ⟨rfl, rfl, rfl, rfl⟩ := hf
  have hpo : ProbOk (if u then updP p (decide ((rc.range >>> 11) * p ≤ rc.code)) else p) := by
    cases u
    · exact hp
    · exact hp.upd _
  -- the narrowed state: width in `[2^16, range)`, `code` still below the width
  generalize hm : (if rc.code < (rc.range >>> 11) * p then
      ({ range := (rc.range >>> 11) * p, code := rc.code } : RC)
    else { range := rc.range - (rc.range >>> 11) * p, code := rc.code - (rc.range >>> 11) * p }) = m at hn
  have hmr : 65536 ≤ m.range ∧ m.range < rc.range ∧ (rc.code < rc.range → m.code < m.range) := by
    subst hm; split <;> exact ⟨by simp; omega, by simp; omega, fun _ => by simp; omega⟩
  obtain ⟨a1, a2, a3, a4, a5⟩ := normalize_ok_inv hmr.1 (by omega) hn
  refine ⟨a1, a2, rfl, hpo, a3, fun hc => a4 (hmr.2.2 hc), ?_⟩
  rcases a5 with ⟨e1, e2⟩ | ⟨_, x⟩
  · exact .inl ⟨e1, e2 ▸ hmr.2.1⟩
  · exact .inr x

theorem getBit_ok_inv {rc : RC} {rd : Rd} {b : Bool} {rc' : RC} {rd' : Rd}
    (hlo : 16777216 ≤ rc.range) (hhi : rc.range < 4294967296)
    (h : RC.getBit rc rd = .ok (b, rc', rd')) :
    16777216 ≤ rc'.range ∧ rc'.range < 4294967296 ∧ rd'.bad = rd.bad ∧
    ((rd' = rd ∧ rc'.range < rc.range) ∨ (∃ x, rd.rem = x :: rd'.rem)) := by
  rw [getBit_eq] at h
  obtain ⟨⟨rc1, rd1⟩, hn, hf⟩ := map_eq_ok h
  simp only [Prod.mk.injEq] at hf
  obtain ⟨rfl, rfl, rfl⟩ := hf
  have hs : rc.range >>> 1 = rc.range / 2 := by rw [Nat.shiftRight_eq_div_pow]
  obtain ⟨a1, a2, a3, a4, a5⟩ := normalize_ok_inv (by simp; omega) (by simp; omega) hn
  refine ⟨a1, a2, a3, ?_⟩
  rcases a5 with ⟨e1, e2⟩ | ⟨_, x⟩
  · left; rw [e2]; exact ⟨e1, by simp; omega⟩
  · right; exact x

/-- `get_bit` does not preserve `code < range` when `range` is odd (such a state is
unreachable from a conforming encoder, see `RcSim`) -/
example : RC.getBit { range := 0x01000001, code := 0x01000000 } { rem := [0] }
    = .ok (true, { range := 0x80000000, code := 0x80000000 }, { rem := [] }) := by rfl

/-- with an inadmissible probability the decoder's single-shift `normalize` does
not restore `range ≥ 2^24` (this is why `ProbOk` is `31 ≤ p ≤ 2017`, the set closed
under the update rule, and not merely `0 < p < 0x800`) -/
example : RC.decodeBit true 1 { range := 0x01000000, code := 0 } { rem := [0] }
    = .ok (false, 64, { range := 0x200000, code := 0 }, { rem := [] }) := by rfl

end RC

/-! `runDec` binds by `match`; these are its four cases in `>>=` form -/

theorem runDec_ret {σ ι α : Type} [ProbStore σ ι] (u : Bool) (a : α) (s : σ) (rc : RC) (rd : Rd) :
    runDec u (.ret a : Coder ι α) s rc rd = .ok (a, s, rc, rd) := rfl

theorem runDec_fail {σ ι α : Type} [ProbStore σ ι] (u : Bool) (e : Err) (s : σ) (rc : RC) (rd : Rd) :
    runDec u (.fail e : Coder ι α) s rc rd = .error e := rfl

theorem runDec_bit {σ ι α : Type} [ProbStore σ ι] (u : Bool) (i : ι) (k : Bool → Coder ι α) (s : σ)
    (rc : RC) (rd : Rd) :
    runDec u (.bit i k) s rc rd = ProbStore.get s i >>= fun p => rc.decodeBit u p rd >>= fun x =>
      runDec u (k x.1) (if u then ProbStore.set s i x.2.1 else s) x.2.2.1 x.2.2.2 := by
  rw [runDec]
  cases ProbStore.get s i with
  | error e => rfl
  | ok p =>
    dsimp only [bind, Except.bind]
    cases rc.decodeBit u p rd <;> rfl

theorem runDec_direct {σ ι α : Type} [ProbStore σ ι] (u : Bool) (k : Bool → Coder ι α) (s : σ)
    (rc : RC) (rd : Rd) :
    runDec u (.direct k) s rc rd = rc.getBit rd >>= fun x => runDec u (k x.1) s x.2.1 x.2.2 := by
  rw [runDec]
  cases rc.getBit rd <;> rfl

end Lzma
