/-
  The LZMA2 framing layer (`LzmaModel/Lzma2.lean`): inversion of the stages of `parse_lzma`
  (defined in `Lemmas/Stages.lean`), the chunk grammar (`Chunk`, `Chunk.WF`, `Chunk.Exec`, `Run`)
  that `lzma2_decompress` accepts exactly (`chunkLoop_ok_iff`, `decompress_ok_iff`), and what
  follows from it for truncated, trailing and malformed input (C11, C17).
  Also here, for C11 and C12: success of `xz_decompress` and of `lzma_decompress` without a size
  in effect leaves the reader at its end (`xzDecompress_post`, `lzmaDecompress_no_size_eof`).
-/
import LzmaProofs.Lemmas.ProcessMode
import LzmaProofs.Lemmas.Stages
import LzmaProofs.Lemmas.SinkCalls
namespace Lzma
namespace L2

theorem lzErr_ok_inv {e : Except Err α} {a : α} (h : lzErr e = .ok a) : e = .ok a := by
  cases e <;> simp_all [lzErr]

theorem lzErr_error_inv {e : Except Err α} {x : Err} (h : lzErr e = .error x) : x = .lzma := by
  cases e <;> simp_all [lzErr]

section
open DState
variable {ω : Type} [LzBuf ω]

theorem processMode_unpackedSize {mode : Mode} {st : DState} {w : ω} {rc : RC} {rd : Rd}
    {s s' : Sink} {st' : DState} {w' : ω} {rc' : RC} {rd' : Rd}
    (h : processMode mode st w rc rd s = (s', .ok (st', w', rc', rd'))) :
    st'.unpackedSize = st.unpackedSize := (processMode_fields h).1

end

theorem Rd.readU16BE_lt {r r' : Rd} {v : Nat} (h : r.readU16BE = .ok (v, r')) : v < 65536 := by
  obtain ⟨b1, b2, -, rfl, -⟩ := Lzma.Rd.readU16BE_ok.1 h
  have := b1.toNat_lt; have := b2.toNat_lt; omega

open Lzma2Decoder

theorem parseUncompressed_eq (a : Accum) (rd : Rd) (r : Bool) :
    parseUncompressed a rd r = liftE (lzErr rd.readU16BE) >>= fun x =>
      (if r then a.reset else pure a) >>= fun a0 =>
      liftE (lzErr (x.2.readExact (x.1 + 1))) >>= fun y => pure (a0.appendBytes y.1, y.2) := by
  simp only [parseUncompressed, mIte_bind]

theorem parseUncompressed_ok_iff {accum accum' : Accum} {rd rd' : Rd} {resetDict : Bool}
    {s s' : Sink} :
    parseUncompressed accum rd resetDict s = (s', .ok (accum', rd')) ↔
      ∃ b1 b2 data rest a0, rd.rem = b1 :: b2 :: (data ++ rest) ∧
        data.length = b1.toNat * 256 + b2.toNat + 1 ∧
        (if resetDict then accum.reset else pure accum) s = (s', .ok a0) ∧
        accum' = a0.appendBytes data ∧ rd' = { rd with rem := rest } := by
  rw [parseUncompressed_eq]
  constructor
  · intro h
    obtain ⟨⟨u, rd1⟩, s1, h1, k1⟩ := mBind_eq_ok.1 h
    obtain ⟨e1, rfl⟩ := liftE_eq_ok.1 h1
    obtain ⟨b1, b2, hr, rfl, hb1⟩ := Rd.readU16BE_ok.1 (lzErr_ok_inv e1)
    obtain ⟨a0, s2, h2, k2⟩ := mBind_eq_ok.1 k1
    obtain ⟨⟨buf, rd2⟩, s3, h3, k3⟩ := mBind_eq_ok.1 k2
    obtain ⟨e3, rfl⟩ := liftE_eq_ok.1 h3
    obtain ⟨hr2, hl, hb2⟩ := Rd.readExact_ok.1 (lzErr_ok_inv e3)
    obtain ⟨e, rfl⟩ := mPure_eq_ok.1 k3
    cases e
    exact ⟨b1, b2, buf, rd2.rem, a0, hr.trans (by rw [← hr2]), hl, h2, rfl,
      Rd.ext' rfl (hb2.trans hb1)⟩
  · rintro ⟨b1, b2, data, rest, a0, hr, hl, h2, rfl, rfl⟩
    rw [bind_run_ok (a := (b1.toNat * 256 + b2.toNat, { rd with rem := data ++ rest })) (s' := s)
        (by rw [(Rd.readU16BE_ok (r' := { rd with rem := data ++ rest })).2 ⟨b1, b2, hr, rfl, rfl⟩]; rfl),
      bind_run_ok h2,
      bind_run_ok (a := (data, { rd with rem := rest })) (s' := s')
        (by rw [(Rd.readExact_ok (r := { rd with rem := data ++ rest }) (r' := { rd with rem := rest })).2
          ⟨rfl, hl, rfl⟩]; rfl)]
    rfl

def propsOfByte (b : UInt8) : Props :=
  { lc := b.toNat % 9, lp := b.toNat / 9 % 5, pb := b.toNat / 9 / 5 }

theorem lzma2PropsStage_ok_iff {d : Lzma2Decoder} {rd rd3 : Rd} {cls : Nat} {st0 : DState} :
    lzma2PropsStage d rd cls = .ok (st0, rd3) ↔
      (cls = 0 ∧ st0 = d.lzmaState ∧ rd3 = rd) ∨
      (cls = 1 ∧ d.lzmaState.resetState d.lzmaState.props = .ok st0 ∧ rd3 = rd) ∨
      (cls ≥ 2 ∧ ∃ b rest, rd.rem = b :: rest ∧ b.toNat < 225 ∧ b.toNat % 9 + b.toNat / 9 % 5 ≤ 4 ∧
        d.lzmaState.resetState (propsOfByte b) = .ok st0 ∧ rd3 = { rd with rem := rest }) := by
  unfold lzma2PropsStage
  constructor
  · intro h
    split at h
    · obtain ⟨x, hx, h⟩ := Except.bind_eq_ok'.1 h
      obtain ⟨st, hst, h⟩ := Except.bind_eq_ok'.1 h
      cases Except.pure_eq_ok.1 h
      split at hx
      · obtain ⟨⟨b, rd1⟩, hy, hx⟩ := Except.bind_eq_ok'.1 hx
        obtain ⟨hr, hb⟩ := Rd.readU8_ok.1 (lzErr_ok_inv hy)
        dsimp only at hx
        split at hx
        · cases hx
        split at hx
        · cases hx
        cases Except.pure_eq_ok.1 hx
        exact .inr (.inr ⟨‹_›, b, rd1.rem, hr, by omega, by omega, hst, Rd.ext' rfl hb⟩)
      · cases Except.pure_eq_ok.1 hx
        exact .inr (.inl ⟨by omega, hst, rfl⟩)
    · cases Except.pure_eq_ok.1 h
      exact .inl ⟨by omega, rfl, rfl⟩
  · rintro (⟨rfl, rfl, rfl⟩ | ⟨rfl, h, rfl⟩ | ⟨hc, b, rest, hr, hb1, hb2, h, rfl⟩)
    · rfl
    · simp [h, bind, Except.bind, pure, Except.pure]
    · have hy : lzErr rd.readU8 = .ok (b, { rd with rem := rest }) := by simp [Rd.readU8, hr, lzErr]
      rw [if_pos (by omega), if_pos hc, hy]
      simp only [bind, Except.bind, if_neg (show ¬ b.toNat ≥ 225 by omega),
        if_neg (show ¬ b.toNat % 9 + b.toNat / 9 % 5 > 4 by omega), pure, Except.pure]
      rw [show ({ lc := b.toNat % 9, lp := b.toNat / 9 % 5, pb := b.toNat / 9 / 5 } : Props)
        = propsOfByte b from rfl, h]

theorem lzma2Payload_ok_iff {st : DState} {a : Accum} {rd : Rd} {k : Nat}
    {s s' : Sink} {d' : Lzma2Decoder} {a' : Accum} {rd' : Rd} :
    lzma2Payload st a rd k s = (s', .ok (d', a', rd')) ↔
      ∃ rc tk st1 rc1 tk1, RC.new (rd.split k).1 = .ok (rc, tk) ∧
        st.processMode .finish a rc tk s = (s', .ok (st1, a', rc1, tk1)) ∧
        rc1.code = 0 ∧ tk1.rem = [] ∧ tk1.bad = false ∧
        d' = { lzmaState := st1 } ∧ rd' = { rd with rem := rd.rem.drop k } := by
  unfold lzma2Payload lzma2EndStage
  constructor
  · intro h
    obtain ⟨⟨rc, tk⟩, s1, h1, k1⟩ := mBind_eq_ok.1 h
    obtain ⟨e1, rfl⟩ := liftE_eq_ok.1 h1
    obtain ⟨⟨st1, a1, rc1, tk1⟩, s2, h2, k2⟩ := mBind_eq_ok.1 k1
    obtain ⟨e2, rfl⟩ := liftE_eq_ok.1 k2
    obtain ⟨fin, h3, h⟩ := Except.bind_eq_ok'.1 e2
    dsimp only at h3 h
    cases fin
    · cases h
    · cases Except.pure_eq_ok.1 h
      obtain ⟨h4, h5, h6⟩ := DState.isFinishedOk_iff.1 h3
      exact ⟨rc, tk, st1, rc1, tk1, lzErr_ok_inv e1, h2, h4, h5, h6, rfl,
        by simp [Rd.unsplit, Rd.split, h5]⟩
  · rintro ⟨rc, tk, st1, rc1, tk1, h1, h2, h4, h5, h6, rfl, rfl⟩
    rw [h1, bind_run_ok (a := (rc, tk)) (s' := s) rfl, bind_run_ok h2]
    simp [DState.isFinishedOk_iff.2 ⟨h4, h5, h6⟩, Rd.unsplit, Rd.split, h5, bind, Except.bind,
      pure, Except.pure]

/-- the declared unpacked size of a compressed chunk -/
def lzUnpacked (status u : Nat) : Nat := (((status &&& 0x1F) <<< 16) ||| u) + 1

theorem parseLzma_ok_iff {d d' : Lzma2Decoder} {a a' : Accum} {rd rd' : Rd}
    {status : Nat} {s s' : Sink} :
    parseLzma d a rd status s = (s', .ok (d', a', rd')) ↔
      status &&& 0x80 ≠ 0 ∧
      ∃ u1 u2 p1 p2 rest s0 a0 st0 rd3 rc tk st1 rc1 tk1,
        rd.rem = u1 :: u2 :: p1 :: p2 :: rest ∧
        (if (status >>> 5) &&& 0x3 = 3 then a.reset else pure a) s = (s0, .ok a0) ∧
        lzma2PropsStage d { rd with rem := rest } ((status >>> 5) &&& 0x3) = .ok (st0, rd3) ∧
        RC.new (rd3.split (p1.toNat * 256 + p2.toNat + 1)).1 = .ok (rc, tk) ∧
        (st0.setUnpackedSize (some (lzUnpacked status (u1.toNat * 256 + u2.toNat) + a0.len))).processMode
          .finish a0 rc tk s0 = (s', .ok (st1, a', rc1, tk1)) ∧
        rc1.code = 0 ∧ tk1.rem = [] ∧ tk1.bad = false ∧
        d' = { lzmaState := st1 } ∧
        rd' = { rd3 with rem := rd3.rem.drop (p1.toNat * 256 + p2.toNat + 1) } := by
  rw [parseLzma_eq_M]
  unfold parseLzmaM
  constructor
  · intro h
    obtain ⟨h80, h⟩ | ⟨h80, h⟩ := mIte_eq.1 h
    · cases h
    refine ⟨h80, ?_⟩
    obtain ⟨⟨u, rd1⟩, s1, h1, k1⟩ := mBind_eq_ok.1 h
    obtain ⟨e1, rfl⟩ := liftE_eq_ok.1 h1
    obtain ⟨u1, u2, hr1, rfl, hb1⟩ := Rd.readU16BE_ok.1 (lzErr_ok_inv e1)
    obtain ⟨⟨p, rd2⟩, s2, h2, k2⟩ := mBind_eq_ok.1 k1
    obtain ⟨e2, rfl⟩ := liftE_eq_ok.1 h2
    obtain ⟨p1, p2, hr2, rfl, hb2⟩ := Rd.readU16BE_ok.1 (lzErr_ok_inv e2)
    have e : rd2 = { rd with rem := rd2.rem } := Rd.ext' rfl (hb2.trans hb1)
    obtain ⟨a0, s0, h3, k3⟩ := mBind_eq_ok.1 k2
    obtain ⟨⟨st0, rd3⟩, s4, h4, k4⟩ := mBind_eq_ok.1 k3
    obtain ⟨e4, rfl⟩ := liftE_eq_ok.1 h4
    obtain ⟨rc, tk, st1, rc1, tk1, g⟩ := lzma2Payload_ok_iff.1 k4
    exact ⟨u1, u2, p1, p2, _, _, a0, st0, rd3, rc, tk, st1, rc1, tk1, hr1.trans (by rw [← hr2]), h3,
      by rw [← e]; exact e4, g⟩
  · rintro ⟨h80, u1, u2, p1, p2, r2, s0, a0, st0, rd3, rc, tk, st1, rc1, tk1, hr, h3, h4, g⟩
    rw [if_neg h80,
      bind_run_ok (a := (u1.toNat * 256 + u2.toNat, { rd with rem := p1 :: p2 :: r2 })) (s' := s)
        (by rw [(Rd.readU16BE_ok (r' := { rd with rem := p1 :: p2 :: r2 })).2 ⟨u1, u2, hr, rfl, rfl⟩]; rfl),
      bind_run_ok (a := (p1.toNat * 256 + p2.toNat, { rd with rem := r2 })) (s' := s)
        (by rw [(Rd.readU16BE_ok (r := { rd with rem := p1 :: p2 :: r2 }) (r' := { rd with rem := r2 })).2
          ⟨p1, p2, rfl, rfl, rfl⟩]; rfl),
      bind_run_ok h3, bind_run_ok (a := (st0, rd3)) (s' := s0) (by rw [h4]; rfl)]
    exact lzma2Payload_ok_iff.2 ⟨rc, tk, st1, rc1, tk1, g⟩

theorem beBytes_two (n : Nat) : beBytes 2 n = [UInt8.ofNat (n / 256), UInt8.ofNat n] := by
  simp [beBytes, leBytes]
  constructor <;> (apply UInt8.toNat_inj.1; simp)

theorem beBytes_two_of_bytes (b1 b2 : UInt8) : beBytes 2 (b1.toNat * 256 + b2.toNat) = [b1, b2] := by
  have h1 := b1.toNat_lt; have h2 := b2.toNat_lt
  rw [beBytes_two]
  have e1 : (b1.toNat * 256 + b2.toNat) / 256 = b1.toNat := by omega
  rw [e1]
  have e2 : UInt8.ofNat (b1.toNat * 256 + b2.toNat) = b2 := by
    apply UInt8.toNat_inj.1
    simp
  rw [e2]; simp

theorem beBytes_two_val (n : Nat) (h : n < 65536) :
    ∃ b1 b2 : UInt8, beBytes 2 n = [b1, b2] ∧ b1.toNat * 256 + b2.toNat = n := by
  refine ⟨UInt8.ofNat (n / 256), UInt8.ofNat n, beBytes_two n, ?_⟩
  simp; omega

theorem lzUnpacked_eq (status u : Nat) (hu : u < 65536) :
    lzUnpacked status u = (status % 32) * 65536 + u + 1 := by
  unfold lzUnpacked
  rw [← Nat.shiftLeft_add_eq_or_of_lt (i := 16) (by simpa using hu)]
  rw [Nat.shiftLeft_eq, show (0x1F : Nat) = 2 ^ 5 - 1 from rfl, Nat.and_two_pow_sub_one_eq_mod]

theorem and80_iff (c : UInt8) : c.toNat &&& 0x80 ≠ 0 ↔ 0x80 ≤ c.toNat :=
  have : ∀ c < 256, (c &&& 0x80 ≠ 0) = (0x80 ≤ c) := by decide +kernel
  (this _ (by simpa using c.toNat_lt)).to_iff

/-- One LZMA2 chunk as it lies in the input. -/
inductive Chunk where
  /-- uncompressed chunk: control byte 1 (dictionary reset) or 2 -/
  | raw (resetDict : Bool) (data : Bytes)
  /-- LZMA chunk: control byte ≥ 0x80, declared unpacked size, optional property byte,
  range-coded payload -/
  | packed (control : UInt8) (unpackedSize : Nat) (props : Option UInt8) (payload : Bytes)
  deriving Repr, DecidableEq

namespace Chunk

def control : Chunk → UInt8
  | .raw r _ => if r then 1 else 2
  | .packed c _ _ _ => c

/-- everything after the control byte -/
def body : Chunk → Bytes
  | .raw _ data => beBytes 2 (data.length - 1) ++ data
  | .packed _ u p payload =>
    beBytes 2 ((u - 1) % 65536) ++ (beBytes 2 (payload.length - 1) ++ (p.toList ++ payload))

def bytes (c : Chunk) : Bytes := c.control :: c.body

def WF : Chunk → Prop
  | .raw _ data => 1 ≤ data.length ∧ data.length ≤ 65536
  | .packed c u p payload =>
    0x80 ≤ c.toNat ∧ 1 ≤ u ∧ (u - 1) / 65536 = c.toNat % 32 ∧
    5 ≤ payload.length ∧ payload.length ≤ 65536 ∧
    (match p with
     | none => c.toNat < 0xC0
     | some b => 0xC0 ≤ c.toNat ∧ b.toNat < 225 ∧ b.toNat % 9 + b.toNat / 9 % 5 ≤ 4)

instance (c : Chunk) : Decidable c.WF := by
  cases c with
  | raw r data => unfold WF; infer_instance
  | packed c u p payload =>
    cases p <;> (unfold WF; infer_instance)

/-- the effect of a chunk on decoder state, window and sink -/
def Exec : Chunk → Lzma2Decoder → Accum → Sink → Lzma2Decoder → Accum → Sink → Prop
  | .raw r data, d, a, s, d', a', s' =>
    d' = d ∧ ∃ a0, (if r then a.reset else pure a) s = (s', .ok a0) ∧ a' = a0.appendBytes data
  | .packed c u p payload, d, a, s, d', a', s' =>
    ∃ s0 a0 st0 rc tk st1 rc1 tk1,
      -- dictionary reset (history flushed to the sink) iff control ≥ 0xE0
      (if 0xE0 ≤ c.toNat then a.reset else pure a) s = (s0, .ok a0) ∧
      -- state reset iff control ≥ 0xA0, with the new properties if there are any
      (if 0xA0 ≤ c.toNat then
          d.lzmaState.resetState (match p with
            | some b => propsOfByte b
            | none => d.lzmaState.props)
        else .ok d.lzmaState) = .ok st0 ∧
      -- the payload is a complete range-coder stream for exactly `u` more bytes
      RC.new (Rd.ofBytes payload) = .ok (rc, tk) ∧
      (st0.setUnpackedSize (some (u + a0.len))).processMode .finish a0 rc tk s0
        = (s', .ok (st1, a', rc1, tk1)) ∧
      rc1.code = 0 ∧ tk1.rem = [] ∧ tk1.bad = false ∧
      d' = { lzmaState := st1 }

end Chunk

/-- a sequence of chunks executed from left to right -/
inductive Run : List Chunk → Lzma2Decoder → Accum → Sink → Lzma2Decoder → Accum → Sink → Prop
  | nil (d a s) : Run [] d a s d a s
  | cons {c cs d a s d1 a1 s1 d2 a2 s2} :
      c.Exec d a s d1 a1 s1 → Run cs d1 a1 s1 d2 a2 s2 → Run (c :: cs) d a s d2 a2 s2

theorem flatMap_bytes_length (cs : List Chunk) : cs.length ≤ (cs.flatMap Chunk.bytes).length := by
  induction cs with
  | nil => simp
  | cons c cs ih =>
    have : 1 ≤ c.bytes.length := by simp [Chunk.bytes]
    rw [List.flatMap_cons, List.length_append, List.length_cons]; omega

theorem Accum.reset_ok_iff {a a0 : Accum} {s s' : Sink} :
    a.reset s = (s', .ok a0) ↔
      writeAll a.buf s = (s', .ok ()) ∧ a0 = { a with buf := #[], len := 0 } := by
  unfold Accum.reset
  constructor
  · intro h
    obtain ⟨_, s1, h1, h2⟩ := mBind_eq_ok.1 h
    obtain ⟨rfl, rfl⟩ := mPure_eq_ok.1 h2
    exact ⟨h1, rfl⟩
  · rintro ⟨h1, rfl⟩
    rw [bind_run_ok h1]; rfl

theorem optReset_ok_iff {c : Prop} [Decidable c] {a a0 : Accum} {s s0 : Sink} :
    (if c then a.reset else pure a) s = (s0, .ok a0) ↔
      if c then writeAll a.buf s = (s0, .ok ()) ∧ a0 = { a with buf := #[], len := 0 }
      else s0 = s ∧ a0 = a := by
  split
  · exact Accum.reset_ok_iff
  · exact mPure_eq_ok.trans ⟨fun h => ⟨h.2, h.1.symm⟩, fun h => ⟨h.2.symm, h.1⟩⟩

theorem optReset_len {c : Prop} [Decidable c] {a a0 : Accum} {s s0 : Sink}
    (h : (if c then a.reset else pure a) s = (s0, .ok a0)) : a0.len = if c then 0 else a.len := by
  rw [optReset_ok_iff] at h
  split at h
  · rw [h.2, if_pos ‹c›]
  · rw [h.2, if_neg ‹¬c›]

theorem Chunk.Exec.packed_len {c u p payload d a s d' a' s'}
    (h : (Chunk.packed c u p payload).Exec d a s d' a' s') :
    a'.len = (if 0xE0 ≤ c.toNat then 0 else a.len) + u := by
  obtain ⟨s0, a0, st0, rc, tk, st1, rc1, tk1, h1, h2, h3, h4, -⟩ := h
  have : a'.len = u + a0.len := DState.processMode_finish_size h4 rfl
  rw [this, optReset_len h1, Nat.add_comm]

theorem RC.new_ok_length {rd : Rd} {rc : RC} {tk : Rd} (h : RC.new rd = .ok (rc, tk)) :
    5 ≤ rd.rem.length := by
  unfold RC.new at h
  cases h1 : rd.readU8 with
  | error e => simp [h1, bind, Except.bind] at h
  | ok x =>
    obtain ⟨b, rd1⟩ := x
    obtain ⟨hr, -⟩ := Rd.readU8_ok.1 h1
    simp only [h1, bind, Except.bind] at h
    unfold Rd.readU32BE at h
    cases h2 : rd1.readExact 4 with
    | error e => simp [h2, bind, Except.bind] at h
    | ok y =>
      obtain ⟨bs, rd2⟩ := y
      obtain ⟨hr2, hl, -⟩ := Rd.readExact_ok.1 h2
      rw [hr, hr2]; simp; omega

theorem RC.new_short {rd : Rd} (h : rd.rem.length < 5) : ∃ e, RC.new rd = .error e := by
  cases h1 : RC.new rd with
  | error e => exact ⟨e, rfl⟩
  | ok x => obtain ⟨rc, tk⟩ := x; have := RC.new_ok_length h1; omega

theorem parseUncompressed_ok_iff_chunk {a a' : Accum} {rd rd' : Rd} {r : Bool} {s s' : Sink}
    (d : Lzma2Decoder) :
    parseUncompressed a rd r s = (s', .ok (a', rd')) ↔
      ∃ data, (Chunk.raw r data).WF ∧ rd.rem = (Chunk.raw r data).body ++ rd'.rem ∧
        rd'.bad = rd.bad ∧ (Chunk.raw r data).Exec d a s d a' s' := by
  rw [parseUncompressed_ok_iff]
  constructor
  · rintro ⟨b1, b2, data, rest, a0, hr, hl, h2, rfl, rfl⟩
    have := b1.toNat_lt; have := b2.toNat_lt
    refine ⟨data, ⟨by omega, by omega⟩, ?_, rfl, rfl, a0, h2, rfl⟩
    simp only [Chunk.body]
    rw [show data.length - 1 = b1.toNat * 256 + b2.toNat by omega, beBytes_two_of_bytes, hr]
    simp
  · rintro ⟨data, ⟨hw1, hw2⟩, hr, hb, -, a0, h2, rfl⟩
    obtain ⟨b1, b2, hbe, hv⟩ := beBytes_two_val (data.length - 1) (by omega)
    refine ⟨b1, b2, data, rd'.rem, a0, ?_, by omega, h2, rfl, ?_⟩
    · rw [hr]; simp [Chunk.body, hbe]
    · exact Rd.ext' rfl hb

theorem cls_cases (c : UInt8) (h80 : 0x80 ≤ c.toNat) :
    ((c.toNat >>> 5) &&& 0x3 = 3 ↔ 0xE0 ≤ c.toNat) ∧
    ((c.toNat >>> 5) &&& 0x3 ≥ 1 ↔ 0xA0 ≤ c.toNat) ∧
    ((c.toNat >>> 5) &&& 0x3 ≥ 2 ↔ 0xC0 ≤ c.toNat) := by
  have cls_eq : ∀ c < 256, (c >>> 5) &&& 0x3 = c / 32 % 4 := by decide +kernel
  have := c.toNat_lt
  rw [cls_eq _ (by simpa using this)]
  omega

/-- the state-reset clause of `Chunk.Exec` is what the property stage computes -/
theorem lzma2PropsStage_ok_iff_chunk {d : Lzma2Decoder} {rd rd3 : Rd} {c : UInt8} {st0 : DState}
    (h80 : 0x80 ≤ c.toNat) :
    lzma2PropsStage d rd ((c.toNat >>> 5) &&& 0x3) = .ok (st0, rd3) ↔
      ∃ p : Option UInt8, rd.rem = p.toList ++ rd3.rem ∧ rd3.bad = rd.bad ∧
        (match p with
         | none => c.toNat < 0xC0
         | some b => 0xC0 ≤ c.toNat ∧ b.toNat < 225 ∧ b.toNat % 9 + b.toNat / 9 % 5 ≤ 4) ∧
        (if 0xA0 ≤ c.toNat then
            d.lzmaState.resetState (match p with
              | some b => propsOfByte b
              | none => d.lzmaState.props)
          else .ok d.lzmaState) = .ok st0 := by
  obtain ⟨h3, h1, h2⟩ := cls_cases c h80
  rw [lzma2PropsStage_ok_iff]
  constructor
  · rintro (⟨hc, rfl, rfl⟩ | ⟨hc, h, rfl⟩ | ⟨hc, b, rest, hr, hb1, hb2, h, rfl⟩)
    · refine ⟨none, by simp, rfl, ?_, ?_⟩
      · simp only; omega
      · rw [if_neg (by omega)]
    · refine ⟨none, by simp, rfl, ?_, ?_⟩
      · simp only; omega
      · rw [if_pos (by omega)]; exact h
    · refine ⟨some b, by simp [hr], rfl, ⟨by omega, hb1, hb2⟩, ?_⟩
      rw [if_pos (by omega)]; exact h
  · rintro ⟨p, hr, hb, hp, h⟩
    have e3 : rd3 = { rd with rem := rd3.rem } := Rd.ext' rfl hb
    cases p with
    | none =>
      simp only at hp
      simp at hr
      have e : rd3 = rd := by rw [e3, ← hr]
      by_cases ha : 0xA0 ≤ c.toNat
      · rw [if_pos ha] at h
        exact Or.inr (Or.inl ⟨by omega, h, e⟩)
      · rw [if_neg ha] at h
        simp at h
        exact Or.inl ⟨by omega, h.symm, e⟩
    | some b =>
      simp only at hp
      rw [if_pos (by omega)] at h
      exact Or.inr (Or.inr ⟨by omega, b, rd3.rem, by simpa using hr, hp.2.1, hp.2.2, h, e3⟩)

/-- a successful `parse_lzma` read one well-formed packed chunk — provided something is left in the
reader (`hne`): `Take` also accepts a payload that is shorter than the declared packed size when
the input ends there (`C17.chunk_packed_bound_partial`); in the chunk loop the next control byte
supplies `hne` -/
theorem packed_step_inv {d d' : Lzma2Decoder} {a a' : Accum} {rd rd' : Rd} {c : UInt8}
    {s s' : Sink} (h : parseLzma d a rd c.toNat s = (s', .ok (d', a', rd'))) (hne : rd'.rem ≠ []) :
    ∃ u p payload, (Chunk.packed c u p payload).WF ∧
      rd.rem = (Chunk.packed c u p payload).body ++ rd'.rem ∧ rd'.bad = rd.bad ∧
      (Chunk.packed c u p payload).Exec d a s d' a' s' := by
  rw [parseLzma_ok_iff] at h
  obtain ⟨h80, u1, u2, p1, p2, rest, s0, a0, st0, rd3, rc, tk, st1, rc1, tk1, hr, h3, h4, g1, g2,
    g3, g4, g5, rfl, rfl⟩ := h
  rw [and80_iff] at h80
  obtain ⟨p, hr3, hb3, hp, hst⟩ := (lzma2PropsStage_ok_iff_chunk h80).1 h4
  have := u1.toNat_lt; have := u2.toNat_lt; have := p1.toNat_lt; have := p2.toNat_lt
  have hv : u1.toNat * 256 + u2.toNat < 65536 := by omega
  dsimp only at hne hr3 hb3
  have hlen : p1.toNat * 256 + p2.toNat + 1 < rd3.rem.length := by
    exact Nat.lt_of_not_le fun hcon => hne (List.drop_eq_nil_of_le hcon)
  rw [lzUnpacked_eq c.toNat (u1.toNat * 256 + u2.toNat) hv] at g2
  refine ⟨c.toNat % 32 * 65536 + (u1.toNat * 256 + u2.toNat) + 1, p,
    rd3.rem.take (p1.toNat * 256 + p2.toNat + 1), ?_, ?_, hb3, ?_⟩
  · have := RC.new_ok_length g1
    simp [Rd.split] at this
    refine ⟨h80, by omega, by omega, ?_, ?_, hp⟩
    · simp; omega
    · simp; omega
  · simp only [Chunk.body]
    rw [show (c.toNat % 32 * 65536 + (u1.toNat * 256 + u2.toNat) + 1 - 1) % 65536
        = u1.toNat * 256 + u2.toNat by omega, beBytes_two_of_bytes]
    rw [show (List.take (p1.toNat * 256 + p2.toNat + 1) rd3.rem).length - 1
        = p1.toNat * 256 + p2.toNat by simp; omega, beBytes_two_of_bytes]
    rw [hr, hr3]; simp
  · refine ⟨s0, a0, st0, rc, tk, st1, rc1, tk1, ?_, hst, ?_, g2, g3, g4, g5, rfl⟩
    · simp only [(cls_cases c h80).1] at h3; exact h3
    · rw [← g1]; congr 1
      simp [Rd.split, Rd.ofBytes]
      intro _; omega

theorem lzUnpacked_of_wf {k u : Nat} (hu1 : 1 ≤ u) (hu2 : (u - 1) / 65536 = k % 32) :
    lzUnpacked k ((u - 1) % 65536) = u := by
  rw [lzUnpacked_eq _ _ (Nat.mod_lt _ (by decide))]; omega

theorem packed_step_intro {d d' : Lzma2Decoder} {a a' : Accum} {rd : Rd} {c : UInt8}
    {u : Nat} {p : Option UInt8} {payload rest : Bytes} {s s' : Sink}
    (hwf : (Chunk.packed c u p payload).WF)
    (hex : (Chunk.packed c u p payload).Exec d a s d' a' s')
    (hr : rd.rem = (Chunk.packed c u p payload).body ++ rest) :
    parseLzma d a rd c.toNat s = (s', .ok (d', a', { rd with rem := rest })) := by
  obtain ⟨h80, hu1, hu2, hp1, hp2, hp⟩ := hwf
  obtain ⟨u1, u2, hbu, hvu⟩ := beBytes_two_val ((u - 1) % 65536) (Nat.mod_lt _ (by decide))
  obtain ⟨p1, p2, hbp, hvp⟩ := beBytes_two_val (payload.length - 1) (by omega)
  have hpk : p1.toNat * 256 + p2.toNat + 1 = payload.length := by rw [hvp]; clear hvu hvp; omega
  simp only [Chunk.body, hbu, hbp] at hr
  obtain ⟨s0, a0, st0, rc, tk, st1, rc1, tk1, h3, hst, g1, g2, g3, g4, g5, rfl⟩ := hex
  rw [parseLzma_ok_iff]
  refine ⟨(and80_iff c).2 h80, u1, u2, p1, p2,
    p.toList ++ (payload ++ rest), s0, a0, st0, { rd with rem := payload ++ rest }, rc, tk, st1, rc1,
    tk1, by simpa using hr, ?_, ?_, ?_, ?_, g3, g4, g5, rfl, ?_⟩
  · simp only [(cls_cases c h80).1]; exact h3
  · exact (lzma2PropsStage_ok_iff_chunk h80).2 ⟨p, rfl, rfl, hp, hst⟩
  · rw [← g1]; congr 1
    simp [Rd.split, Rd.ofBytes, hpk]
  · rw [hvu, lzUnpacked_of_wf hu1 hu2]
    exact g2
  · simp [hpk]

theorem chunkLoop_cons (fuel : Nat) (d : Lzma2Decoder) (a : Accum) {rd : Rd} {c : UInt8}
    {rest : Bytes} (hr : rd.rem = c :: rest) :
    chunkLoop (fuel + 1) d a rd =
      if c.toNat = 0 then pure (d, a, { rd with rem := rest })
      else if c.toNat = 1 then
        parseUncompressed a { rd with rem := rest } true >>= fun x => chunkLoop fuel d x.1 x.2
      else if c.toNat = 2 then
        parseUncompressed a { rd with rem := rest } false >>= fun x => chunkLoop fuel d x.1 x.2
      else parseLzma d a { rd with rem := rest } c.toNat >>= fun x => chunkLoop fuel x.1 x.2.1 x.2.2 := by
  rw [chunkLoop, show lzErr rd.readU8 = .ok (c, { rd with rem := rest }) by
    simp [Rd.readU8, hr, lzErr]]
  rfl

theorem chunkLoop_nil (fuel : Nat) (d : Lzma2Decoder) (a : Accum) {rd : Rd} (hr : rd.rem = []) :
    chunkLoop (fuel + 1) d a rd = throwM .lzma := by
  rw [chunkLoop, show lzErr rd.readU8 = .error .lzma by simp [Rd.readU8, hr, lzErr]]
  rfl

theorem chunkLoop_ok_inv (fuel : Nat) : ∀ {d d' : Lzma2Decoder} {a a' : Accum} {rd rd' : Rd}
    {s s' : Sink}, chunkLoop fuel d a rd s = (s', .ok (d', a', rd')) →
    ∃ cs : List Chunk, cs.length < fuel ∧ (∀ c ∈ cs, c.WF) ∧
      rd.rem = cs.flatMap Chunk.bytes ++ 0 :: rd'.rem ∧ rd'.bad = rd.bad ∧
      Run cs d a s d' a' s' := by
  induction fuel with
  | zero => intro d d' a a' rd rd' s s' h; simp [chunkLoop] at h
  | succ fuel ih =>
    intro d d' a a' rd rd' s s' h
    rcases hr1 : rd.rem with _ | ⟨c, rest⟩
    · rw [chunkLoop_nil _ _ _ hr1] at h; cases h
    rw [chunkLoop_cons _ _ _ hr1] at h
    -- a parsed chunk `ch` in front of what the rest of the loop accepts
    have cons : ∀ {ch : Chunk} {d1 a1 s1} {rd2 : Rd}, ch.control.toNat = c.toNat → ch.WF →
        rest = ch.body ++ rd2.rem → rd2.bad = rd.bad → ch.Exec d a s d1 a1 s1 →
        chunkLoop fuel d1 a1 rd2 s1 = (s', .ok (d', a', rd')) →
        ∃ cs : List Chunk, cs.length < fuel + 1 ∧ (∀ c ∈ cs, c.WF) ∧
          c :: rest = cs.flatMap Chunk.bytes ++ 0 :: rd'.rem ∧ rd'.bad = rd.bad ∧
          Run cs d a s d' a' s' := by
      intro ch d1 a1 s1 rd2 hc hwf hr2 hb2 hex h
      obtain ⟨cs, hl, hwfs, hr3, hb3, hrun⟩ := ih h
      exact ⟨ch :: cs, by simp; omega, List.forall_mem_cons.2 ⟨hwf, hwfs⟩,
        by simp [hr2, hr3, Chunk.bytes, UInt8.toNat_inj.1 hc], hb3.trans hb2, Run.cons hex hrun⟩
    split at h
    · rename_i h0
      obtain ⟨h, rfl⟩ := mPure_eq_ok.1 h
      cases h
      cases UInt8.toNat_inj.1 (show c.toNat = (0 : UInt8).toNat from h0)
      exact ⟨[], by simp, by simp, rfl, rfl, Run.nil _ _ _⟩
    split at h
    · obtain ⟨⟨a1, rd2⟩, s1, h2, h⟩ := mBind_eq_ok.1 h
      obtain ⟨data, hwf, hr2, hb2, hex⟩ := (parseUncompressed_ok_iff_chunk d).1 h2
      exact cons (by simpa [Chunk.control] using ‹c.toNat = 1›.symm) hwf hr2 hb2 hex h
    split at h
    · obtain ⟨⟨a1, rd2⟩, s1, h2, h⟩ := mBind_eq_ok.1 h
      obtain ⟨data, hwf, hr2, hb2, hex⟩ := (parseUncompressed_ok_iff_chunk d).1 h2
      exact cons (by simpa [Chunk.control] using ‹c.toNat = 2›.symm) hwf hr2 hb2 hex h
    · obtain ⟨⟨d1, a1, rd2⟩, s1, h2, h⟩ := mBind_eq_ok.1 h
      have hne : rd2.rem ≠ [] := by
        obtain ⟨cs, -, -, hr3, -⟩ := ih h
        exact hr3 ▸ by simp
      obtain ⟨u, p, payload, hwf, hr2, hb2, hex⟩ := packed_step_inv h2 hne
      exact cons rfl hwf hr2 hb2 hex h

theorem chunkLoop_ok_intro : ∀ (cs : List Chunk) {fuel : Nat} {d d' : Lzma2Decoder} {a a' : Accum}
    {rd rd' : Rd} {s s' : Sink}, cs.length < fuel → (∀ c ∈ cs, c.WF) →
    rd.rem = cs.flatMap Chunk.bytes ++ 0 :: rd'.rem → rd'.bad = rd.bad →
    Run cs d a s d' a' s' → chunkLoop fuel d a rd s = (s', .ok (d', a', rd')) := by
  intro cs
  induction cs with
  | nil =>
    intro fuel d d' a a' rd rd' s s' hl _ hr hb hrun
    cases hrun
    obtain ⟨fuel, rfl⟩ : ∃ f, fuel = f + 1 := ⟨fuel - 1, by simp at hl; omega⟩
    rw [chunkLoop_cons _ _ _ (by simpa using hr)]
    simp [Rd.ext' (r := { rd with rem := rd'.rem }) (r' := rd') rfl hb.symm]
  | cons c cs ih =>
    intro fuel d d' a a' rd rd' s s' hl hwf hr hb hrun
    obtain ⟨fuel, rfl⟩ : ∃ f, fuel = f + 1 := ⟨fuel - 1, by simp at hl; omega⟩
    cases hrun with
    | cons hex hrun =>
    rename_i d1 a1 s1
    have hwfc := hwf c (by simp)
    have hwfs : ∀ c ∈ cs, c.WF := fun c hc => hwf c (by simp [hc])
    have hl' : cs.length < fuel := by simp at hl; omega
    have hr1 : rd.rem = c.control ::
        ({ rd with rem := c.body ++ (cs.flatMap Chunk.bytes ++ 0 :: rd'.rem) } : Rd).rem := by
      rw [hr]; simp [Chunk.bytes]
    have hrest : ({ rd with rem := cs.flatMap Chunk.bytes ++ 0 :: rd'.rem } : Rd).rem
        = cs.flatMap Chunk.bytes ++ 0 :: rd'.rem := rfl
    have hnext := ih (rd := { rd with rem := cs.flatMap Chunk.bytes ++ 0 :: rd'.rem })
      hl' hwfs hrest hb hrun
    cases c with
    | raw r data =>
      have hd : d1 = d := hex.1
      subst hd
      have hpu := (parseUncompressed_ok_iff_chunk (rd := { rd with rem := (Chunk.raw r data).body ++
        (cs.flatMap Chunk.bytes ++ 0 :: rd'.rem) })
        (rd' := { rd with rem := cs.flatMap Chunk.bytes ++ 0 :: rd'.rem }) d1).2
        ⟨data, hwfc, rfl, rfl, hex⟩
      cases r
      · rw [chunkLoop_cons (c := 2) _ _ _ hr1]; simp [bind_run_ok hpu, hnext]
      · rw [chunkLoop_cons (c := 1) _ _ _ hr1]; simp [bind_run_ok hpu, hnext]
    | packed c u p payload =>
      have h80 : 0x80 ≤ c.toNat := hwfc.1
      have hpl := packed_step_intro (rd := { rd with rem := (Chunk.packed c u p payload).body ++
        (cs.flatMap Chunk.bytes ++ 0 :: rd'.rem) }) hwfc hex rfl
      rw [chunkLoop_cons (c := c) _ _ _ hr1]
      have e0 : ¬ c.toNat = 0 := by omega
      have e1 : ¬ c.toNat = 1 := by omega
      have e2 : ¬ c.toNat = 2 := by omega
      simp only [if_neg e0, if_neg e1, if_neg e2]
      rw [bind_run_ok hpl]
      exact hnext

theorem chunkLoop_ok_iff {fuel : Nat} {d d' : Lzma2Decoder} {a a' : Accum} {rd rd' : Rd}
    {s s' : Sink} :
    chunkLoop fuel d a rd s = (s', .ok (d', a', rd')) ↔
      ∃ cs : List Chunk, cs.length < fuel ∧ (∀ c ∈ cs, c.WF) ∧
        rd.rem = cs.flatMap Chunk.bytes ++ 0 :: rd'.rem ∧ rd'.bad = rd.bad ∧
        Run cs d a s d' a' s' :=
  ⟨chunkLoop_ok_inv fuel, fun ⟨cs, h1, h2, h3, h4, h5⟩ => chunkLoop_ok_intro cs h1 h2 h3 h4 h5⟩

/-- the decoder `Lzma2Decoder::new()` returns -/
def Lzma2Decoder.init : Lzma2Decoder :=
  { lzmaState := { props := zeroProps, unpackedSize := none, probs := Probs.init 1 } }

theorem Lzma2Decoder.new_eq : Lzma2Decoder.new = .ok Lzma2Decoder.init := by
  simp [Lzma2Decoder.new, DState.new, Props.validate, zeroProps, Lzma2Decoder.init, bind, Except.bind,
    pure, Except.pure]

theorem decompress_ok_iff {d d' : Lzma2Decoder} {rd rd' : Rd} {s s' : Sink} :
    d.decompress rd s = (s', .ok (d', rd')) ↔
      ∃ (cs : List Chunk) (a' : Accum) (s1 : Sink), (∀ c ∈ cs, c.WF) ∧
        rd.rem = cs.flatMap Chunk.bytes ++ 0 :: rd'.rem ∧ rd'.bad = rd.bad ∧
        Run cs d (Accum.fromStream USIZE_MAX) s d' a' s1 ∧ a'.finish s1 = (s', .ok ()) := by
  unfold decompress
  constructor
  · intro h
    obtain ⟨⟨d1, a1, rd1⟩, s1, h1, h⟩ := mBind_eq_ok.1 h
    obtain ⟨_, s2, h2, h⟩ := mBind_eq_ok.1 h
    simp at h
    obtain ⟨rfl, rfl, rfl⟩ := h
    obtain ⟨cs, -, hwf, hr, hb, hrun⟩ := chunkLoop_ok_iff.1 h1
    exact ⟨cs, a1, s1, hwf, hr, hb, hrun, h2⟩
  · rintro ⟨cs, a', s1, hwf, hr, hb, hrun, hfin⟩
    have hl : cs.length < rd.rem.length + 1 := by
      have := flatMap_bytes_length cs
      rw [hr, List.length_append, List.length_cons]; omega
    have h1 := chunkLoop_ok_iff.2 ⟨cs, hl, hwf, hr, hb, hrun⟩
    rw [bind_run_ok h1]
    dsimp only
    rw [bind_run_ok hfin]
    rfl

theorem lzma2Decompress_eq (rd : Rd) :
    lzma2Decompress rd = Lzma2Decoder.init.decompress rd >>= fun x => pure x.2 := by
  unfold lzma2Decompress
  rw [Lzma2Decoder.new_eq]; rfl

theorem lzma2Decompress_ok_iff {rd rd' : Rd} {s s' : Sink} :
    lzma2Decompress rd s = (s', .ok rd') ↔
      ∃ (cs : List Chunk) (d' : Lzma2Decoder) (a' : Accum) (s1 : Sink), (∀ c ∈ cs, c.WF) ∧
        rd.rem = cs.flatMap Chunk.bytes ++ 0 :: rd'.rem ∧ rd'.bad = rd.bad ∧
        Run cs Lzma2Decoder.init (Accum.fromStream USIZE_MAX) s d' a' s1 ∧
        a'.finish s1 = (s', .ok ()) := by
  rw [lzma2Decompress_eq, mBind_eq_ok]
  constructor
  · rintro ⟨⟨d1, rd1⟩, s1, h1, h⟩
    obtain ⟨rfl, rfl⟩ := mPure_eq_ok.1 h
    obtain ⟨cs, a', s1, h⟩ := decompress_ok_iff.1 h1
    exact ⟨cs, d1, a', s1, h⟩
  · rintro ⟨cs, d', a', s1, h⟩
    exact ⟨(d', rd'), s', decompress_ok_iff.2 ⟨cs, a', s1, h⟩, rfl⟩

/-- test vector: `"abc"` as one uncompressed chunk with dictionary reset, and the end byte -/
theorem rawAbc_ok : ∃ s', lzma2Decompress (Rd.ofBytes [1, 0, 2, 0x61, 0x62, 0x63, 0]) {}
    = (s', .ok { rem := [] }) := by
  refine ⟨_, lzma2Decompress_ok_iff.2 ⟨[Chunk.raw true [0x61, 0x62, 0x63]], Lzma2Decoder.init,
    (Accum.fromStream USIZE_MAX).appendBytes [0x61, 0x62, 0x63], {}, ?_, ?_, rfl, ?_, rfl⟩⟩
  · intro c hc; simp at hc; subst hc; decide
  · decide
  · exact Run.cons ⟨rfl, Accum.fromStream USIZE_MAX, rfl, rfl⟩ (Run.nil _ _ _)

theorem writeAll_error {bs : Array UInt8} {s s' : Sink} {e : Err}
    (h : writeAll bs s = (s', .error e)) : e = .io := by
  rcases (writeAll_spec bs s).2 with ⟨h1, -⟩ | ⟨h1, -⟩ <;> rw [h] at h1 <;> cases h1
  rfl

theorem Accum.reset_error {a : Accum} {s s' : Sink} {e : Err}
    (h : a.reset s = (s', .error e)) : e = .io := by
  unfold Accum.reset at h
  rcases mBind_eq_error.1 h with h1 | ⟨_, _, -, h2⟩
  · exact writeAll_error h1
  · cases h2

theorem optReset_error {c : Prop} [Decidable c] {a : Accum} {s s' : Sink} {e : Err}
    (h : (if c then a.reset else pure a) s = (s', .error e)) : e = .io := by
  split at h
  · exact Accum.reset_error h
  · simp at h

theorem optReset_result (c : Prop) [Decidable c] (a : Accum) (s : Sink) :
    (∃ s0 a0, (if c then a.reset else pure a) s = (s0, .ok a0)) ∨
    (c ∧ s.script ≠ [] ∧ ∃ s0, (if c then a.reset else pure a) s = (s0, .error .io)) := by
  by_cases hc : c
  · simp only [hc, if_true]
    cases h : a.reset s with
    | mk s0 r =>
      cases r with
      | ok a0 => exact Or.inl ⟨s0, a0, rfl⟩
      | error e =>
        have := Accum.reset_error h
        subst this
        refine Or.inr ⟨trivial, ?_, s0, rfl⟩
        intro hs
        have h1 : writeAll a.buf s = (_, .ok ()) := Prod.ext rfl (writeAll_clean a.buf s hs).1
        rw [Accum.reset, bind_run_ok h1] at h
        cases h
  · simp only [hc, if_false]
    exact Or.inl ⟨s, a, rfl⟩

theorem parseUncompressed_short (a : Accum) {rd : Rd} (r : Bool) (s : Sink) {b1 b2 : UInt8}
    {rest : Bytes} (hr : rd.rem = b1 :: b2 :: rest)
    (hl : rest.length < b1.toNat * 256 + b2.toNat + 1) :
    ∃ s' e, parseUncompressed a rd r s = (s', .error e) ∧
      (e = .lzma ∨ (e = .io ∧ r = true ∧ s.script ≠ [])) := by
  rcases h : parseUncompressed a rd r s with ⟨s', e | ⟨a', rd'⟩⟩
  · refine ⟨s', e, rfl, ?_⟩
    rw [parseUncompressed_eq] at h
    rcases mBind_eq_error.1 h with h1 | ⟨x, s1, h1, k1⟩
    · exact .inl (lzErr_error_inv (liftE_eq_error.1 h1).1)
    obtain ⟨-, rfl⟩ := liftE_eq_ok.1 h1
    rcases mBind_eq_error.1 k1 with h2 | ⟨a0, s2, -, k2⟩
    · rcases optReset_result (r = true) a s1 with ⟨s0, a0, h'⟩ | ⟨hr, hs, -⟩
      · cases h'.symm.trans h2
      · exact .inr ⟨optReset_error h2, hr, hs⟩
    rcases mBind_eq_error.1 k2 with h3 | ⟨y, s3, -, k3⟩
    · exact .inl (lzErr_error_inv (liftE_eq_error.1 h3).1)
    · cases k3
  · obtain ⟨c1, c2, data, rest', a0, hr', hl', -⟩ := parseUncompressed_ok_iff.1 h
    obtain ⟨rfl, rfl, rfl⟩ : c1 = b1 ∧ c2 = b2 ∧ data ++ rest' = rest := by simpa [hr] using hr'.symm
    simp at hl; omega

theorem chunkLoop_of_parseLzma_error {fuel : Nat} {d : Lzma2Decoder} {a : Accum} {rd : Rd}
    {s s' : Sink} {c : UInt8} {rest : Bytes} {e : Err} (hr : rd.rem = c :: rest)
    (h3 : 3 ≤ c.toNat)
    (h : parseLzma d a { rd with rem := rest } c.toNat s = (s', .error e)) :
    chunkLoop (fuel + 1) d a rd s = (s', .error e) := by
  have e0 : ¬ c.toNat = 0 := by omega
  have e1 : ¬ c.toNat = 1 := by omega
  have e2 : ¬ c.toNat = 2 := by omega
  simp only [chunkLoop_cons _ _ _ hr, if_neg e0, if_neg e1, if_neg e2]
  exact bind_run_error h

theorem chunkLoop_of_parseUncompressed_error {fuel : Nat} {d : Lzma2Decoder} {a : Accum} {rd : Rd}
    {s s' : Sink} {c : UInt8} {rest : Bytes} {e : Err} (hr : rd.rem = c :: rest)
    (hc : c.toNat = 1 ∨ c.toNat = 2)
    (h : parseUncompressed a { rd with rem := rest } (decide (c.toNat = 1)) s = (s', .error e)) :
    chunkLoop (fuel + 1) d a rd s = (s', .error e) := by
  rw [chunkLoop_cons _ _ _ hr]
  rcases hc with hc | hc <;> simp only [hc] at h ⊢ <;> exact bind_run_error h

theorem readU16BE_short {rd : Rd} (h : rd.rem.length < 2) : lzErr rd.readU16BE = .error .lzma := by
  cases h1 : rd.readU16BE with
  | error e => rfl
  | ok x =>
    obtain ⟨v, rd1⟩ := x
    obtain ⟨b1, b2, hr, -, -⟩ := Rd.readU16BE_ok.1 h1
    rw [hr] at h; simp at h; omega

theorem readU16BE_cons2 (b1 b2 : UInt8) (rest : Bytes) (bad : Bool) :
    lzErr ({ rem := b1 :: b2 :: rest, bad := bad } : Rd).readU16BE
      = .ok (b1.toNat * 256 + b2.toNat, { rem := rest, bad := bad }) := by
  rw [(Rd.readU16BE_ok (r := ⟨b1 :: b2 :: rest, bad⟩) (r' := ⟨rest, bad⟩)).2 ⟨b1, b2, rfl, rfl, rfl⟩]; rfl

theorem lzma2Decompress_tail_irrelevant {rd rd' : Rd} {s s' : Sink}
    (h : lzma2Decompress rd s = (s', .ok rd')) :
    ∃ pre, rd.rem = pre ++ 0 :: rd'.rem ∧ rd'.bad = rd.bad ∧
      ∀ (t : Bytes) (bad : Bool),
        lzma2Decompress { rem := pre ++ 0 :: t, bad := bad } s = (s', .ok { rem := t, bad := bad }) := by
  obtain ⟨cs, d', a', s1, hwf, hr, hb, hrun, hfin⟩ := lzma2Decompress_ok_iff.1 h
  refine ⟨cs.flatMap Chunk.bytes, hr, hb, fun t bad => ?_⟩
  exact lzma2Decompress_ok_iff.2 ⟨cs, d', a', s1, hwf, rfl, rfl, hrun, hfin⟩

theorem lzma2Decompress_strict_prefix_error {rd rd' : Rd} {s s' : Sink}
    (h : lzma2Decompress rd s = (s', .ok rd')) (y z : Bytes)
    (hy : rd.rem = y ++ z ++ rd'.rem) (hz : z ≠ []) (bad : Bool) :
    ∃ s2 e, lzma2Decompress { rem := y, bad := bad } s = (s2, .error e) := by
  cases h2 : lzma2Decompress { rem := y, bad := bad } s with
  | mk s2 r =>
    cases r with
    | error e => exact ⟨s2, e, rfl⟩
    | ok rd2 =>
      exfalso
      obtain ⟨pre2, hr2, -, hall⟩ := lzma2Decompress_tail_irrelevant h2
      dsimp only at hr2
      have h3 := hall (rd2.rem ++ z ++ rd'.rem) rd.bad
      have e : ({ rem := pre2 ++ 0 :: (rd2.rem ++ z ++ rd'.rem), bad := rd.bad } : Rd) = rd := by
        apply Rd.ext'
        · show pre2 ++ 0 :: (rd2.rem ++ z ++ rd'.rem) = rd.rem
          rw [hy, hr2]; simp
        · rfl
      rw [e, h] at h3
      simp at h3
      have := congrArg (fun r => r.rem.length) h3.2
      simp at this
      have : z.length = 0 := by omega
      exact hz (List.eq_nil_of_length_eq_zero this)

theorem resetState_error_iff {st : DState} {p : Props} {e : Err} :
    st.resetState p = .error e ↔ p.validate = .error e := by
  unfold DState.resetState
  cases h : p.validate with
  | error e' => simp [bind, Except.bind]
  | ok u => simp [bind, Except.bind, pure, Except.pure]

theorem propsOfByte_valid {b : UInt8} (h : b.toNat < 225) : (propsOfByte b).validate = .ok () := by
  unfold Props.validate propsOfByte
  rw [if_pos (by dsimp only; omega)]; rfl

/-- error classes of the property stage: `LzmaError`, or the `validate` panic when the previous
properties of an (unreachable) decoder state are invalid -/
theorem lzma2PropsStage_error_class {d : Lzma2Decoder} {rd : Rd} {cls : Nat} {e : Err}
    (h : lzma2PropsStage d rd cls = .error e) :
    e = .lzma ∨ d.lzmaState.props.validate = .error e := by
  unfold lzma2PropsStage at h
  split at h
  · rcases Except.bind_eq_error.1 h with h | ⟨x, hx, h⟩
    · split at h
      · rcases Except.bind_eq_error.1 h with h | ⟨y, -, h⟩
        · exact .inl (lzErr_error_inv h)
        · split at h
          · cases h; exact .inl rfl
          split at h
          · cases h; exact .inl rfl
          · cases h
      · cases h
    · rcases Except.bind_eq_error.1 h with h | ⟨st, -, h⟩
      · split at hx
        · obtain ⟨y, -, hx⟩ := Except.bind_eq_ok'.1 hx
          split at hx
          · cases hx
          split at hx
          · cases hx
          cases Except.pure_eq_ok.1 hx
          have := resetState_error_iff.1 h
          have hv : (propsOfByte y.1).validate = .ok () := propsOfByte_valid (by omega)
          cases hv.symm.trans this
        · cases Except.pure_eq_ok.1 hx
          exact .inr (resetState_error_iff.1 h)
      · cases h
  · cases h

theorem lzma2Payload_short {st : DState} {a : Accum} {rd : Rd} {k : Nat} {s : Sink}
    (h : rd.rem.length < 5) : lzma2Payload st a rd k s = (s, .error .lzma) := by
  obtain ⟨e, he⟩ := RC.new_short (rd := (rd.split k).1) (by simp [Rd.split]; omega)
  unfold lzma2Payload
  rw [he]; rfl

end L2
end Lzma
