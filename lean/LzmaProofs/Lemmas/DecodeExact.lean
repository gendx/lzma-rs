/-
  The bits of one symbol (`decode_bits`) and a whole program (`decode_prog`) of the reference encoder
  are decoded by `processNext` / the Finish-mode loop from any coupled state (`DecEnc`) over any
  window model (`WinModel`).  Around them: why the loop's stop test cannot fire early, the end marker
  (recognised by its distance field alone, whatever its length), and copies whose distance lies
  outside the window.
-/
import LzmaProofs.Lemmas.DecodeExactEnc
import LzmaProofs.Lemmas.ProcessMode
namespace Lzma
open DState REnc

variable {ω : Type} [LzBuf ω]

theorem runDec_lit_size {α : Type} (t : Coder PIdx α) {p : Probs} {rc : RC} {rd : Rd} {a : α}
    {p' : Probs} {rc' : RC} {rd' : Rd} (h : runDec true t p rc rd = .ok (a, p', rc', rd')) :
    p'.lit.size = p.lit.size :=
  runDec_inv (P := fun q : Probs => q.lit.size = p.lit.size)
    (fun q i v hq => (Probs.set_upd q i v).lit.size.trans hq) t h rfl

section step
variable {M : WinModel ω} {T : Bytes} {snkF snkB : Sink} {probsF : Probs} {eF e2 : REnc}

theorem decode_bits (hfin : eF.finish snkF = (snkB, .ok e2))
    {s : DState} {w : ω} {k : Sink} {es : EncSt} (hinv : DecEnc M s w k es)
    {raw : RawSym} (hwf : raw.WF) {e : REnc} {esnk : Sink} {rc : RC} {rd : Rd} {restEvs : List Ev}
    (hs : esnk.script = []) (hsim : RcSim snkB.out.toList T e esnk.out.toList rc rd)
    (henc : encodeEvents (rawSymEvents es.ctx raw ++ restEvs) es.probs e esnk =
      (snkF, .ok (probsF, eF))) :
    ∃ probs' e' esnk' rc' rd',
      runDec true (symTree (s.mkCtx w)) s.probs rc rd = .ok (raw, probs', rc', rd') ∧
      esnk'.script = [] ∧ ProbsOk probs' ∧ probs'.lit.size = es.probs.lit.size ∧
      RcSim snkB.out.toList T e' esnk'.out.toList rc' rd' ∧
      encodeEvents restEvs probs' e' esnk' = (snkF, .ok (probsF, eF)) ∧ rd'.bad = rd.bad := by
  have hrun := sym_roundtrip_lemma (s.mkCtx w) es.ctx raw (hinv.ctx raw) hwf restEvs
  obtain ⟨probs', e', esnk', rc', rd', hd, hs', hp', hsim', henc', hbad, -⟩ :=
    runDec_sim (T := T) hfin (symTree (s.mkCtx w)) _ restEvs raw es.probs e esnk rc rd hs hinv.pok
      hsim hrun henc
  rw [← hinv.probs] at hd
  refine ⟨probs', e', esnk', rc', rd', hd, hs', hp', ?_, hsim', henc', hbad⟩
  rw [← hinv.probs]
  exact runDec_lit_size _ hd

/-- in simulation, the reader holds one byte per normalisation shift still to come, plus `T` -/
theorem RcSim.rem_length (hfin : eF.finish snkF = (snkB, .ok e2))
    {evs : List Ev} {probs : Probs} {e : REnc} {esnk : Sink} {rc : RC} {rd : Rd}
    (hs : esnk.script = []) (hp : ProbsOk probs)
    (hsim : RcSim snkB.out.toList T e esnk.out.toList rc rd)
    (henc : encodeEvents evs probs e esnk = (snkF, .ok (probsF, eF))) :
    rd.rem.length = normCount evs probs e + T.length := by
  obtain ⟨-, -, -, -, hl, -⟩ := encode_future evs probs e esnk snkF snkB probsF eF e2 hs hsim.ok hp henc hfin
  have hen := encode_en evs probs e esnk snkF probsF eF hs hsim.ok hp henc
  have hr := hsim.rem
  have hlen := hsim.len
  rw [hr, List.length_append, List.length_drop]
  omega

end step

theorem isFinishedOk_of_rem {rc : RC} {rd : Rd} (h : rd.rem ≠ []) : rc.isFinishedOk rd = .ok false := by
  rw [isFinishedOk_eq, Rd.isEof, if_neg (mt List.isEmpty_iff.1 h)]
  split <;> rfl

theorem fillBuf_of_good {rd : Rd} (h : rd.bad = false) : rd.fillBuf = .ok () := by
  simp [Rd.fillBuf, h]

/-- the test at the top of the Finish-mode loop does not fire in a coupled state: the size in effect
is not reached, or there is none and the reader cannot be empty (`RcSim.rem_length`) -/
theorem stopTest_coupled {M : WinModel ω} {T : Bytes} {snkF snkB : Sink} {probsF : Probs}
    {eF e2 : REnc} (hfin : eF.finish snkF = (snkB, .ok e2))
    {s : DState} {w : ω} {k : Sink} {es : EncSt} (hinv : DecEnc M s w k es) (hpb : s.partialBuf = [])
    {e : REnc} {esnk : Sink} {rc : RC} {rd : Rd} {evs : List Ev}
    (hs : esnk.script = []) (hsim : RcSim snkB.out.toList T e esnk.out.toList rc rd)
    (henc : encodeEvents evs es.probs e esnk = (snkF, .ok (probsF, eF)))
    (hmode : (∃ n, s.unpackedSize = some n ∧ es.spec.hist.size < n) ∨
      (s.unpackedSize = none ∧ (T ≠ [] ∨ ForcesRead evs))) :
    stopTest .finish s w rc rd = .ok false := by
  rcases hmode with ⟨n, hu, hn⟩ | ⟨hu, hne⟩
  · rw [stopTest_some hu, M.len hinv.win, Array.length_toList, decide_eq_false (by omega)]
  · rw [stopTest_none_finish hu hpb]
    apply isFinishedOk_of_rem
    intro h0
    have hl := RcSim.rem_length hfin hs hinv.pok hsim henc
    rw [h0, List.length_nil] at hl
    rcases hne with hT | hF
    · exact hT (List.eq_nil_of_length_eq_zero (by omega))
    · have := hF _ _ _ _ _ hs hsim.ok hinv.pok henc
      omega

/-- From any coupled state (`DecEnc`: adapted probabilities, any `state`,
`rep`s and history), if `prog` (no end marker) is well-formed in the spec from there and the
encoder goes on with its events followed by `restEvs`, the Finish-mode loop performs
`prog.length` full iterations — provided its top-of-loop test cannot fire early: either a size
is in effect that the program does not exceed, or no size is in effect and the reader cannot
run dry (`T ≠ []`, or what follows forces a read, e.g. an end marker). -/
theorem decode_prog {M : WinModel ω} {dict : Nat} (hdict : dict ≤ M.lim) {T : Bytes}
    {snkF snkB : Sink} {probsF : Probs} {eF e2 : REnc} (hfin : eF.finish snkF = (snkB, .ok e2))
    (restEvs : List Ev) :
    ∀ (prog : List Sym) (s : DState) (w : ω) (k : Sink) (es : EncSt) (e : REnc) (esnk : Sink)
      (rc : RC) (rd : Rd) (st' : SpecSt),
    DecEnc M s w k es → SpecSt.run dict es.spec prog = some (st', false) →
    M.Fits st'.hist.size → s.partialBuf = [] → rd.bad = false →
    ((∃ n, s.unpackedSize = some n ∧ st'.hist.size ≤ n) ∨
      (s.unpackedSize = none ∧ (T ≠ [] ∨ ForcesRead restEvs))) →
    esnk.script = [] → RcSim snkB.out.toList T e esnk.out.toList rc rd →
    encodeEvents (progEvents dict es.props es.spec prog ++ restEvs) es.probs e esnk =
      (snkF, .ok (probsF, eF)) →
    ∃ s' w' k' probs' e' esnk' rc' rd',
      FinishSteps ⟨s, w, rc, rd, k⟩ prog.length ⟨s', w', rc', rd', k'⟩ ∧
      DecEnc M s' w' k' { es with probs := probs', spec := st' } ∧
      esnk'.script = [] ∧ RcSim snkB.out.toList T e' esnk'.out.toList rc' rd' ∧
      encodeEvents restEvs probs' e' esnk' = (snkF, .ok (probsF, eF)) ∧ rd'.bad = false ∧
      s'.partialBuf = [] ∧ s'.unpackedSize = s.unpackedSize
  | [], s, w, k, es, e, esnk, rc, rd, st', hinv, hrun, _, hpb, hbad, _, hs, hsim, henc => by
    simp only [SpecSt.run, Option.some.injEq, Prod.mk.injEq, and_true] at hrun
    subst hrun
    exact ⟨s, w, k, es.probs, e, esnk, rc, rd, .refl _, hinv, hs, hsim, henc, hbad, hpb, rfl⟩
  | sym :: rest, s, w, k, es, e, esnk, rc, rd, st', hinv, hrun, hfit, hpb, hbad, hmode, hs, hsim, henc => by
    obtain ⟨st1, hstep, hrun1⟩ := SpecSt.run_cons hrun
    have hgrow := SpecSt.step_grows hstep
    have hmono := SpecSt.run_mono rest st1 st' hrun1
    -- the events of this symbol come first
    have hev : progEvents dict es.props es.spec (sym :: rest) ++ restEvs =
        rawSymEvents es.ctx sym.toRaw ++ (progEvents dict es.props st1 rest ++ restEvs) := by
      simp only [progEvents, nextSpec_of_step hstep, List.append_assoc, EncSt.ctx_eq]
    rw [hev] at henc
    have hstop : stopTest .finish s w rc rd = .ok false :=
      stopTest_coupled hfin hinv hpb hs hsim henc <| hmode.imp
        (fun ⟨n, hu, hn⟩ => ⟨n, hu, by omega⟩)
        (fun ⟨hu, hne⟩ => ⟨hu, hne.imp_right fun hF => by
          rw [← List.append_assoc]; exact ForcesRead.append_left _ hF⟩)
    -- the bits of `sym` (`runDec` on `symTree`), then its effects (`applySym`)
    obtain ⟨probs1, e1, esnk1, rc1, rd1, hd, hs1, hp1, hsz, hsim1, henc1, hbad1⟩ :=
      decode_bits hfin hinv (Sym.toRaw_wf hstep) hs hsim henc
    obtain ⟨s1, w1, k1, happ, hinv1⟩ :=
      (hinv.withProbs hp1 hsz).apply_step hdict hstep (M.fits_mono hmono hfit) rc1 rd1
    have hnext := processNext_ok_iff.2 ⟨_, probs1, hd, happ⟩
    obtain ⟨hu1, -, hpb1⟩ := processNext_fields hnext
    obtain ⟨s', w', k', probs', e', esnk', rc', rd', hsteps, hinv', hs', hsim', henc', hbad', hpb', hu'⟩ :=
      decode_prog hdict hfin restEvs rest s1 w1 k1 { es with probs := probs1, spec := st1 } e1 esnk1
        rc1 rd1 st' hinv1 hrun1 hfit (hpb1.trans hpb) (hbad1.trans hbad) (by rw [hu1]; exact hmode) hs1
        hsim1 henc1
    exact ⟨s', w', k', probs', e', esnk', rc', rd',
      .step hstop (fillBuf_of_good hbad) hnext hsteps, hinv', hs', hsim', henc', hbad', hpb',
      hu'.trans hu1⟩

/-- the end marker with any length field: `l` is the decoded length (real length `l + 2`); nothing
follows the payload (`T = []`) -/
theorem decode_long_marker {M : WinModel ω} {snkF snkB : Sink} {probsF : Probs} {eF e2 : REnc}
    (hfin : eF.finish snkF = (snkB, .ok e2))
    {s : DState} {w : ω} {k : Sink} {es : EncSt} (hinv : DecEnc M s w k es)
    {l : Nat} (hl : l < 272)
    {e : REnc} {esnk : Sink} {rc : RC} {rd : Rd}
    (hs : esnk.script = []) (hbad : rd.bad = false)
    (hsim : RcSim snkB.out.toList [] e esnk.out.toList rc rd)
    (henc : encodeEvents (rawSymEvents es.ctx (.mtch l 0xFFFFFFFF)) es.probs e esnk =
      (snkF, .ok (probsF, eF))) :
    ∃ s' rc', processNext s w rc rd k = (k, .ok (.finished, s', w, rc', { rem := [], bad := false })) ∧
      s'.partialBuf = s.partialBuf ∧ s'.unpackedSize = s.unpackedSize := by
  obtain ⟨probs', e', esnk', rc', ⟨r, b⟩, hd, hs', hp', -, hsim', henc', hbad'⟩ :=
    decode_bits hfin hinv (raw := .mtch l 0xFFFFFFFF) (restEvs := [])
      (show l < 272 ∧ 0xFFFFFFFF < 2 ^ 32 by omega) hs hsim (by rwa [List.append_nil])
  obtain ⟨hrem, hcode, -⟩ := rc_roundtrip_final hs' hp' hsim' henc' hfin
  cases hrem
  cases hbad'.trans hbad
  have hnext := (processNext_finished_iff (snk := k) (snk' := k)).2
    ⟨l, probs', hd, isFinishedOk_iff.2 ⟨hcode, rfl, rfl⟩, rfl, rfl, rfl⟩
  obtain ⟨h1, -, h3⟩ := processNext_fields hnext
  exact ⟨_, rc', hnext, h3, h1⟩

/-- the distance-minus-one a `rep idx` symbol selects -/
def SpecSt.repSel (st : SpecSt) : Nat → Nat
  | 0 => st.rep0
  | 1 => st.rep1
  | 2 => st.rep2
  | _ => st.rep3

/-- `sym` is a syntactically valid copy whose distance exceeds `min (history) (dictionary)` -/
def Sym.OutOfWindow (dict : Nat) (st : SpecSt) : Sym → Prop
  | .mtch d l => 2 ≤ l ∧ l ≤ 273 ∧ 1 ≤ d ∧ d ≤ 0xFFFFFFFF ∧ d > min st.hist.size dict
  | .shortRep => st.rep0 + 1 > min st.hist.size dict
  | .rep i l => i ≤ 3 ∧ 2 ≤ l ∧ l ≤ 273 ∧ st.repSel i + 1 > min st.hist.size dict
  | _ => False

instance (dict : Nat) (st : SpecSt) : DecidablePred (Sym.OutOfWindow dict st) := fun s => by
  cases s <;> simp only [Sym.OutOfWindow] <;> infer_instance

theorem SpecSt.rotate_rep0 (st : SpecSt) : ∀ i, (st.rotate i).rep0 = st.repSel i
  | 0 | 1 | 2 | _ + 3 => rfl

theorem Sym.OutOfWindow.copyOf {dict : Nat} {st : SpecSt} {sym : Sym} (h : sym.OutOfWindow dict st) :
    ∃ r n, st.copyOf sym = some (r, n) ∧ r.rep0 + 1 > min st.hist.size dict := by
  cases sym with
  | lit b => exact absurd h id
  | eos => exact absurd h id
  | shortRep => exact ⟨_, _, rfl, h⟩
  | mtch d l =>
    obtain ⟨h1, h2, h3, h4, h5⟩ := h
    exact ⟨_, _, if_neg (by omega), show d - 1 + 1 > _ by omega⟩
  | rep i l =>
    obtain ⟨h1, h2, h3, h5⟩ := h
    exact ⟨_, _, if_neg (by omega), show (st.rotate i).rep0 + 1 > _ by rwa [st.rotate_rep0]⟩

theorem Sym.OutOfWindow.rawOk {dict : Nat} {st : SpecSt} {sym : Sym} (h : sym.OutOfWindow dict st) :
    sym.toRaw.WF :=
  let ⟨_, _, hc, _⟩ := h.copyOf
  (SpecSt.copyOf_bounds hc).2.2

theorem Sym.OutOfWindow.step_none {dict : Nat} {st : SpecSt} {sym : Sym} (h : sym.OutOfWindow dict st) :
    SpecSt.step dict st sym = none := by
  obtain ⟨r, n, hc, hd⟩ := h.copyOf
  obtain ⟨m, rfl⟩ : ∃ m, n = m + 1 := ⟨n - 1, by have := (SpecSt.copyOf_bounds hc).1; omega⟩
  rw [SpecSt.step_of_copyOf hc]
  split
  · rfl
  · rw [(SpecSt.copy_eq_none_iff m _ st.hist).2 (by omega)]
    rfl

theorem applySym_outOfWindow {d m : Nat} {s0 : Sink} {s : DState} {w : Circ} {k : Sink} {es : EncSt}
    (hinv : DecEnc (circModel d m s0) s w k es) {sym : Sym} (hb : sym.OutOfWindow d es.spec)
    (rc : RC) (rd : Rd) : applySym s w rc rd sym.toRaw k = (k, .error .lzma) := by
  obtain ⟨r, n, hc, hr⟩ := hb.copyOf
  obtain ⟨hci, hd, -, hp, -⟩ := hinv.win
  have := Circ.appendLz_spec (s := k) n (dist := r.rep0 + 1) hci hp (by omega)
  rw [if_neg (by rw [hd, Array.length_toList]; omega)] at this
  rw [hinv.applySym_copy hc]
  exact bind_run_error this

end Lzma
