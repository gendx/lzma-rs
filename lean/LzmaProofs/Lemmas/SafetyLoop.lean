/-
  C07: the symbol loop of `DecoderState` is safe for any window with a `LzBufSafe` instance.
  Every symbol strictly decreases `(reader bytes + staged bytes) * 2^32 + range`, which the
  model's `loopFuel` exceeds, so the loop bound is never hit.
-/
import LzmaProofs.Lemmas.SafetyTree
import LzmaProofs.Lemmas.SafetyWindow
import LzmaProofs.Lemmas.ProcessMode
namespace Lzma
namespace Safety

structure DStateInv (s : DState) : Prop where
  probs : ProbsInv s.probs
  state : s.state < 12
  lc : s.props.lc ≤ 8
  lp : s.props.lp ≤ 4
  pb : s.props.pb ≤ 4
  rows : s.probs.litRows = 1 <<< (s.props.lc + s.props.lp)
  pbuf : s.partialBuf.length ≤ 20

theorem DStateInv.of_eq {s s' : DState} (hs : DStateInv s) (h1 : s'.probs = s.probs)
    (h2 : s'.state < 12) (h3 : s'.props = s.props) (h4 : s'.partialBuf.length ≤ 20) :
    DStateInv s' :=
  ⟨h1 ▸ hs.probs, h2, h3 ▸ hs.lc, h3 ▸ hs.lp, h3 ▸ hs.pb, by rw [h1, h3]; exact hs.rows, h4⟩

/-- what `LzmaProperties::validate` asserts -/
def PropsOk (p : Props) : Prop := p.lc ≤ 8 ∧ p.lp ≤ 4 ∧ p.pb ≤ 4

instance (p : Props) : Decidable (PropsOk p) := by unfold PropsOk; infer_instance

theorem validate_ok {p : Props} (h : PropsOk p) : p.validate = .ok () := by
  unfold Props.validate; unfold PropsOk at h; rw [if_pos h]; rfl

theorem DState_new_safe {props : Props} (h : PropsOk props) (u : Option Nat) :
    ESafe (fun s => DStateInv s ∧ s.partialBuf = [] ∧ s.unpackedSize = u ∧ s.props = props)
      (DState.new props u) := by
  unfold DState.new
  rw [validate_ok h]
  exact ⟨⟨ProbsInv_init _, (by show (0:Nat) < 12; omega), h.1, h.2.1, h.2.2, rfl, by simp⟩, rfl, rfl, rfl⟩

theorem resetState_safe {s : DState} (hs : DStateInv s) {np : Props} (h : PropsOk np) :
    ESafe (fun s' => DStateInv s' ∧ s'.partialBuf = s.partialBuf ∧ s'.unpackedSize = s.unpackedSize ∧
        s'.props = np)
      (s.resetState np) := by
  unfold DState.resetState
  rw [validate_ok h]
  simp only [ok_bind]
  refine ESafe_pure.mpr ⟨⟨?_, (by show (0:Nat) < 12; omega), h.1, h.2.1, h.2.2, ?_, hs.pbuf⟩, rfl, rfl, rfl⟩
  · show ProbsInv { lit := _, litRows := _ }
    split
    · exact ProbsInv_fresh _ _ hs.probs.lit.1
    · exact ProbsInv_fresh _ _ rfl
  · split
    · rename_i heq
      show s.probs.litRows = _
      rw [hs.rows, heq]
    · rfl

theorem setUnpackedSize_inv {s : DState} (hs : DStateInv s) (u : Option Nat) :
    DStateInv (s.setUnpackedSize u) :=
  hs.of_eq rfl hs.state rfl hs.pbuf

section generic
variable {ω : Type} [LzBuf ω] [LzBufSafe ω]

theorem litRow_bound {len prev lc lp : Nat} (hlc : lc ≤ 8) (hprev : prev < 256) :
    ((len &&& ((1 <<< lp) - 1)) <<< lc) + (prev >>> (8 - lc)) < 2 ^ (lc + lp) := by
  have ha : len &&& ((1 <<< lp) - 1) ≤ (1 <<< lp) - 1 := Nat.and_le_right
  rw [Nat.shiftLeft_eq, Nat.one_mul] at ha
  have hpos : 0 < 2 ^ lp := Nat.pos_of_ne_zero (by simp)
  have ha' : (len &&& ((1 <<< lp) - 1)) + 1 ≤ 2 ^ lp := by
    rw [Nat.shiftLeft_eq, Nat.one_mul]; omega
  have hq : prev >>> (8 - lc) < 2 ^ lc := by
    rw [Nat.shiftRight_eq_div_pow]
    apply Nat.div_lt_of_lt_mul
    rw [← Nat.pow_add]
    have : 8 - lc + lc = 8 := by omega
    rw [this]; exact hprev
  rw [Nat.shiftLeft_eq (len &&& _)]
  have h1 := Nat.mul_le_mul_right (2 ^ lc) ha'
  rw [Nat.add_mul, Nat.one_mul, ← Nat.pow_add, Nat.add_comm lp lc] at h1
  omega

theorem mkCtx_ok {s : DState} {w : ω} (hs : DStateInv s) (hw : LzBufSafe.inv w) :
    CtxOk s.probs.litRows (s.mkCtx w) := by
  refine ⟨hs.state, ?_, ?_, ?_⟩
  · show LzBuf.len w &&& ((1 <<< s.props.pb) - 1) < 16
    have h1 : LzBuf.len w &&& ((1 <<< s.props.pb) - 1) ≤ (1 <<< s.props.pb) - 1 := Nat.and_le_right
    have h2 : 2 ^ s.props.pb ≤ 2 ^ 4 := Nat.pow_le_pow_right (by omega) hs.pb
    rw [Nat.shiftLeft_eq, Nat.one_mul] at h1 ⊢
    omega
  · show ESafe _ (do
      let prev ← LzBuf.lastOr w 0
      let sh ← subChk "decode_literal: 8 - lc" 8 s.props.lc
      let row := ((LzBuf.len w &&& ((1 <<< s.props.lp) - 1)) <<< s.props.lc) + (prev.toNat >>> sh)
      if row * 0x300 + 0x300 ≤ s.probs.lit.size then pure row else oob)
    refine (LzBufSafe.lastOr_safe w 0 hw).bind ?_
    intro prev _
    rw [subChk_safe hs.lc]
    simp only [ok_bind]
    have hb := litRow_bound (len := LzBuf.len w) (lp := s.props.lp) hs.lc prev.toNat_lt
    have hsz := hs.probs.lit.1
    rw [hs.rows, Nat.shiftLeft_eq, Nat.one_mul] at hsz
    rw [hs.rows, Nat.shiftLeft_eq, Nat.one_mul]
    generalize 2 ^ (s.props.lc + s.props.lp) = X at *
    split
    · exact hb
    · rename_i hne
      exact absurd (by rw [hsz]; omega) hne
  · show ESafe _ (do
      let b ← LzBuf.lastN w (s.rep0 + 1)
      pure b.toNat)
    refine (LzBufSafe.lastN_safe w _ hw (by omega)).bind ?_
    intro _ _; trivial

theorem isFinishedOk_safe (rc : RC) (rd : Rd) : ESafe (fun _ => True) (rc.isFinishedOk rd) := by
  unfold RC.isFinishedOk
  split
  · exact isEof_safe rd
  · trivial

theorem applySym_safe {s : DState} {w : ω} (rc : RC) (rd : Rd) (sym : RawSym)
    (hs : DStateInv s) (hw : LzBufSafe.inv w) :
    MSafe (fun x => DStateInv x.2.1 ∧ LzBufSafe.inv x.2.2 ∧ x.2.1.partialBuf = s.partialBuf ∧
        x.2.1.unpackedSize = s.unpackedSize)
      (DState.applySym s w rc rd sym) := by
  cases sym with
  | lit byte =>
    simp only [DState.applySym]
    refine MSafe.bind (LzBufSafe.appendLiteral_safe w _ hw) ?_
    intro w' hw'
    refine MSafe_pure.mpr ?_
    refine ⟨hs.of_eq rfl ?_ rfl hs.pbuf, hw', rfl, rfl⟩
    have := hs.state
    show (if s.state < 4 then 0 else if s.state < 10 then s.state - 3 else s.state - 6) < 12
    split
    · omega
    · split <;> omega
  | shortRep =>
    simp only [DState.applySym]
    refine MSafe.bind (LzBufSafe.appendLz_safe w _ _ hw (by omega)) ?_
    intro w' hw'
    refine MSafe_pure.mpr ?_
    refine ⟨hs.of_eq rfl ?_ rfl hs.pbuf, hw', rfl, rfl⟩
    show (if s.state < 7 then 9 else 11) < 12
    split <;> omega
  | rep idx len =>
    simp only [DState.applySym]
    refine MSafe.bind (LzBufSafe.appendLz_safe w _ _ hw (by omega)) ?_
    intro w' hw'
    refine MSafe_pure.mpr ?_
    have hst : ∀ x : Nat, (if x < 7 then 8 else 11) < 12 := by intro x; split <;> omega
    refine ⟨?_, hw', ?_, ?_⟩
    · split <;> exact hs.of_eq rfl (hst _) rfl hs.pbuf
    · split <;> rfl
    · split <;> rfl
  | mtch len r0 =>
    simp only [DState.applySym]
    have hst : ∀ x : Nat, (if x < 7 then 7 else 10) < 12 := by intro x; split <;> omega
    split
    · refine MSafe.bind (MSafe.liftE (isFinishedOk_safe rc rd)) ?_
      intro fin _
      split
      · exact MSafe_pure.mpr ⟨hs.of_eq rfl (hst _) rfl hs.pbuf, hw, rfl, rfl⟩
      · simp
    · refine MSafe.bind (LzBufSafe.appendLz_safe w _ _ hw (by omega)) ?_
      intro w' hw'
      exact MSafe_pure.mpr ⟨hs.of_eq rfl (hst _) rfl hs.pbuf, hw', rfl, rfl⟩

theorem processNext_safe {s : DState} {w : ω} {rc : RC} (rd : Rd)
    (hs : DStateInv s) (hw : LzBufSafe.inv w) (hrc : RCInv rc) :
    MSafe (fun x => DStateInv x.2.1 ∧ LzBufSafe.inv x.2.2.1 ∧ RCInv x.2.2.2.1 ∧
        x.2.2.2.2.rem.length ≤ rd.rem.length ∧ mu x.2.2.2.2 x.2.2.2.1 < mu rd rc ∧
        x.2.1.partialBuf = s.partialBuf ∧ x.2.1.unpackedSize = s.unpackedSize)
      (DState.processNext s w rc rd) := by
  unfold DState.processNext
  have hctx := symTree_safe (mkCtx_ok hs hw)
  obtain ⟨i, k, hk⟩ := symTree_isBit (s.mkCtx w)
  rw [hk] at hctx ⊢
  refine MSafe.bind (MSafe.liftE (runDec_bit_lt true i k s.probs rc rd hs.probs hctx hrc)) ?_
  rintro ⟨sym, probs, rc', rd'⟩ ⟨_, hp, hrows, hrc', hlen, hmu⟩
  have hs' : DStateInv { s with probs := probs } :=
    ⟨hp, hs.state, hs.lc, hs.lp, hs.pb, by rw [hrows]; exact hs.rows, hs.pbuf⟩
  refine MSafe.bind (applySym_safe rc' rd' sym hs' hw) ?_
  rintro ⟨st, s2, w2⟩ ⟨h1, h2, h3, h4⟩
  exact MSafe_pure.mpr ⟨h1, h2, hrc', hlen, hmu, h3, h4⟩

/-- `read_partial_input_buf` moves bytes from the reader into the 20-byte staging buffer: their
total is unchanged and the reader does not grow; its only error is the reader's own `.io` -/
theorem readPartialInputBuf_safe {s : DState} (rd : Rd) (hs : DStateInv s) :
    ESafe (fun x => DStateInv x.1 ∧
        x.2.rem.length + x.1.partialBuf.length = rd.rem.length + s.partialBuf.length ∧
        x.2.rem.length ≤ rd.rem.length ∧ x.1.unpackedSize = s.unpackedSize)
      (s.readPartialInputBuf rd) := by
  unfold DState.readPartialInputBuf
  simp only
  split
  · rfl
  · have := hs.pbuf
    simp only [DState.MAX_REQUIRED_INPUT]
    refine ESafe_ok.mpr ⟨hs.of_eq rfl hs.state rfl ?_, ?_, ?_, rfl⟩
    · simp; omega
    · simp; omega
    · simp

omit [LzBufSafe ω] in
theorem stop_safe (mode : DState.Mode) (s : DState) (w : ω) (rc : RC) (rd : Rd) :
    ESafe (fun _ => True) (DState.stopTest mode s w rc rd) := by
  unfold DState.stopTest
  split
  · trivial
  · split
    · exact (isEof_safe rd).bind (fun _ _ => trivial)
    · exact (isFinishedOk_safe rc rd).bind (fun _ _ => trivial)

/-- one iteration of `processLoop_safe`: the measure `(x + bytes) * K + range` (with `K = 2^32`) drops
strictly (`h1`), so it stays below the fuel that is left -/
theorem fuel_step {x b c r r' F K : Nat}
    (h1 : c * K + r' < b * K + r)
    (h2 : (x + b) * K + r < F + 1) : (x + c) * K + r' < F := by
  rw [Nat.add_mul] at *
  omega

/-- The symbol loop with enough fuel: the fuel bounds the measure
`(reader bytes + staged bytes) * 2^32 + range`. -/
theorem processLoop_safe (mode : DState.Mode) : ∀ (fuel : Nat) (s : DState) (w : ω) (rc : RC) (rd : Rd),
    DStateInv s → LzBufSafe.inv w → RCInv rc →
    (rd.rem.length + s.partialBuf.length) * 4294967296 + rc.range < fuel →
    MSafe (fun x => DStateInv x.1 ∧ LzBufSafe.inv x.2.1 ∧ RCInv x.2.2.1 ∧
        x.2.2.2.rem.length ≤ rd.rem.length ∧ x.1.unpackedSize = s.unpackedSize)
      (DState.processLoop mode fuel s w rc rd) := by
  intro fuel
  induction fuel with
  | zero => intro s w rc rd _ _ _ hf; omega
  | succ fuel ih =>
    intro s w rc rd hs hw hrc hf
    unfold DState.processLoop
    refine MSafe.bind (MSafe.liftE (stop_safe mode s w rc rd)) ?_
    intro stop _
    split
    · exact MSafe_pure.mpr ⟨hs, hw, hrc, Nat.le_refl _, rfl⟩
    · split
      · -- staged input
        refine MSafe.bind (MSafe.liftE (readPartialInputBuf_safe rd hs)) ?_
        rintro ⟨s1, rd1⟩ ⟨hs1, htot, hle, hu1⟩
        dsimp only
        split
        · exact MSafe_pure.mpr ⟨hs1, hw, hrc, hle, hu1⟩
        · refine MSafe.bind (processNext_safe (Rd.ofBytes s1.partialBuf) hs1 hw hrc) ?_
          rintro ⟨st, s2, w2, rc2, tmp⟩ ⟨hs2, hw2, hrc2, hl2, hm2, hpb2, hu2⟩
          dsimp only at hs2 hw2 hrc2 hl2 hm2 hpb2 hu2 ⊢
          have hl2' : tmp.rem.length ≤ s1.partialBuf.length := hl2
          have hs3 : DStateInv { s2 with partialBuf := tmp.rem } :=
            hs2.of_eq rfl hs2.state rfl (Nat.le_trans hl2' hs1.pbuf)
          split
          · exact MSafe_pure.mpr ⟨hs3, hw2, hrc2, hle, by rw [← hu1, ← hu2]⟩
          · have hm2' : tmp.rem.length * 4294967296 + rc2.range <
                s1.partialBuf.length * 4294967296 + rc.range := hm2
            have := ih { s2 with partialBuf := tmp.rem } w2 rc2 rd1 hs3 hw2 hrc2 (by
              show (rd1.rem.length + tmp.rem.length) * 4294967296 + rc2.range < fuel
              rw [← htot] at hf
              exact fuel_step hm2' hf)
            refine this.mono ?_
            rintro ⟨a, b, c, d⟩ ⟨h1, h2, h3, h4, h5⟩
            exact ⟨h1, h2, h3, Nat.le_trans h4 hle, by rw [h5, ← hu1, ← hu2]⟩
      · -- direct input
        refine MSafe.bind (MSafe.liftE (fillBuf_safe rd)) ?_
        intro _ _
        split
        · refine MSafe.bind (MSafe.liftE (readPartialInputBuf_safe rd hs)) ?_
          rintro ⟨s1, rd1⟩ ⟨hs1, _, hle, hu1⟩
          exact MSafe_pure.mpr ⟨hs1, hw, hrc, hle, hu1⟩
        · refine MSafe.bind (processNext_safe rd hs hw hrc) ?_
          rintro ⟨st, s2, w2, rc2, rd2⟩ ⟨hs2, hw2, hrc2, hl2, hm2, hpb2, hu2⟩
          dsimp only at hs2 hw2 hrc2 hl2 hm2 hpb2 hu2 ⊢
          split
          · exact MSafe_pure.mpr ⟨hs2, hw2, hrc2, hl2, hu2⟩
          · have hm2' : rd2.rem.length * 4294967296 + rc2.range <
                rd.rem.length * 4294967296 + rc.range := hm2
            have := ih s2 w2 rc2 rd2 hs2 hw2 hrc2 (by
              rw [hpb2, Nat.add_comm rd2.rem.length]
              rw [Nat.add_comm rd.rem.length] at hf
              exact fuel_step hm2' hf)
            refine this.mono ?_
            rintro ⟨a, b, c, d⟩ ⟨h1, h2, h3, h4, h5⟩
            exact ⟨h1, h2, h3, Nat.le_trans h4 hl2, by rw [h5, hu2]⟩

theorem loopFuel_suffices {s : DState} {rc : RC} (rd : Rd) (hrc : RCInv rc) :
    (rd.rem.length + s.partialBuf.length) * 4294967296 + rc.range < DState.loopFuel s rd := by
  have := hrc.2.1
  simp only [DState.loopFuel, U32]
  omega

theorem processMode_safe (mode : DState.Mode) {s : DState} {w : ω} {rc : RC} (rd : Rd)
    (hs : DStateInv s) (hw : LzBufSafe.inv w) (hrc : RCInv rc) :
    MSafe (fun x => DStateInv x.1 ∧ LzBufSafe.inv x.2.1 ∧ RCInv x.2.2.1 ∧
        x.2.2.2.rem.length ≤ rd.rem.length)
      (DState.processMode mode s w rc rd) := by
  unfold DState.processMode
  refine MSafe.bind (processLoop_safe mode _ s w rc rd hs hw hrc (loopFuel_suffices rd hrc)) ?_
  rintro ⟨s1, w1, rc1, rd1⟩ ⟨h1, h2, h3, h4, _⟩
  dsimp only
  split
  · split
    · simp
    · exact MSafe_pure.mpr ⟨h1, h2, h3, h4⟩
  · exact MSafe_pure.mpr ⟨h1, h2, h3, h4⟩

theorem processLoop_no_panic (mode : DState.Mode) (fuel : Nat) {s : DState} {w : ω} {rc : RC} (rd : Rd)
    (hs : DStateInv s) (hw : LzBufSafe.inv w) (hrc : RCInv rc)
    (hf : (rd.rem.length + s.partialBuf.length) * 4294967296 + rc.range < fuel) (snk : Sink)
    (what : String) : (DState.processLoop mode fuel s w rc rd snk).2 ≠ .error (.panic what) :=
  (processLoop_safe mode fuel s w rc rd hs hw hrc hf snk).ne_panic what

theorem processLoop_terminates (mode : DState.Mode) (fuel : Nat) {s : DState} {w : ω} {rc : RC} (rd : Rd)
    (hs : DStateInv s) (hw : LzBufSafe.inv w) (hrc : RCInv rc)
    (hf : (rd.rem.length + s.partialBuf.length) * 4294967296 + rc.range < fuel) (snk : Sink) :
    (DState.processLoop mode fuel s w rc rd snk).2 ≠ .error .fuel :=
  (processLoop_safe mode fuel s w rc rd hs hw hrc hf snk).ne_fuel

end generic

end Safety
end Lzma
