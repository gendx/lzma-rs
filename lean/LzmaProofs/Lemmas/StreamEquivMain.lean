/-
  C05 — the `Stream` object against the one-shot decoder: `read_data`, `write` and the
  re-submitting `feed` loop in Data state, `finish`; the Header state machine (the 18-byte
  staging buffer, `Stream::read_header` on prefixes) and the link between
  `lzma_decompress_with_options` and the fuel-free tail `fin`; header phase and data phase
  composed for a whole list of chunks.
-/
import LzmaProofs.Lemmas.StreamEquivSim
import LzmaProofs.Lemmas.StreamBasic
import LzmaProofs.Lemmas.Header
import LzmaProofs.Lemmas.SafetyStream
namespace Lzma
namespace StreamEq

open DState Safety

/-! ## `read_data` -/

def RInv (rs : RunState) : Prop := Inv rs.decoder rs.output ⟨rs.range, rs.code⟩

/-- one-shot tail from a `RunState` on the remaining input `R` -/
def rfin (rs : RunState) (R : Bytes) : M Unit :=
  fin (clr rs.decoder) rs.output ⟨rs.range, rs.code⟩ R

theorem readData_ok_loop {rs rs' : RunState} {rd rd' : Rd} {snk k : Sink}
    (h : Stream.readData rs rd snk = (k, .ok (rs', rd'))) :
    processLoop .stream (loopFuel rs.decoder rd) rs.decoder rs.output ⟨rs.range, rs.code⟩ rd snk =
      (k, .ok (rs'.decoder, rs'.output, ⟨rs'.range, rs'.code⟩, rd')) := by
  unfold Stream.readData at h
  obtain ⟨⟨s1, w1, rc1, rd1⟩, k', h1, h2⟩ := mBind_eq_ok.mp h
  simp only [pure_run, Prod.mk.injEq, Except.ok.injEq] at h2
  obtain ⟨rfl, rfl, rfl⟩ := h2
  exact (processMode_ok_iff.1 h1).1

theorem readData_err {rs : RunState} {a : Bytes} {snk k : Sink} {e : Err} (hI : RInv rs)
    (h : Stream.readData rs ⟨a, false⟩ snk = (k, .error e)) :
    ∀ F, IsErr (rfin rs (rs.decoder.partialBuf ++ a ++ F) snk) := by
  unfold Stream.readData at h
  rcases mBind_eq_error.mp h with h1 | ⟨y, k', _, h2⟩
  · have h3 := (processMode_error_iff.mp h1).resolve_right
      fun ⟨_, _, _, _, _, _, _, hm, _⟩ => nomatch hm
    have hs := stream_loop_sim _ _ _ _ a snk hI (lmu_lt_loopFuel a hI)
    rw [h3] at hs
    exact hs
  · obtain ⟨s1, w1, rc1, rd1⟩ := y
    simp [pure_run] at h2

theorem readData_ok {rs rs' : RunState} {a : Bytes} {rd' : Rd} {snk k : Sink} (hI : RInv rs)
    (h : Stream.readData rs ⟨a, false⟩ snk = (k, .ok (rs', rd'))) :
    rd'.bad = false ∧ RInv rs' ∧ rd'.rem <:+ a ∧
      Tail rs.decoder a rs'.decoder rs'.output rd'.rem ∧
      (rs'.decoder.partialBuf.length < 20 ∨ StopNow rs'.decoder rs'.output) := by
  have hs := stream_loop_sim _ _ _ _ a snk hI (lmu_lt_loopFuel a hI)
  rw [readData_ok_loop h] at hs
  obtain ⟨g1, g2, _, g4, g5, g6, _⟩ := hs
  exact ⟨g1, g2, g4, g5, g6⟩

/-! ## verdict and trace, from `read_data` upwards -/

def rcfg (rs : RunState) (R : Bytes) (k : Sink) : Cfg Circ :=
  cfg rs.decoder rs.output ⟨rs.range, rs.code⟩ R k

theorem cfg_ext {c : Cfg Circ} {s : DState} {w : Circ} {rc : RC} {R : Bytes} {k : Sink}
    (h1 : c.s = clr s) (h2 : c.w = w) (h3 : c.rc = rc) (h4 : c.rd = ⟨R, false⟩) (h5 : c.snk = k) :
    c = cfg s w rc R k := by
  cases c
  simp only at h1 h2 h3 h4 h5
  subst h1 h2 h3 h4 h5
  rfl

/-- the run state `rs` at sink `k`, with `R` as its logical remaining input, lies on the one-shot
trace from `c₁`: exactly at a configuration, or at one whose reader no longer matters because the
size is reached, or at a last configuration with nothing left -/
def OnTrace (c₁ : Cfg Circ) (rs : RunState) (k : Sink) (R : Bytes) : Prop :=
  ∃ j c, FinishSteps c₁ j c ∧ c.w = rs.output ∧ c.snk = k ∧
    ((c.s = clr rs.decoder ∧ c.rc = ⟨rs.range, rs.code⟩ ∧
        (c.rd = ⟨R, false⟩ ∨ StopNow rs.decoder rs.output)) ∨
     (NoStep c ∧ R = []))

/-- From a start whose one-shot verdict is `x` and whose one-shot traces are those in `T`, the
stream has come to the run state `rs'` at sink `k` with `R'` to come: the one-shot tail from there
has the verdict `x`, and unless `x` is an error every trace in `T` passes through `(rs', k, R')`. -/
structure AdvFrom (x : Sink × Except Err Unit) (T : Cfg Circ → Prop)
    (rs' : RunState) (k : Sink) (R' : Bytes) : Prop where
  veq : Veq x (rfin rs' R' k)
  tr : ¬ IsErr x → ∀ c₀, T c₀ → OnTrace c₀ rs' k R'

/-- … from the run state `rs` at sink `snk` with `R` to come -/
abbrev RAdv (rs : RunState) (snk : Sink) (R : Bytes) (rs' : RunState) (k : Sink) (R' : Bytes) : Prop :=
  AdvFrom (rfin rs R snk) (fun c₀ => OnTrace c₀ rs snk R) rs' k R'

theorem RAdv.refl {rs : RunState} {snk : Sink} {R : Bytes} : RAdv rs snk R rs snk R :=
  ⟨Veq.refl _, fun _ _ h => h⟩

theorem AdvFrom.trans {x : Sink × Except Err Unit} {T : Cfg Circ → Prop} {rs1 rs2 : RunState}
    {k1 k2 : Sink} {R1 R2 : Bytes} (h1 : AdvFrom x T rs1 k1 R1) (h2 : RAdv rs1 k1 R1 rs2 k2 R2) :
    AdvFrom x T rs2 k2 R2 :=
  ⟨h1.veq.trans h2.veq, fun hok c₀ t => h2.tr (fun he => hok (h1.veq.isErr he)) c₀ (h1.tr hok c₀ t)⟩

theorem rfin_stopNow {rs : RunState} (hI : RInv rs) (h : StopNow rs.decoder rs.output)
    (R R' : Bytes) (snk : Sink) : rfin rs R snk = rfin rs R' snk := by
  have hs := fun R => stopNow_stop (mode := .finish) (s := clr rs.decoder) ⟨rs.range, rs.code⟩ R h
  unfold rfin
  rw [fin_stop snk (clr_inv hI) (hs R), fin_stop snk (clr_inv hI) (hs R')]

theorem RAdv.stopNow {rs : RunState} {k : Sink} {R R' : Bytes} (hI : RInv rs)
    (hs : StopNow rs.decoder rs.output) (hne : R ≠ []) : RAdv rs k R rs k R' := by
  refine ⟨Veq.of_eq (rfin_stopNow hI hs _ _ k), fun _ c₀ ⟨j, c, t1, t2, t3, t4⟩ => ⟨j, c, t1, t2, t3, ?_⟩⟩
  rcases t4 with ⟨t5, t6, _⟩ | ⟨_, t7⟩
  · exact .inl ⟨t5, t6, .inr hs⟩
  · exact absurd t7 hne

/-- one `read_data` on the non-empty input `a ++ F` of which it sees `a` -/
theorem readData_adv {rs rs' : RunState} {a : Bytes} {rd' : Rd} {snk k : Sink} (hI : RInv rs)
    (h : Stream.readData rs ⟨a, false⟩ snk = (k, .ok (rs', rd'))) (F : Bytes) (hne : a ++ F ≠ []) :
    RAdv rs snk (rs.decoder.partialBuf ++ a ++ F) rs' k (rs'.decoder.partialBuf ++ rd'.rem ++ F) := by
  have hs := stream_loop_sim _ _ _ _ a snk hI (lmu_lt_loopFuel a hI)
  rw [readData_ok_loop h] at hs
  obtain ⟨hv, htr⟩ := hs.2.2.2.2.2.2 F
  refine ⟨hv, fun hok c₀ ⟨j, c, t1, t2, t3, t4⟩ => ?_⟩
  rcases t4 with ⟨t5, t6, t7 | ⟨m, hm1, hm2⟩⟩ | ⟨_, t7⟩
  · -- the stream is exactly at `c`
    obtain rfl : c = rcfg rs (rs.decoder.partialBuf ++ a ++ F) snk := cfg_ext t5 t2 t6 t7 t3
    obtain ⟨j', c', u1, u2, u3, u4⟩ := htr hok
    refine ⟨j + j', c', steps_trans t1 u1, u2, u3, ?_⟩
    rcases u4 with rfl | ⟨u5, u6, u7⟩
    · exact .inl ⟨rfl, rfl, .inl rfl⟩
    · exact .inr ⟨u5, by rw [u6, List.nil_append]; exact u7⟩
  · -- size reached: nothing changes
    rw [Stream.readData_size_reached rs _ snk m hm1 hm2] at h
    simp only [Prod.mk.injEq, Except.ok.injEq] at h
    obtain ⟨rfl, rfl, rfl⟩ := h
    exact ⟨j, c, t1, t2, t3, .inl ⟨t5, t6, .inr ⟨m, hm1, hm2⟩⟩⟩
  · rw [List.append_assoc] at t7
    exact absurd (List.append_eq_nil_iff.mp t7).2 hne

/-! ## `Stream::finish` in Data state: the `.finish` loop started with staged bytes -/

theorem finish_buf_sim : ∀ (n : Nat) (s : DState) (w : Circ) (rc : RC) (snk : Sink),
    Inv s w rc → lmu s rc [] < n →
    finK (processLoop .finish n s w rc ⟨[], false⟩ snk) = fin (clr s) w rc s.partialBuf snk := by
  intro n
  induction n with
  | zero => intro s w rc snk _ h; omega
  | succ n ih =>
    intro s w rc snk hI hn
    by_cases hpb : s.partialBuf = []
    · rw [processLoop_eq_PL [] snk hI hn, hpb, clr_of_nil hpb, fin_eq]
    · rw [processLoop_succ]
      have hne : s.partialBuf.isEmpty = false := by cases hp : s.partialBuf <;> simp_all
      cases hs : stopB .finish s w rc [] with
      | true =>
        rw [LB_stop snk hs, finK_ok]
        have : stopB .finish (clr s) w rc s.partialBuf = true := by
          rw [stopB_finish_clr]
          unfold stopB at hs
          cases hu : s.unpackedSize with
          | some m => rw [hu] at hs; exact hs
          | none => rw [hu] at hs; simp [hne] at hs
        rw [fin_stop snk (clr_inv hI) this]
        rfl
      | false =>
        obtain ⟨pb1, a1, hr, hcat, _, _, hI1, hsuf1, _, _, hlen⟩ := readPartial_facts [] hI
        have ha1 : a1 = [] := List.eq_nil_of_length_eq_zero (by have := hsuf1.length_le; simpa using this)
        subst ha1
        have hpb1 : pb1 = s.partialBuf := by simpa using hcat.symm
        subst hpb1
        have hstop : stopB .finish (clr s) w rc s.partialBuf = false := by
          rw [stopB_finish_clr]
          unfold stopB at hs
          cases hu : s.unpackedSize with
          | some m => rw [hu] at hs; exact hs
          | none => simp [hne]
        rw [LB_buf_next snk hs hpb hr (by simp)]
        show finK (pnTail (processLoop .finish n) ⟨[], false⟩ true
          (processNext { s with partialBuf := s.partialBuf } w rc ⟨s.partialBuf, false⟩ snk)) = _
        rw [processNext_pbuf]
        rcases hp : processNext s w rc ⟨s.partialBuf, false⟩ snk with ⟨k, r⟩
        cases r with
        | error e =>
          rw [setPB_err, pnTail_err, finK_err]
          exact (fin_next_err (clr_inv hI) rfl hstop (by rw [processNext_clr, hp, setPB_err])).symm
        | ok y =>
          obtain ⟨st, s', w', rc', rd'⟩ := y
          obtain ⟨hI', hbad, hsuf, hmu, _, _⟩ := processNext_inv hI hp
          obtain ⟨l, _⟩ := rd'
          simp only at hbad hsuf hmu
          subst hbad
          rw [setPB_ok]
          cases st with
          | finished =>
            rw [pnTail_fin_buf, finK_ok]
            exact (fin_next_fin (s' := clr s') (clr_inv hI) rfl hstop
              (by rw [processNext_clr, hp, setPB_ok]; rfl)).symm
          | «continue» =>
            rw [pnTail_cont_buf]
            have hle : l.length ≤ s.partialBuf.length := hsuf.length_le
            have hpl := hI.ds.pbuf
            have hI2 : Inv { s' with partialBuf := l } w' rc' := setpb_inv hI' (by omega)
            have := ih { s' with partialBuf := l } w' rc' k hI2 (by
              simp only [lmu, List.length_nil, Nat.zero_add] at hn ⊢
              generalize 4294967296 = K at *
              omega)
            rw [show finK (processLoop .finish n
                { ({ s' with partialBuf := s.partialBuf } : DState) with partialBuf := l } w' rc' ⟨[], false⟩ k) = _
              from this]
            exact (fin_next_cont (s' := clr s') (clr_inv hI) rfl hstop
              (by rw [processNext_clr, hp, setPB_ok]; rfl)).symm

/-! ## the driver: a division of the input into `write` calls -/

/-- feed every chunk (each with the re-submitting `feed` loop), stop at the first error -/
def feedAll : List Bytes → Stream → Sink → Sink × Stream × Except Err Unit
  | [], st, snk => (snk, st, .ok ())
  | c :: cs, st, snk =>
    match Stream.feed (c.length + 1) st c 0 snk with
    | (snk', st', .ok _) => feedAll cs st' snk'
    | (snk', st', .error e) => (snk', st', .error e)

/-- feed all chunks, then `finish`; the verdict is `ok` iff no `write` failed and
`finish` succeeded -/
def streamRunFrom (st : Stream) (cs : List Bytes) (snk : Sink) : Sink × Except Err Unit :=
  match feedAll cs st snk with
  | (snk', st', .ok _) => st'.finish snk'
  | (snk', _, .error e) => (snk', .error e)

def streamRun (opts : Options) (cs : List Bytes) (snk : Sink) : Sink × Except Err Unit :=
  streamRunFrom (Stream.newWithOptions opts) cs snk

theorem streamRunFrom_nil (st : Stream) (snk : Sink) : streamRunFrom st [] snk = st.finish snk := rfl

theorem streamRunFrom_cons_ok {st st1 : Stream} {c : Bytes} {cs : List Bytes} {snk k : Sink} {m : Nat}
    (h : Stream.feed (c.length + 1) st c 0 snk = (k, st1, .ok m)) :
    streamRunFrom st (c :: cs) snk = streamRunFrom st1 cs k := by
  unfold streamRunFrom
  rw [feedAll, h]

/-! ## `finish` in Data state -/

/-- what `Stream::finish` does after the `.finish` loop `m` (kept opaque: it carries the fuel):
the size check of `process_mode`, then `output.finish()` -/
theorem finish_tail (m : M (DState × Circ × RC × Rd)) (snk : Sink) :
    (do let __x ← (do
          let (s, w, rc, rd) ← m
          match s.unpackedSize with
          | some n =>
            if Mode.finish = Mode.finish ∧ n ≠ LzBuf.len w then throwM .lzma else pure (s, w, rc, rd)
          | none => pure (s, w, rc, rd) : M (DState × Circ × RC × Rd))
        let out ← (pure __x.2.fst : M Circ)
        Circ.finish out : M Unit) snk = finK (m snk) := by
  rw [bind_run, bind_run]
  rcases m snk with ⟨k, e | ⟨s1, w1, rc1, rd1⟩⟩
  · rfl
  · simp only [finK_ok, postOf]
    have hl : LzBuf.len w1 = w1.len := rfl
    cases s1.unpackedSize with
    | none => rfl
    | some n =>
      simp only [true_and, hl]
      by_cases hm : n = w1.len <;> simp [hm, bind_run]

theorem finish_data_eq {st : Stream} {rs : RunState} (hs : st.state = some (.data rs))
    (ho : st.options.allowIncomplete = false) (snk : Sink) :
    st.finish snk = finK (processLoop .finish (loopFuel rs.decoder ⟨st.tmp, false⟩) rs.decoder rs.output
      ⟨rs.range, rs.code⟩ ⟨st.tmp, false⟩ snk) := by
  unfold Stream.finish
  rw [hs]
  simp only [ho, Bool.not_false, if_true]
  exact finish_tail (processLoop .finish _ _ _ _ _) snk

structure DataInv (st : Stream) (rs : RunState) : Prop where
  state : st.state = some (.data rs)
  inv : RInv rs
  excl : st.tmp = [] ∨ rs.decoder.partialBuf = []
  pb : rs.decoder.partialBuf.length < 20 ∨ StopNow rs.decoder rs.output

/-- the one-shot tail of a stream in Data state followed by the future input `G`:
the logical remaining input is `tmp ++ partialBuf ++ G` -/
def sfin (st : Stream) (rs : RunState) (G : Bytes) : M Unit :=
  rfin rs (st.tmp ++ rs.decoder.partialBuf ++ G)

theorem finish_data {st : Stream} {rs : RunState} (hD : DataInv st rs)
    (ho : st.options.allowIncomplete = false) (snk : Sink) :
    st.finish snk = sfin st rs [] snk := by
  rw [finish_data_eq hD.state ho]
  have hI : Inv rs.decoder rs.output ⟨rs.range, rs.code⟩ := hD.inv
  rcases hD.excl with h | h
  · rw [h, finish_buf_sim _ _ _ _ snk hI (lmu_lt_loopFuel [] hI)]
    unfold sfin rfin
    rw [h, List.nil_append, List.append_nil]
  · rw [processLoop_eq_PL st.tmp snk hI (lmu_lt_loopFuel st.tmp hI), ← fin_eq]
    unfold sfin rfin
    rw [h, List.append_nil, List.append_nil, clr_of_nil h]

/-! ## `write` in Data state -/

theorem tmpRun_ok {st : Stream} {rs rs1 : RunState} {snk k1 : Sink} (hD : DataInv st rs)
    (h : Stream.tmpRun st rs snk = (k1, .ok rs1)) :
    RInv rs1 ∧ (rs1.decoder.partialBuf.length < 20 ∨ StopNow rs1.decoder rs1.output) ∧
      ∀ F, F ≠ [] → RAdv rs snk (st.tmp ++ rs.decoder.partialBuf ++ F) rs1 k1
        (rs1.decoder.partialBuf ++ F) := by
  rcases Stream.tmpRun_ok_inv h with ⟨htmp, rfl, rfl⟩ | ⟨ht, rdx, h5⟩
  · exact ⟨hD.inv, hD.pb, fun F _ => by rw [htmp, List.nil_append]; exact RAdv.refl⟩
  · have hpbnil : rs.decoder.partialBuf = [] := hD.excl.resolve_left ht
    obtain ⟨_, g2, _, g4, g5⟩ := readData_ok hD.inv h5
    refine ⟨g2, g5, fun F hF => ?_⟩
    have := readData_adv hD.inv h5 F fun h => hF (List.append_eq_nil_iff.mp h).2
    rw [hpbnil, List.nil_append] at this
    rw [hpbnil, List.append_nil]
    rcases g4 with g | g | ⟨g, _⟩
    · rw [g, List.append_nil] at this
      exact this
    · exact this.trans (RAdv.stopNow g2 g fun h => hF (List.append_eq_nil_iff.mp h).2)
    · exact absurd hpbnil g

theorem write_data_err {st : Stream} {rs : RunState} {data : Bytes} {snk k : Sink} {e : Err}
    (hD : DataInv st rs) (hdne : data ≠ []) (h : st.write data snk = (k, .error e)) :
    ∀ G, IsErr (sfin st rs (data ++ G) snk) := by
  intro G
  rcases (Stream.write_data_err_iff hD.state).mp h with h1 | ⟨rs1, k1, h1, h3⟩
  · obtain ⟨ht, h5⟩ := Stream.tmpRun_err_inv h1
    have := readData_err hD.inv h5 (data ++ G)
    rw [hD.excl.resolve_left ht, List.nil_append] at this
    unfold sfin
    rw [hD.excl.resolve_left ht, List.append_nil]
    exact this
  · obtain ⟨hI1, _, hA1⟩ := tmpRun_ok hD h1
    refine (hA1 (data ++ G) fun h => hdne (List.append_eq_nil_iff.mp h).1).veq.isErr ?_
    have := readData_err hI1 h3 G
    rwa [List.append_assoc] at this

/-! ## the `feed` loop in Data state -/

/-- The stream in Data state has advanced from `(st, rs)` at sink `snk`, with `R` still to come,
to `(st', rs')` at `k` with `R'` to come (the logical remaining input is `tmp ++ partialBuf ++ R`) -/
abbrev Adv (st : Stream) (rs : RunState) (snk : Sink) (R : Bytes)
    (st' : Stream) (rs' : RunState) (k : Sink) (R' : Bytes) : Prop :=
  RAdv rs snk (st.tmp ++ rs.decoder.partialBuf ++ R) rs' k (st'.tmp ++ rs'.decoder.partialBuf ++ R')

theorem write_adv {st st' : Stream} {rs : RunState} {data : Bytes} {snk k : Sink} {n : Nat}
    (hD : DataInv st rs) (hdne : data ≠ []) (h : st.write data snk = (k, .ok (st', n))) :
    ∃ rs', DataInv st' rs' ∧ st'.tmp = [] ∧ st'.options = st.options ∧ n ≤ data.length ∧
      (n = 0 → StopNow rs'.decoder rs'.output) ∧
      ∀ G, Adv st rs snk (data ++ G) st' rs' k (data.drop n ++ G) := by
  obtain ⟨rs1, k1, rs2, rd2, h1, h3, rfl, rfl⟩ := (Stream.write_data_ok_iff hD.state).mp h
  obtain ⟨hI1, hpb1, hA1⟩ := tmpRun_ok hD h1
  obtain ⟨_, g2, g3, g4, g5⟩ := readData_ok hI1 h3
  have hle := g3.length_le
  refine ⟨rs2, ⟨rfl, g2, .inl rfl, g5⟩, rfl, rfl, Nat.sub_le _ _, ?_, fun G => ?_⟩
  · -- nothing of `data` accepted: the size is reached, before or after the call
    intro hn
    have hpos : 0 < data.length := List.length_pos_iff.mpr hdne
    rcases g4 with g | g | ⟨_, g'⟩
    · rw [g] at hn; simp at hn; exact absurd hn hdne
    · exact g
    · rcases hpb1 with hp | hp
      · omega
      · obtain ⟨m, hm1, hm2⟩ := hp
        rw [Stream.readData_size_reached rs1 _ k1 m hm1 hm2] at h3
        simp only [Prod.mk.injEq, Except.ok.injEq] at h3
        rw [← h3.2.1]
        exact ⟨m, hm1, hm2⟩
  · have hne : data ++ G ≠ [] := fun h => hdne (List.append_eq_nil_iff.mp h).1
    have hdrop : data.drop (data.length - rd2.rem.length) = rd2.rem :=
      (List.suffix_iff_eq_drop.mp g3).symm
    have h2 := readData_adv hI1 h3 G hne
    rw [List.append_assoc] at h2
    show RAdv _ _ _ rs2 k ([] ++ rs2.decoder.partialBuf ++ (data.drop (data.length - rd2.rem.length) ++ G))
    rw [List.nil_append, hdrop, ← List.append_assoc rs2.decoder.partialBuf]
    exact (hA1 (data ++ G) hne).trans h2

/-- what the result of feeding `data` (a `feed`, or a whole list of chunks) in Data state means -/
def FeedPost {α : Type} (st : Stream) (rs : RunState) (data : Bytes) (snk : Sink)
    (res : Sink × Stream × Except Err α) : Prop :=
  match res with
  | (_, _, Except.error _) => ∀ G, IsErr (sfin st rs (data ++ G) snk)
  | (k, st', Except.ok _) =>
    ∃ rs', DataInv st' rs' ∧ st'.options = st.options ∧ st'.tmp.length ≤ st.tmp.length ∧
      ∀ G, Adv st rs snk (data ++ G) st' rs' k G

theorem feed_data : ∀ (f : Nat) (st : Stream) (rs : RunState) (data : Bytes) (acc : Nat)
    (snk : Sink), DataInv st rs → data.length < f →
    FeedPost st rs data snk (Stream.feed f st data acc snk) := by
  intro f
  induction f with
  | zero => intro st rs data acc snk _ h; omega
  | succ f ih =>
    intro st rs data acc snk hD hlen
    rw [Stream.feed]
    by_cases hemp : data.isEmpty = true
    · rw [if_pos hemp]
      obtain rfl := List.isEmpty_iff.mp hemp
      exact ⟨rs, hD, rfl, Nat.le_refl _, fun G => RAdv.refl⟩
    · rw [if_neg hemp]
      have hdne : data ≠ [] := fun h => hemp (by rw [h]; rfl)
      rcases hw : st.writeS data snk with ⟨k1, st1, e | n⟩
      · exact write_data_err hD hdne (Stream.writeS_err_iff.mp hw).1
      · obtain ⟨rs1, hD1, htmp1, hopt1, hnle, hn0, hA⟩ := write_adv hD hdne (Stream.writeS_ok_iff.mp hw)
        have ht1 : st1.tmp.length ≤ st.tmp.length := by rw [htmp1]; exact Nat.zero_le _
        simp only
        by_cases hn : n = 0
        · rw [if_pos hn]
          subst hn
          exact ⟨rs1, hD1, hopt1, ht1, fun G => (hA G).trans
            (RAdv.stopNow hD1.inv (hn0 rfl) fun h =>
              hdne (List.append_eq_nil_iff.mp (List.append_eq_nil_iff.mp h).2).1)⟩
        · rw [if_neg hn]
          have hp := ih st1 rs1 (data.drop n) (acc + n) k1 hD1 (by rw [List.length_drop]; omega)
          generalize Stream.feed f st1 (data.drop n) (acc + n) k1 = res at hp
          rcases res with ⟨k2, st2, e | m⟩
          · exact fun G => (hA G).veq.isErr (hp G)
          · obtain ⟨rs2, hD2, hopt2, ht2, hA2⟩ := hp
            exact ⟨rs2, hD2, hopt2.trans hopt1, Nat.le_trans ht2 ht1, fun G => (hA G).trans (hA2 G)⟩

/-! ## a whole list of chunks from a Data state -/

theorem feedAll_data : ∀ (cs : List Bytes) (st : Stream) (rs : RunState) (snk : Sink),
    DataInv st rs → FeedPost st rs cs.flatten snk (feedAll cs st snk) := by
  intro cs
  induction cs with
  | nil => exact fun st rs snk hD => ⟨rs, hD, rfl, Nat.le_refl _, fun G => RAdv.refl⟩
  | cons c cs ih =>
    intro st rs snk hD
    rw [feedAll]
    have h1 := feed_data (c.length + 1) st rs c 0 snk hD (Nat.lt_succ_self _)
    generalize Stream.feed (c.length + 1) st c 0 snk = r at h1
    rcases r with ⟨k1, st1, e | m⟩
    · intro G
      rw [List.flatten_cons, List.append_assoc]
      exact h1 _
    · obtain ⟨rs1, hD1, ho1, ht1, hA1⟩ := h1
      have h2 := ih st1 rs1 k1 hD1
      simp only
      generalize feedAll cs st1 k1 = r2 at h2
      rcases r2 with ⟨k2, st2, e | u⟩
      · intro G
        rw [List.flatten_cons, List.append_assoc]
        exact (hA1 _).veq.isErr (h2 G)
      · obtain ⟨rs2, hD2, ho2, ht2, hA2⟩ := h2
        refine ⟨rs2, hD2, ho2.trans ho1, Nat.le_trans ht2 ht1, fun G => ?_⟩
        rw [List.flatten_cons, List.append_assoc]
        exact (hA1 _).trans (hA2 G)

theorem data_run (cs : List Bytes) (st : Stream) (rs : RunState) (snk : Sink)
    (hD : DataInv st rs) (ho : st.options.allowIncomplete = false) :
    Veq (streamRunFrom st cs snk) (sfin st rs cs.flatten snk) := by
  have h := feedAll_data cs st rs snk hD
  unfold streamRunFrom
  generalize feedAll cs st snk = r at h
  rcases r with ⟨k, st', e | u⟩
  · have := h []
    rw [List.append_nil] at this
    exact .inl ⟨isErr_mk _ _, this⟩
  · obtain ⟨rs', hD', ho', _, hA⟩ := h
    have := (hA []).veq
    rw [List.append_nil] at this
    simp only
    rw [finish_data hD' (by rw [ho']; exact ho)]
    exact this.symm

def toUnit {α : Type} (r : Sink × Except Err α) : Sink × Except Err Unit :=
  (r.1, match r.2 with
    | .ok _ => .ok ()
    | .error e => .error e)

theorem toUnit_ok {α : Type} (k : Sink) (a : α) : toUnit (k, .ok a) = (k, .ok ()) := rfl
theorem toUnit_ok_iff {α : Type} {r : Sink × Except Err α} :
    (∃ a, (toUnit r).2 = .ok a) ↔ ∃ a, r.2 = .ok a := by
  rcases r with ⟨k, e | a⟩ <;> simp [toUnit]

theorem toUnit_err {α : Type} (k : Sink) (e : Err) :
    toUnit ((k, .error e) : Sink × Except Err α) = (k, .error e) := rfl

/-! ## the stages of `Stream::read_header` -/

def mkRun (opts : Options) (params : LzmaParams) (decoder : DState) (rc : RC) : RunState :=
  { decoder := decoder, range := rc.range, code := rc.code,
    output := Circ.fromStream params.dictSize (opts.memlimit.getD USIZE_MAX) }

theorem sreadHeader_some_iff {rd rd2 : Rd} {opts : Options} {rs : RunState} :
    Stream.readHeader rd opts = .ok (some rs, rd2) ↔
      ∃ params rd1 decoder rc, Lzma.readHeader rd opts = .ok (params, rd1) ∧
        DState.new params.props params.unpackedSize = .ok decoder ∧
        RC.new rd1 = .ok (rc, rd2) ∧ rs = mkRun opts params decoder rc := by
  unfold Stream.readHeader
  rcases Lzma.readHeader rd opts with e | ⟨params, rd1⟩
  · cases e <;> simp
  · rcases h2 : DState.new params.props params.unpackedSize with e | decoder
    · simp [h2]
    · rcases h3 : RC.new rd1 with e | ⟨rc, rd2'⟩
      · simp [h2, h3]
      · simp only [h2, h3, Except.ok.injEq, Prod.mk.injEq, Option.some.injEq]
        constructor
        · rintro ⟨rfl, rfl⟩
          exact ⟨params, rd1, decoder, rc, ⟨rfl, rfl⟩, h2, h3, rfl⟩
        · rintro ⟨_, _, d, c, ⟨rfl, rfl⟩, hd, hc, rfl⟩
          rw [h2] at hd
          rw [h3] at hc
          cases hd
          cases hc
          exact ⟨rfl, rfl⟩

/-- the three outcomes of `Stream::read_header` in terms of `LzmaParams::read_header`: a run state;
"need more data" only if `read_header` is short of bytes or `RangeDecoder::new` fails; an error only
if `read_header` fails with that error, which is not `HeaderTooShort`, or `DecoderState::new` rejects
the properties -/
theorem sreadHeader_cases (rd : Rd) (opts : Options) :
    (∃ rs rd2, Stream.readHeader rd opts = .ok (some rs, rd2)) ∨
    (∃ rd2, Stream.readHeader rd opts = .ok (none, rd2) ∧
      (Lzma.readHeader rd opts = .error .headerTooShort ∨
        ∃ params rd1 e, Lzma.readHeader rd opts = .ok (params, rd1) ∧ RC.new rd1 = .error e)) ∨
    (∃ e, Stream.readHeader rd opts = .error e ∧
      ((Lzma.readHeader rd opts = .error e ∧ e ≠ .headerTooShort) ∨
        ∃ params rd1, Lzma.readHeader rd opts = .ok (params, rd1) ∧
          DState.new params.props params.unpackedSize = .error e)) := by
  unfold Stream.readHeader
  cases h1 : Lzma.readHeader rd opts with
  | error e =>
    cases e
    case headerTooShort => exact .inr (.inl ⟨rd, rfl, .inl rfl⟩)
    all_goals exact .inr (.inr ⟨_, rfl, .inl ⟨rfl, by simp⟩⟩)
  | ok x =>
    obtain ⟨params, rd1⟩ := x
    simp only
    cases h2 : DState.new params.props params.unpackedSize with
    | error e => exact .inr (.inr ⟨e, rfl, .inr ⟨params, rd1, rfl, h2⟩⟩)
    | ok decoder =>
      simp only
      cases h3 : RC.new rd1 with
      | error e => exact .inr (.inl ⟨rd1, rfl, .inr ⟨params, rd1, e, rfl, h3⟩⟩)
      | ok y => obtain ⟨rc, rd2'⟩ := y; exact .inl ⟨_, _, rfl⟩

theorem readHeader_dict {rd rd1 : Rd} {opts : Options} {params : LzmaParams}
    (h : Lzma.readHeader rd opts = .ok (params, rd1)) :
    0 < params.dictSize ∧ params.dictSize < 4294967296 := by
  obtain ⟨b, rest, -, -, -, rfl, -⟩ := readHeader_ok_iff.mp h
  have h1 := leVal_lt (rest.take 4)
  have h3 : 256 ^ (rest.take 4).length ≤ 256 ^ 4 :=
    Nat.pow_le_pow_right (by omega) (by simp [List.length_take]; omega)
  have : (256 : Nat) ^ 4 = 4294967296 := by decide
  simp only [hdrParams]
  omega

theorem new_decoder {params : LzmaParams} {ml : Option Nat} {decoder : DState}
    (hd : 0 < params.dictSize) (h2 : DState.new params.props params.unpackedSize = .ok decoder) :
    LzmaDecoder.new params ml = .ok { params := params, memlimit := ml.getD USIZE_MAX, state := decoder } := by
  obtain ⟨rfl, hv⟩ := new_eq h2
  exact LzmaDecoder.new_ok_iff.mpr ⟨by omega, hv, rfl⟩

theorem new_decoder_inv {params : LzmaParams} {ml : Option Nat} {dec : LzmaDecoder}
    (h : LzmaDecoder.new params ml = .ok dec) :
    DState.new params.props params.unpackedSize = .ok dec.state := by
  obtain ⟨-, hv, rfl⟩ := LzmaDecoder.new_ok_iff.mp h
  exact new_of_valid _ hv

/-! ## the one-shot decoder in terms of the loop -/

theorem oneshot_ok_header {rd rdF : Rd} {opts : Options} {snk k : Sink}
    (h : lzmaDecompress rd opts snk = (k, .ok rdF)) :
    ∃ rs rd2, Stream.readHeader rd opts = .ok (some rs, rd2) := by
  obtain ⟨params, rd1, dec, rc, rd2, s', w', rc', snk1, hh, hd, hrc, _, _⟩ := lzmaDecompress_ok_iff.mp h
  exact ⟨_, rd2, sreadHeader_some_iff.mpr ⟨params, rd1, dec.state, rc, hh, new_decoder_inv hd, hrc, rfl⟩⟩

/-- what `lzma_decompress_with_options` does after the `.finish` loop `m` (kept opaque: it carries the
fuel): size check, `output.finish()`, and the reader is returned -/
theorem oneshot_tail (m : M (DState × Circ × RC × Rd)) (d : LzmaDecoder) (snk : Sink) :
    toUnit (((do
      let __x ← (do
          let (s, w, rc, rd) ← m
          match s.unpackedSize with
          | some n =>
            if Mode.finish = Mode.finish ∧ n ≠ LzBuf.len w then throwM .lzma else pure (s, w, rc, rd)
          | none => pure (s, w, rc, rd) : M (DState × Circ × RC × Rd))
      __x.2.fst.finish
      pure ({ d with state := __x.fst }, __x.2.2.snd) : M (LzmaDecoder × Rd)) >>=
        fun __x => pure __x.snd) snk) = finK (m snk) := by
  simp only [bind_run]
  rcases m snk with ⟨k, e | ⟨s1, w1, rc1, rd1⟩⟩
  · rfl
  · simp only [finK_ok, postOf]
    have hl : LzBuf.len w1 = w1.len := rfl
    cases s1.unpackedSize with
    | none =>
      simp only [pure_run]
      rcases w1.finish k with ⟨k2, e | u⟩ <;> rfl
    | some n =>
      simp only [true_and, hl]
      by_cases hm : n = w1.len
      · simp only [hm, ne_eq, not_true_eq_false, if_false, pure_run]
        rcases w1.finish k with ⟨k2, e | u⟩ <;> rfl
      · simp [hm, toUnit]

/-- When `read_header` reaches the Data state on the input, the one-shot
decoder is the `.finish` loop on the rest followed by the size check and `finish`. -/
theorem oneshot_eq {rd rd2 : Rd} {opts : Options} {rs : RunState} (snk : Sink)
    (h : Stream.readHeader rd opts = .ok (some rs, rd2)) :
    toUnit (lzmaDecompress rd opts snk) =
      finK (processLoop .finish (loopFuel rs.decoder rd2) rs.decoder rs.output
        ⟨rs.range, rs.code⟩ rd2 snk) := by
  obtain ⟨params, rd1, decoder, rc, h1, h2, h3, rfl⟩ := sreadHeader_some_iff.mp h
  have hnew := new_decoder (ml := opts.memlimit) (readHeader_dict h1).1 h2
  have hb : ∀ {α β : Type} (a : α) (f : α → M β), (liftE (.ok a) : M α) >>= f = f a := fun _ _ => rfl
  unfold lzmaDecompress LzmaDecoder.decompress
  simp only [h1, hnew, h3, hb]
  exact oneshot_tail (processLoop .finish _ _ _ _ _) ⟨params, opts.memlimit.getD USIZE_MAX, decoder⟩ snk

theorem oneshot_err_of_not_some {rd : Rd} {opts : Options} (snk : Sink)
    (h : ¬ ∃ rs rd2, Stream.readHeader rd opts = .ok (some rs, rd2)) :
    IsErr (toUnit (lzmaDecompress rd opts snk)) := by
  rcases hres : lzmaDecompress rd opts snk with ⟨k, r⟩
  cases r with
  | ok rdF => exact absurd (oneshot_ok_header hres) h
  | error e => exact isErr_mk _ _

/-! ## `read_header` on prefixes -/

/-- total number of bytes the Header state needs: header plus the 5 range-coder bytes -/
def NN (opts : Options) : Nat := hdrLen opts.unpackedSize + 5

theorem NN_bounds (opts : Options) : 10 ≤ NN opts ∧ NN opts ≤ 18 := by
  unfold NN hdrLen
  cases opts.unpackedSize <;> simp

theorem rcnew_eq (a : Bytes) :
    RC.new ⟨a, false⟩ = if 5 ≤ a.length then
        .ok ({ range := 0xFFFFFFFF, code := beVal ((a.drop 1).take 4) }, ⟨a.drop 5, false⟩)
      else .error .eof := by
  cases a with
  | nil => simp [RC.new, Rd.readU8, Rd.endErr, bind, Except.bind]
  | cons b0 r =>
    by_cases h4 : 4 ≤ r.length
    · have : 5 ≤ (b0 :: r).length := by simp; omega
      simp [RC.new, Rd.readU8, Rd.readU32BE, Rd.readExact, bind, Except.bind, pure, Except.pure, h4]
    · have : ¬ 5 ≤ (b0 :: r).length := by simp; omega
      simp [RC.new, Rd.readU8, Rd.readU32BE, Rd.readExact, Rd.endErr, bind, Except.bind, h4]

theorem rcnew_app {a : Bytes} {rc : RC} {rd2 : Rd} (h : RC.new ⟨a, false⟩ = .ok (rc, rd2)) :
    5 ≤ a.length ∧ rd2 = ⟨a.drop 5, false⟩ ∧
      ∀ y, RC.new ⟨a ++ y, false⟩ = .ok (rc, ⟨a.drop 5 ++ y, false⟩) := by
  rw [rcnew_eq] at h
  by_cases h5 : 5 ≤ a.length
  · rw [if_pos h5] at h
    simp only [Except.ok.injEq, Prod.mk.injEq] at h
    obtain ⟨rfl, rfl⟩ := h
    refine ⟨h5, rfl, fun y => ?_⟩
    rw [rcnew_eq, if_pos (by rw [List.length_append]; omega)]
    have h1 : ((a ++ y).drop 1).take 4 = (a.drop 1).take 4 := by
      rw [List.drop_append_of_le_length (by omega), List.take_append_of_le_length (by
        rw [List.length_drop]; omega)]
    rw [h1, List.drop_append_of_le_length h5]
  · rw [if_neg h5] at h; cases h

theorem rcnew_err_len {a : Bytes} {e : Err} (h : RC.new ⟨a, false⟩ = .error e) : a.length < 5 := by
  rw [rcnew_eq] at h
  by_cases h5 : 5 ≤ a.length
  · rw [if_pos h5] at h; cases h
  · omega

theorem hdrParams_app (u : UnpackedSizeOpt) (b : UInt8) (rest y : Bytes)
    (h : hdrLen u ≤ rest.length + 1) : hdrParams u b (rest ++ y) = hdrParams u b rest := by
  unfold hdrParams
  cases u with
  | useProvided x =>
    simp only [hdrLen] at h
    rw [List.take_append_of_le_length (by omega)]
    rfl
  | readFromHeader =>
    simp only [hdrLen] at h
    rw [List.take_append_of_le_length (by omega), List.drop_append_of_le_length (by omega),
      List.take_append_of_le_length (by rw [List.length_drop]; omega)]
  | readHeaderButUseProvided x =>
    simp only [hdrLen] at h
    rw [List.take_append_of_le_length (by omega)]
    rfl

theorem hdrLen_pos (u : UnpackedSizeOpt) : 5 ≤ hdrLen u := by
  unfold hdrLen; cases u <;> simp

theorem lreadHeader_app {x : Bytes} {opts : Options} {params : LzmaParams} {rd1 : Rd}
    (h : Lzma.readHeader ⟨x, false⟩ opts = .ok (params, rd1)) :
    hdrLen opts.unpackedSize ≤ x.length ∧ rd1 = ⟨x.drop (hdrLen opts.unpackedSize), false⟩ ∧
      ∀ y, Lzma.readHeader ⟨x ++ y, false⟩ opts =
        .ok (params, ⟨x.drop (hdrLen opts.unpackedSize) ++ y, false⟩) := by
  obtain ⟨b, rest, hx, hb, hl, rfl, rfl⟩ := readHeader_ok_iff.mp h
  dsimp only at hx hl
  subst hx
  refine ⟨hl, rfl, fun y => readHeader_ok_iff.mpr ⟨b, rest ++ y, rfl, hb, ?_, ?_, ?_⟩⟩
  · simp only [List.length_append]; omega
  · exact (hdrParams_app _ _ _ _ (by simpa using hl)).symm
  · simp only [List.drop_append_of_le_length hl]

theorem lreadHeader_err {x : Bytes} {opts : Options} {e : Err}
    (h : Lzma.readHeader ⟨x, false⟩ opts = .error e) :
    (e = .headerTooShort ∧ x.length < hdrLen opts.unpackedSize) ∨
    (e = .lzma ∧ ∀ y, Lzma.readHeader ⟨x ++ y, false⟩ opts = .error .lzma) := by
  rcases readHeader_error_iff.mp h with ⟨rfl, hx | ⟨_, _, _, _, hl⟩⟩ | ⟨rfl, b, rest, hx, hb⟩
  · have := hdrLen_pos opts.unpackedSize
    dsimp only at hx
    exact .inl ⟨rfl, by rw [hx, List.length_nil]; omega⟩
  · exact .inl ⟨rfl, hl⟩
  · dsimp only at hx
    exact .inr ⟨rfl, fun y => readHeader_error_iff.mpr (.inr ⟨rfl, b, rest ++ y, by rw [hx]; rfl, hb⟩)⟩

theorem srh_some {x : Bytes} {opts : Options} {rs : RunState} {rd2 : Rd}
    (h : Stream.readHeader ⟨x, false⟩ opts = .ok (some rs, rd2)) :
    NN opts ≤ x.length ∧ rd2 = ⟨x.drop (NN opts), false⟩ ∧
      ∀ y, Stream.readHeader ⟨x ++ y, false⟩ opts = .ok (some rs, ⟨x.drop (NN opts) ++ y, false⟩) := by
  obtain ⟨params, rd1, decoder, rc, h1, h2, h3, rfl⟩ := sreadHeader_some_iff.mp h
  obtain ⟨hl1, rfl, ha1⟩ := lreadHeader_app h1
  obtain ⟨hl2, rfl, ha2⟩ := rcnew_app h3
  rw [List.length_drop] at hl2
  have hdd : (x.drop (hdrLen opts.unpackedSize)).drop 5 = x.drop (NN opts) := by
    rw [List.drop_drop]; rfl
  refine ⟨by unfold NN; omega, by rw [hdd], fun y => ?_⟩
  refine sreadHeader_some_iff.mpr ⟨params, _, decoder, rc, ha1 y, h2, ?_, rfl⟩
  rw [ha2 y, hdd]

theorem srh_none {x : Bytes} {opts : Options} {r : Rd}
    (h : Stream.readHeader ⟨x, false⟩ opts = .ok (none, r)) : x.length < NN opts := by
  rcases sreadHeader_cases ⟨x, false⟩ opts with ⟨rs, rd2, h'⟩ | ⟨rd2, _, h'⟩ | ⟨e, h', _⟩
  · rw [h] at h'; simp at h'
  · rcases h' with he | ⟨params, rd1, e, h1, h3⟩
    · rcases lreadHeader_err he with ⟨_, hl⟩ | ⟨h0, _⟩
      · unfold NN; omega
      · cases h0
    · obtain ⟨hl1, rfl, _⟩ := lreadHeader_app h1
      have := rcnew_err_len h3
      rw [List.length_drop] at this
      unfold NN; omega
  · rw [h] at h'; simp at h'

theorem srh_err {x : Bytes} {opts : Options} {e : Err}
    (h : Stream.readHeader ⟨x, false⟩ opts = .error e) (y : Bytes) :
    ¬ ∃ rs rd2, Stream.readHeader ⟨x ++ y, false⟩ opts = .ok (some rs, rd2) := by
  rintro ⟨rs, rd2, hs⟩
  obtain ⟨params, rd1, decoder, rc, h1, h2, _, _⟩ := sreadHeader_some_iff.mp hs
  rcases sreadHeader_cases ⟨x, false⟩ opts with ⟨rs', rd2', h'⟩ | ⟨rd2', h', _⟩ | ⟨e', _, h'⟩
  · rw [h] at h'; simp at h'
  · rw [h] at h'; simp at h'
  · rcases h' with ⟨he, hne⟩ | ⟨params', rd1', h1', h2'⟩
    · rcases lreadHeader_err he with ⟨rfl, _⟩ | ⟨_, hy⟩
      · exact absurd rfl hne
      · rw [hy y] at h1; cases h1
    · obtain ⟨_, _, ha⟩ := lreadHeader_app h1'
      rw [ha y] at h1
      simp only [Except.ok.injEq, Prod.mk.injEq] at h1
      obtain ⟨rfl, _⟩ := h1
      rw [h2'] at h2; cases h2

theorem enter_data {z t : Bytes} {opts : Options} {rs : RunState}
    (h : Stream.readHeader ⟨z, false⟩ opts = .ok (some rs, ⟨t, false⟩)) :
    RInv rs ∧ rs.decoder.partialBuf = [] ∧
      ∀ y snk', Veq (toUnit (lzmaDecompress ⟨z ++ y, false⟩ opts snk')) (rfin rs (t ++ y) snk') := by
  obtain ⟨params, rd1, decoder, rc, h1, h2, h3, hrs⟩ := sreadHeader_some_iff.mp h
  have hsafe := Stream_readHeader_safe ⟨z, false⟩ opts
  rw [h] at hsafe
  obtain ⟨g1, g2, g3⟩ := hsafe rs rfl
  have hdict := (readHeader_dict h1).2
  have hpb : rs.decoder.partialBuf = [] := by rw [hrs]; exact (DState.new_ok h2).1
  have hI : RInv rs := ⟨g1, g3, by rw [hrs]; exact hdict, g2⟩
  refine ⟨hI, hpb, fun y snk' => ?_⟩
  obtain ⟨_, ht, happ⟩ := srh_some h
  simp only [Rd.mk.injEq, and_true] at ht
  have hv := Veq.of_eq (oneshot_eq snk' (happ y))
  rw [← ht] at hv
  have hI' : Inv rs.decoder rs.output ⟨rs.range, rs.code⟩ := hI
  rw [processLoop_eq_PL (t ++ y) snk' hI' (lmu_lt_loopFuel (t ++ y) hI'), ← fin_eq] at hv
  unfold rfin
  rw [clr_of_nil hpb]
  exact hv

/-- the Header-state invariant: everything received so far is staged in `tmp`
and `read_header` still says "need more data" on it -/
def HNone (opts : Options) (P : Bytes) : Prop := ∃ r, Stream.readHeader ⟨P, false⟩ opts = .ok (none, r)

theorem HNone_nil (opts : Options) : HNone opts [] := by
  refine ⟨⟨[], false⟩, ?_⟩
  unfold Stream.readHeader
  rw [readHeader_eq]

/-- One `write` in Header state: the three cases of `stream_header_equiv` below (which is this
lemma with the extra facts dropped); on entering the Data state the new `RunState` is the one `read_header` builds from the whole input, nothing is
staged in `partial_input_buf`, at most 8 bytes stay in `tmp`, and what is left of the
input is exactly what follows the `NN` header bytes. -/
theorem stream_header_equiv' {st : Stream} (hs : st.state = some .header)
    (hno : HNone st.options st.tmp) {data : Bytes} (hdne : data ≠ []) (snk : Sink) :
    (∃ e, st.write data snk = (snk, .error e) ∧
      ∀ G snk', IsErr (toUnit (lzmaDecompress ⟨st.tmp ++ data ++ G, false⟩ st.options snk'))) ∨
    (∃ st', st.write data snk = (snk, .ok (st', data.length)) ∧ st'.state = some .header ∧
      st'.tmp = st.tmp ++ data ∧ st'.options = st.options ∧ HNone st.options (st.tmp ++ data)) ∨
    (∃ st' n rs, st.write data snk = (snk, .ok (st', n)) ∧ 0 < n ∧ n ≤ data.length ∧
      DataInv st' rs ∧ st'.options = st.options ∧
      (∀ G snk', Veq (toUnit (lzmaDecompress ⟨st.tmp ++ data ++ G, false⟩ st.options snk'))
        (sfin st' rs (data.drop n ++ G) snk')) ∧
      rs.decoder.partialBuf = [] ∧ st'.tmp.length ≤ 8 ∧
      ∀ G, Stream.readHeader ⟨st.tmp ++ data ++ G, false⟩ st.options =
        .ok (some rs, ⟨st'.tmp ++ data.drop n ++ G, false⟩)) := by
  obtain ⟨r0, hr0⟩ := hno
  have hPlen := srh_none hr0
  have hNN := NN_bounds st.options
  have hdpos : 0 < data.length := List.length_pos_iff.mpr hdne
  unfold Stream.write
  rw [hs]
  simp only
  by_cases ht : st.tmp.length > 0
  · simp only [ht, ↓reduceIte, MAX_TMP_LEN]
    generalize hk : min data.length (18 - st.tmp.length) = k
    have hkpos : 0 < k := by omega
    have hkle : k ≤ data.length := by omega
    have hcat : ∀ G, st.tmp ++ data ++ G = (st.tmp ++ data.take k) ++ (data.drop k ++ G) := by
      intro G
      rw [List.append_assoc, List.append_assoc, ← List.append_assoc (data.take k),
        List.take_append_drop]
    rcases sreadHeader_cases ⟨st.tmp ++ data.take k, false⟩ st.options with
      ⟨rs, rd2, h⟩ | ⟨rd2, h, _⟩ | ⟨e, h, _⟩
    · right; right
      obtain ⟨hlen, rfl, happ⟩ := srh_some h
      obtain ⟨e1, e2, e3⟩ := enter_data h
      refine ⟨{ st with tmp := (st.tmp ++ data.take k).drop (NN st.options), state := some (.data rs) },
        k, rs, ?_, hkpos, hkle, ⟨rfl, e1, .inr e2, .inl (by rw [e2]; decide)⟩, rfl, ?_, e2, ?_, ?_⟩
      · simp only [Rd.ofBytes, h]
      · intro G snk'
        rw [hcat G]
        have := e3 (data.drop k ++ G) snk'
        unfold sfin
        rw [e2, List.append_nil]
        exact this
      · show ((st.tmp ++ data.take k).drop (NN st.options)).length ≤ 8
        rw [List.length_drop, List.length_append, List.length_take]
        omega
      · intro G
        rw [hcat G]
        have := happ (data.drop k ++ G)
        rw [this, List.append_assoc]
    · right; left
      have hl := srh_none h
      rw [List.length_append, List.length_take] at hl
      have hkeq : k = data.length := by omega
      subst hkeq
      rw [List.take_length] at h
      refine ⟨{ st with tmp := st.tmp ++ data, state := some .header }, ?_, rfl, rfl, rfl, ⟨rd2, h⟩⟩
      simp only [Rd.ofBytes, List.take_length, h]
    · left
      refine ⟨e, ?_, fun G snk' => ?_⟩
      · simp only [Rd.ofBytes, h]
      · rw [hcat G]
        exact oneshot_err_of_not_some snk' (srh_err h _)
  · simp only [ht, ↓reduceIte, MAX_TMP_LEN]
    have htmp : st.tmp = [] := List.eq_nil_of_length_eq_zero (by omega)
    rcases sreadHeader_cases ⟨data, false⟩ st.options with ⟨rs, rd2, h⟩ | ⟨rd2, h, _⟩ | ⟨e, h, _⟩
    · right; right
      obtain ⟨hlen, rfl, happ⟩ := srh_some h
      obtain ⟨e1, e2, e3⟩ := enter_data h
      have hn : data.length - (data.drop (NN st.options)).length = NN st.options := by
        rw [List.length_drop]; omega
      refine ⟨{ st with state := some (.data rs) }, NN st.options, rs, ?_, by omega, hlen,
        ⟨rfl, e1, .inr e2, .inl (by rw [e2]; decide)⟩, rfl, ?_, e2, ?_, ?_⟩
      · simp only [Rd.ofBytes, h, hn]
      · intro G snk'
        have := e3 G snk'
        unfold sfin
        show Veq _ (rfin rs (st.tmp ++ rs.decoder.partialBuf ++ (data.drop (NN st.options) ++ G)) snk')
        rw [htmp, e2, List.nil_append, List.nil_append]
        exact this
      · show st.tmp.length ≤ 8
        rw [htmp]; decide
      · intro G
        show Stream.readHeader ⟨st.tmp ++ data ++ G, false⟩ st.options =
          .ok (some rs, ⟨st.tmp ++ data.drop (NN st.options) ++ G, false⟩)
        rw [htmp, List.nil_append, List.nil_append]
        exact happ G
    · right; left
      have hl := srh_none h
      have hmin : min data.length 18 = data.length := by omega
      refine ⟨{ st with tmp := data, state := some .header }, ?_, rfl, by rw [htmp]; rfl, rfl,
        by rw [htmp]; exact ⟨rd2, h⟩⟩
      simp only [Rd.ofBytes, h, hmin, List.take_length]
    · left
      refine ⟨e, ?_, fun G snk' => ?_⟩
      · simp only [Rd.ofBytes, h]
      · rw [htmp, List.nil_append]
        exact oneshot_err_of_not_some snk' (srh_err h _)

/-- One `write` in Header state: either the header is fatally wrong
(then the one-shot decoder fails on every continuation), or everything was staged
and more data is needed, or the stream entered the Data state having accepted `n`
bytes, and the one-shot decoder on the whole input is the one-shot tail of the new
state on the rest. -/
theorem stream_header_equiv {st : Stream} (hs : st.state = some .header)
    (_hopt : st.options.allowIncomplete = false) (hno : HNone st.options st.tmp)
    {data : Bytes} (hdne : data ≠ []) (snk : Sink) :
    (∃ e, st.write data snk = (snk, .error e) ∧
      ∀ G snk', IsErr (toUnit (lzmaDecompress ⟨st.tmp ++ data ++ G, false⟩ st.options snk'))) ∨
    (∃ st', st.write data snk = (snk, .ok (st', data.length)) ∧ st'.state = some .header ∧
      st'.tmp = st.tmp ++ data ∧ st'.options = st.options ∧ HNone st.options (st.tmp ++ data)) ∨
    (∃ st' n rs, st.write data snk = (snk, .ok (st', n)) ∧ 0 < n ∧ n ≤ data.length ∧
      DataInv st' rs ∧ st'.options = st.options ∧
      ∀ G snk', Veq (toUnit (lzmaDecompress ⟨st.tmp ++ data ++ G, false⟩ st.options snk'))
        (sfin st' rs (data.drop n ++ G) snk')) := by
  rcases stream_header_equiv' hs hno hdne snk with h | h | ⟨st', n, rs, h1, h2, h3, h4, h5, h6, _⟩
  · exact .inl h
  · exact .inr (.inl h)
  · exact .inr (.inr ⟨st', n, rs, h1, h2, h3, h4, h5, h6⟩)

/-! ## the `feed` loop in Header state -/

def OneShotOk (opts : Options) (z : Bytes) (snk : Sink) : Prop :=
  ¬ IsErr (toUnit (lzmaDecompress ⟨z, false⟩ opts snk))

/-- … from the whole input `x` at sink `snk` (Header state) to the Data state `(st', rs')` at `k`
with `R'` to come: the verdict is the one-shot decoder's, the trace starts at the configuration
after the header -/
abbrev HAdv (opts : Options) (x : Bytes) (snk : Sink)
    (st' : Stream) (rs' : RunState) (k : Sink) (R' : Bytes) : Prop :=
  AdvFrom (toUnit (lzmaDecompress ⟨x, false⟩ opts snk))
    (fun c₀ => ∃ rs0 t0, Stream.readHeader ⟨x, false⟩ opts = .ok (some rs0, ⟨t0, false⟩) ∧
      c₀ = rcfg rs0 t0 snk)
    rs' k (st'.tmp ++ rs'.decoder.partialBuf ++ R')

/-- what the result of feeding `data` (a `feed`, or a whole list of chunks) means for a stream in
Header state with everything so far staged in `tmp` -/
def FeedHPost {α : Type} (st : Stream) (data : Bytes) (snk : Sink)
    (res : Sink × Stream × Except Err α) : Prop :=
  match res with
  | (_, _, Except.error _) =>
    ∀ G, IsErr (toUnit (lzmaDecompress ⟨st.tmp ++ data ++ G, false⟩ st.options snk))
  | (k, st', Except.ok _) =>
    st'.options = st.options ∧
    ((k = snk ∧ st'.state = some .header ∧ st'.tmp = st.tmp ++ data ∧ HNone st.options (st.tmp ++ data)) ∨
     (∃ rs', DataInv st' rs' ∧ st'.tmp.length ≤ 8 ∧
        ∀ G, HAdv st.options (st.tmp ++ data ++ G) snk st' rs' k G))

theorem feed_header (f : Nat) (st : Stream) (data : Bytes) (acc : Nat) (snk : Sink)
    (hs : st.state = some .header) (hno : HNone st.options st.tmp) (hlen : data.length < f) :
    FeedHPost st data snk (Stream.feed f st data acc snk) := by
  cases f with
  | zero => omega
  | succ f =>
    rw [Stream.feed]
    by_cases hemp : data.isEmpty = true
    · rw [if_pos hemp]
      obtain rfl := List.isEmpty_iff.mp hemp
      exact ⟨rfl, .inl ⟨rfl, hs, by rw [List.append_nil], by rw [List.append_nil]; exact hno⟩⟩
    · rw [if_neg hemp]
      have hdne : data ≠ [] := fun h => hemp (by rw [h]; rfl)
      have hdpos : 0 < data.length := List.length_pos_iff.mpr hdne
      rcases stream_header_equiv' hs hno hdne snk with
        ⟨e, hw, herr⟩ | ⟨st', hw, h1, h2, h3, h4⟩ | ⟨st', n, rs, hw, hn0, hnle, hD, ho, hV, hpb, htl, hrh⟩
      · rw [Stream.writeS_err_iff.mpr ⟨hw, rfl⟩]
        exact fun G => herr G snk
      · rw [Stream.writeS_ok_iff.mpr hw]
        simp only
        rw [if_neg (by omega)]
        cases f with
        | zero => omega
        | succ f =>
          rw [Stream.feed, List.drop_length]
          exact ⟨h3, .inl ⟨rfl, h1, h2, h4⟩⟩
      · rw [Stream.writeS_ok_iff.mpr hw]
        simp only
        rw [if_neg (by omega)]
        have h0 : ∀ G, HAdv st.options (st.tmp ++ data ++ G) snk st' rs snk (data.drop n ++ G) := by
          refine fun G => ⟨hV G snk, ?_⟩
          rintro _ _ ⟨rs0, t0, hx, rfl⟩
          have hrs := hrh G
          rw [hx] at hrs
          simp only [Except.ok.injEq, Prod.mk.injEq, Option.some.injEq, Rd.mk.injEq, and_true] at hrs
          obtain ⟨rfl, rfl⟩ := hrs
          refine ⟨0, _, .refl _, rfl, rfl, .inl ⟨rfl, rfl, .inl ?_⟩⟩
          show (⟨_, false⟩ : Rd) = _
          rw [hpb, List.append_nil, List.append_assoc]
        have hp := feed_data f st' rs (data.drop n) (acc + n) snk hD (by rw [List.length_drop]; omega)
        generalize Stream.feed f st' (data.drop n) (acc + n) snk = res at hp
        rcases res with ⟨k, st2, e | m⟩
        · exact fun G => (hV G snk).isErr (hp G)
        · obtain ⟨rs2, hD2, ho2, ht2, hA2⟩ := hp
          exact ⟨ho2.trans ho, .inr ⟨rs2, hD2, Nat.le_trans ht2 htl, fun G => (h0 G).trans (hA2 G)⟩⟩

/-! ## header phase + data phase for a whole chunk list -/

theorem feedAll_header : ∀ (cs : List Bytes) (st : Stream) (snk : Sink),
    st.state = some .header → HNone st.options st.tmp →
    FeedHPost st cs.flatten snk (feedAll cs st snk) := by
  intro cs
  induction cs with
  | nil =>
    intro st snk hs hno
    exact ⟨rfl, .inl ⟨rfl, hs, by simp, by simpa using hno⟩⟩
  | cons c cs ih =>
    intro st snk hs hno
    rw [feedAll]
    have h1 := feed_header (c.length + 1) st c 0 snk hs hno (Nat.lt_succ_self _)
    have hcat : ∀ G, st.tmp ++ (c :: cs).flatten ++ G = st.tmp ++ c ++ (cs.flatten ++ G) := by
      intro G; simp [List.append_assoc]
    generalize Stream.feed (c.length + 1) st c 0 snk = r at h1
    rcases r with ⟨k1, st1, e | m⟩
    · intro G
      rw [hcat]
      exact h1 _
    · obtain ⟨ho, ⟨rfl, hs1, ht1, hn1⟩ | ⟨rs1, hD1, htl1, hA1⟩⟩ := h1
      · have h2 := ih st1 k1 hs1 (by rw [ho, ht1]; exact hn1)
        simp only
        generalize feedAll cs st1 k1 = r2 at h2
        rcases r2 with ⟨k2, st2, e | u⟩
        · intro G
          have := h2 G
          rw [ho, ht1] at this
          rw [hcat, ← List.append_assoc]
          exact this
        · obtain ⟨ho2, h2⟩ := h2
          rw [ho, ht1] at h2
          refine ⟨ho2.trans ho, ?_⟩
          rw [List.flatten_cons, ← List.append_assoc]
          exact h2
      · have h2 := feedAll_data cs st1 rs1 k1 hD1
        simp only
        generalize feedAll cs st1 k1 = r2 at h2
        rcases r2 with ⟨k2, st2, e | u⟩
        · intro G
          rw [hcat]
          exact (hA1 _).veq.isErr (h2 G)
        · obtain ⟨rs2, hD2, ho2, ht2, hA2⟩ := h2
          refine ⟨ho2.trans ho, .inr ⟨rs2, hD2, Nat.le_trans ht2 htl1, fun G => ?_⟩⟩
          rw [hcat]
          exact (hA1 _).trans (hA2 G)

theorem finish_header_err {st : Stream} (hs : st.state = some .header) (ht : st.tmp ≠ []) (snk : Sink) :
    st.finish snk = (snk, .error .lzma) := by
  unfold Stream.finish
  rw [hs]
  have : st.tmp.length > 0 := List.length_pos_iff.mpr ht
  simp [this]

/-- C05 from any Header state with everything received so far staged in `tmp`; the statements of
`Props/C05.lean` are the case of a fresh stream. -/
theorem header_run (cs : List Bytes) (st : Stream) (snk : Sink) (hs : st.state = some .header)
    (hopt : st.options.allowIncomplete = false) (hno : HNone st.options st.tmp)
    (hne : st.tmp ++ cs.flatten ≠ []) :
    Veq (streamRunFrom st cs snk) (toUnit (lzmaDecompress ⟨st.tmp ++ cs.flatten, false⟩ st.options snk)) := by
  have h := feedAll_header cs st snk hs hno
  unfold streamRunFrom
  generalize feedAll cs st snk = r at h
  rcases r with ⟨k, st', e | u⟩
  · have := h []
    rw [List.append_nil] at this
    exact .inl ⟨isErr_mk _ _, this⟩
  · obtain ⟨ho, ⟨rfl, hs', ht', ⟨r, hr⟩⟩ | ⟨rs', hD', _, hA⟩⟩ := h
    · simp only
      rw [finish_header_err hs' (by rw [ht']; exact hne)]
      refine .inl ⟨isErr_mk _ _, oneshot_err_of_not_some _ ?_⟩
      rintro ⟨rs, rd2, h⟩
      rw [hr] at h
      simp at h
    · have := (hA []).veq
      rw [List.append_nil] at this
      simp only
      rw [finish_data hD' (by rw [ho]; exact hopt)]
      exact this.symm

end StreamEq
end Lzma
