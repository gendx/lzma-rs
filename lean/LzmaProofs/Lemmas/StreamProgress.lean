/-
  C15 (progress of the streaming decoder).

  While the one-shot decoder does not fail on the whole input, every state the
  streaming decoder reaches lies ON the one-shot trace (`FinishSteps` of
  `Lemmas/ProcessMode.lean`): its window and sink are those of the one-shot loop
  after some number `j` of symbols, and what it has not yet looked at is less than
  20 bytes (`MAX_REQUIRED_INPUT`), unless the unpacked size is reached.  That is the
  trace clause of `feedAll_header` (`Lemmas/StreamEquivMain.lean`); here: determinism
  of the trace, the delivered-plus-window history along it, and the assembly.
-/
import LzmaProofs.Lemmas.StreamEquivMain
import LzmaProofs.Lemmas.Window
import LzmaProofs.Lemmas.Sink
namespace Lzma
namespace StreamEq

open DState Safety

/-! ## determinism and monotonicity of the one-shot trace -/

theorem steps_split {c a b : Cfg Circ} {i j : Nat} (ha : FinishSteps c i a) (hb : FinishSteps c j b)
    (hji : j ≤ i) : FinishSteps b (i - j) a := by
  induction hb generalizing i with
  | refl _ => simpa using ha
  | @step c0 s1 w1 rc1 rd1 snk1 k c' hstop hfill hn _ ih =>
    cases ha with
    | refl _ => omega
    | @step _ s2 w2 rc2 rd2 snk2 k2 _ _ _ hn' ha' =>
      rw [hn] at hn'
      simp only [Prod.mk.injEq, Except.ok.injEq, true_and] at hn'
      obtain ⟨rfl, rfl, rfl, rfl, rfl⟩ := hn'
      have := ih ha' (by omega)
      rwa [show k2 + 1 - (k + 1) = k2 - k by omega]

theorem steps_first {c a : Cfg Circ} {m : Nat} (h : FinishSteps c (m + 1) a) : ∃ c1, FinishSteps c 1 c1 := by
  cases h with
  | step hstop hfill hn _ => exact ⟨_, .step hstop hfill hn (.refl _)⟩

/-- a configuration from which the loop cannot continue is the last one of every trace -/
theorem nostep_le {c₀ c a : Cfg Circ} {i j : Nat} (hc : NoStep c) (hj : FinishSteps c₀ j c)
    (hi : FinishSteps c₀ i a) : i ≤ j := by
  refine Classical.byContradiction fun hlt => ?_
  have h := steps_split hi hj (by omega)
  obtain ⟨m, hm⟩ : ∃ m, i - j = m + 1 := ⟨i - j - 1, by omega⟩
  rw [hm] at h
  obtain ⟨c1, h1⟩ := steps_first h
  exact hc c1 h1

theorem steps_rd {c c' : Cfg Circ} {j : Nat} (h : FinishSteps c j c') :
    c.rd.bad = false → c'.rd.bad = false ∧ c'.rd.rem <:+ c.rd.rem := by
  induction h with
  | refl _ => intro hb; exact ⟨hb, List.suffix_refl _⟩
  | @step c0 s1 w1 rc1 rd1 snk1 k c' hstop hfill hn _ ih =>
    intro hb
    obtain ⟨sym, probs, hrun, _⟩ := processNext_ok_iff.1 hn
    rcases hrd : c0.rd with ⟨a, bad⟩
    rw [hrd] at hb hrun
    simp only at hb
    subst hb
    obtain ⟨g1, g2, _⟩ := runDec_ok_app true _ _ _ _ _ _ _ _ hrun
    obtain ⟨i1, i2⟩ := ih g1
    exact ⟨i1, i2.trans g2⟩

/-! ## the delivered-plus-window history -/

theorem histGe_steps {base : Array UInt8} {H : Bytes} {c c' : Cfg Circ} {j : Nat} (h : FinishSteps c j c') :
    HistGe base H c.w c.snk → HistGe base H c'.w c'.snk := by
  induction h with
  | refl _ => exact id
  | step _ _ hn _ ih =>
    intro hi
    obtain ⟨sym, probs, -, ha⟩ := processNext_ok_iff.1 hn
    exact ih (applySym_inv histGe_lit histGe_lz ha hi)

theorem histGe_run {base : Array UInt8} {H : Bytes} {c c' : Cfg Circ} {k : Nat} {e : Exit}
    (h : FinishRun c k e c') : HistGe base H c.w c.snk → HistGe base H c'.w c'.snk :=
  FinishRun.inv (I := HistGe base H) histGe_lit histGe_lz h

/-- what `finish` would deliver: the sink's bytes followed by the unflushed part of the window -/
def histOut (w : Circ) (snk : Sink) : Array UInt8 := snk.out ++ w.buf.extract 0 w.cursor

theorem circ_finish_perfect {w : Circ} {snk : Sink} (hs : snk.script = []) (hc : w.cursor ≤ w.buf.size) :
    ∃ s', w.finish snk = (s', .ok ()) ∧ s'.out = histOut w snk := by
  have hs' : snk.Perfect := hs
  unfold Circ.finish histOut
  by_cases hc0 : w.cursor > 0
  · rw [if_pos hc0, if_pos hc]
    have hne : (w.buf.extract 0 w.cursor).isEmpty = false := by
      rw [Array.isEmpty_eq_false_iff]; intro h0
      have : (w.buf.extract 0 w.cursor).size = 0 := by rw [h0]; rfl
      rw [Array.size_extract] at this; omega
    rw [bind_run, writeAll_perfect hs' hne]
    simp only
    rw [flushSink_perfect (by exact hs)]
    exact ⟨_, rfl, rfl⟩
  · rw [if_neg hc0]
    simp only
    rw [flushSink_perfect hs']
    exact ⟨_, rfl, by simp [show w.cursor = 0 by omega]⟩

theorem finish_hist {base : Array UInt8} {w : Circ} {snk : Sink} {H : Bytes} (h : HistInv base w snk H) :
    ∃ s', w.finish snk = (s', .ok ()) ∧ s'.out = base ++ H.toArray ∧ histOut w snk = base ++ H.toArray := by
  obtain ⟨hci, hs, hout⟩ := h
  obtain ⟨s', hf, _, ho, _⟩ := Circ.finish_spec (s0 := { out := base }) hci hs hout
  obtain ⟨s'', hf', ho'⟩ := circ_finish_perfect (w := w) hs (by
    rw [hci.cursor_eq, hci.size_eq]
    have := Nat.mod_lt H.length hci.dict_pos
    have := Nat.mod_le H.length w.dictSize
    omega)
  rw [hf] at hf'
  simp only [Prod.mk.injEq, and_true] at hf'
  subst hf'
  exact ⟨s', hf, ho, ho' ▸ ho⟩

/-! ## assembly -/

/-- the one-shot configuration after the header and `RangeDecoder::new` (if they parse) -/
def startCfg (opts : Options) (x : Bytes) (snk : Sink) : Option (Cfg Circ) :=
  match Stream.readHeader ⟨x, false⟩ opts with
  | .ok (some rs, rd) => some ⟨rs.decoder, rs.output, ⟨rs.range, rs.code⟩, rd, snk⟩
  | _ => none

theorem startCfg_some {opts : Options} {x : Bytes} {snk : Sink} {c₀ : Cfg Circ}
    (h : startCfg opts x snk = some c₀) :
    ∃ rs, Stream.readHeader ⟨x, false⟩ opts = .ok (some rs, ⟨x.drop (NN opts), false⟩) ∧
      c₀ = rcfg rs (x.drop (NN opts)) snk ∧ rs.decoder.partialBuf = [] ∧
      c₀.w = Circ.fromStream c₀.w.dictSize c₀.w.memlimit ∧ 0 < c₀.w.dictSize := by
  unfold startCfg at h
  split at h
  · rename_i rs rd hr
    obtain ⟨_, hrd, _⟩ := srh_some hr
    subst hrd
    obtain ⟨_, hpb, _⟩ := enter_data hr
    simp only [Option.some.injEq] at h
    subst h
    obtain ⟨params, rd1, decoder, rc, h1, _, _, hrs⟩ := sreadHeader_some_iff.mp hr
    refine ⟨rs, hr, ?_, hpb, ?_, ?_⟩
    · unfold rcfg cfg
      rw [clr_of_nil hpb]
    · subst hrs; rfl
    · subst hrs; exact (readHeader_dict h1).1
  · cases h

theorem oneshot_run {opts : Options} {x : Bytes} {snk snkO : Sink} {rdO : Rd}
    (h : lzmaDecompress ⟨x, false⟩ opts snk = (snkO, .ok rdO)) :
    ∃ c₀ k e cF, startCfg opts x snk = some c₀ ∧ FinishRun c₀ k e cF ∧
      cF.w.finish cF.snk = (snkO, .ok ()) := by
  obtain ⟨params, rd1, dec, rc, rd2, s', w', rc', snk1, hh, hd, hrc, hpm, hfin⟩ := lzmaDecompress_ok_iff.mp h
  have hr : Stream.readHeader ⟨x, false⟩ opts = .ok (some (mkRun opts params dec.state rc), rd2) :=
    sreadHeader_some_iff.mpr ⟨params, rd1, dec.state, rc, hh, new_decoder_inv hd, hrc, rfl⟩
  have hpb := (LzmaDecoder.new_ok hd).2.2.1
  obtain ⟨k, e, hrun, _⟩ := processMode_finish_run
    (c := ⟨dec.state, Circ.fromStream params.dictSize (opts.memlimit.getD USIZE_MAX), rc, rd2, snk⟩) hpb hpm
  refine ⟨_, k, e, _, ?_, hrun, hfin⟩
  unfold startCfg
  rw [hr]
  rfl

/-- The stream lies on the one-shot trace.  After feeding any chunking of a prefix
`p` (containing the header and the five coder bytes) of an input `x = p ++ q` on which
the one-shot decoder does not fail, the stream is in Data state, its window and sink
are those of the one-shot configuration `c` reached after `j` full iterations, and
either the one-shot loop cannot continue from `c`, or `c` has read all of `p` except
fewer than 20 bytes. -/
theorem stream_on_trace {opts : Options} {x p q : Bytes} {cs : List Bytes} {snk0 : Sink}
    {c₀ : Cfg Circ} (hxq : x = p ++ q) (hcs : cs.flatten = p) (hlen : NN opts ≤ p.length)
    (hok : OneShotOk opts x snk0) (hc₀ : startCfg opts x snk0 = some c₀) :
    ∃ k st' rs' j c, feedAll cs (Stream.newWithOptions opts) snk0 = (k, st', .ok ()) ∧
      st'.options = opts ∧ st'.state = some (.data rs') ∧ FinishSteps c₀ j c ∧ c.w = rs'.output ∧ c.snk = k ∧
      c.rd.bad = false ∧ (NoStep c ∨ c.rd.rem.length + p.length < x.length + 20) := by
  obtain ⟨rs0, hr, hc, hpb0, _, _⟩ := startCfg_some hc₀
  subst hxq hcs
  have h := feedAll_header cs (Stream.newWithOptions opts) snk0 rfl (HNone_nil opts)
  generalize feedAll cs (Stream.newWithOptions opts) snk0 = r at h ⊢
  rcases r with ⟨k, st', e | u⟩
  · exact absurd (h q) hok
  obtain ⟨ho, ⟨_, _, _, r, hr'⟩ | ⟨rs', hD', htl, hA⟩⟩ := h
  · have := srh_none hr'
    rw [show (Stream.newWithOptions opts).tmp ++ cs.flatten = cs.flatten from rfl] at this
    exact absurd this (Nat.not_lt.mpr hlen)
  obtain ⟨j, c, t1, t2, t3, t4⟩ := (hA q).tr hok _ ⟨rs0, _, hr, rfl⟩
  rw [← hc] at t1
  have hbad0 : c₀.rd.bad = false := by rw [hc]; rfl
  obtain ⟨hbad, _⟩ := steps_rd t1 hbad0
  refine ⟨k, st', rs', j, c, rfl, ho, hD'.state, t1, t2, t3, hbad, ?_⟩
  have hstop : StopNow rs'.decoder rs'.output → c.s = clr rs'.decoder → c.rc = ⟨rs'.range, rs'.code⟩ → NoStep c := by
    intro hs h5 h6
    have : c = cfg rs'.decoder rs'.output ⟨rs'.range, rs'.code⟩ c.rd.rem k :=
      cfg_ext h5 t2 h6 (by rcases hcr : c.rd with ⟨r, b⟩; rw [hcr] at hbad; simp only at hbad; subst hbad; rfl) t3
    rw [this]
    exact nostep_stopNow _ _ _ hs
  rcases t4 with ⟨t5, t6, t7 | t7⟩ | ⟨t7, _⟩
  · rcases hD'.pb with hp | hp
    · right
      rw [t7]
      have h8 := htl
      simp only [List.length_append]
      rcases hD'.excl with he | he
      · rw [he]; simp only [List.length_nil]; omega
      · rw [he]; simp only [List.length_nil]; omega
    · exact .inl (hstop hp t5 t6)
  · exact .inl (hstop t7 t5 t6)
  · exact .inl t7

theorem finish_incomplete_eq {st : Stream} {rs : RunState} (hs : st.state = some (.data rs))
    (ho : st.options.allowIncomplete = true) (snk : Sink) : st.finish snk = rs.output.finish snk := by
  unfold Stream.finish
  rw [hs]
  simp only [ho, Bool.not_true, Bool.false_eq_true, if_false]
  rfl

theorem apre_of_prefix {base : Array UInt8} {H H' : Bytes} (h : H <+: H') :
    APre (base ++ H.toArray) (base ++ H'.toArray) := by
  obtain ⟨t, rfl⟩ := h
  exact ⟨t.toArray, by simp [Array.append_assoc]⟩

/-- Perfect sink `snk0`, the one-shot decoder succeeds
on `x = p ++ q`, `cs` is any chunking of the prefix `p`, which contains the header and
the five coder bytes, `allow_incomplete = true`.  Then feeding `cs` succeeds and leaves
the stream in Data state; `finish` succeeds and delivers exactly the
delivered-plus-window history `histOut` of the stream; that history is a prefix of the
one-shot output; and it contains the history of EVERY one-shot configuration `cᵢ`
(after `i` symbols) that has consumed at most `p.length - 20` input bytes. -/
theorem progress_master {opts : Options} (hA : opts.allowIncomplete = true) {x p q : Bytes}
    {cs : List Bytes} {snk0 snkO : Sink} {rdO : Rd} (hxq : x = p ++ q) (hcs : cs.flatten = p)
    (hlen : NN opts ≤ p.length) (hs : snk0.script = [])
    (hone : lzmaDecompress ⟨x, false⟩ opts snk0 = (snkO, .ok rdO)) :
    ∃ c₀ k st' rs' snkS, startCfg opts x snk0 = some c₀ ∧
      feedAll cs (Stream.newWithOptions opts) snk0 = (k, st', .ok ()) ∧ st'.state = some (.data rs') ∧
      streamRun opts cs snk0 = (snkS, .ok ()) ∧ snkS.out = histOut rs'.output k ∧
      APre snkS.out snkO.out ∧
      ∀ i cᵢ, FinishSteps c₀ i cᵢ → (x.length - cᵢ.rd.rem.length) + 20 ≤ p.length →
        APre (histOut cᵢ.w cᵢ.snk) (histOut rs'.output k) := by
  obtain ⟨c₀, kF, e, cF, hc₀, hrun, hfin⟩ := oneshot_run hone
  have hok : OneShotOk opts x snk0 := by
    unfold OneShotOk
    rw [hone]
    rintro ⟨e, he⟩
    simp [toUnit] at he
  obtain ⟨k, st', rs', j, c, hfeed, hopt, hst, t1, t2, t3, hbad, hlag⟩ :=
    stream_on_trace hxq hcs hlen hok hc₀
  obtain ⟨rs0, _, hc, hpb0, hw0, hd0⟩ := startCfg_some hc₀
  have hp0 : c₀.s.partialBuf = [] := by rw [hc]; rfl
  have hsnk0 : c₀.snk = snk0 := by rw [hc]; rfl
  have hinit : HistInv snk0.out c₀.w c₀.snk [] := by
    rw [hsnk0, hw0]
    exact histInv_init hd0 hs
  -- the stream's configuration
  obtain ⟨Hj, _, hHj⟩ := histGe_steps t1 ⟨[], List.prefix_refl _, hinit⟩
  rw [t2, t3] at hHj
  obtain ⟨sS, hfinS, hSout, hSh⟩ := finish_hist hHj
  have hrunS : streamRun opts cs snk0 = (sS, .ok ()) := by
    unfold streamRun streamRunFrom
    rw [hfeed]
    simp only
    rw [finish_incomplete_eq hst (by rw [hopt]; exact hA)]
    exact hfinS
  -- the one-shot result
  obtain ⟨jj, _, hrun'⟩ := FinishSteps.run_split t1 hrun hp0
  obtain ⟨HF, hpF, hHF⟩ := histGe_run hrun' ⟨Hj, List.prefix_refl _, by rw [t2, t3]; exact hHj⟩
  obtain ⟨sF, hfinF, hFout, _⟩ := finish_hist hHF
  rw [hfin] at hfinF
  simp only [Prod.mk.injEq, and_true] at hfinF
  subst hfinF
  refine ⟨c₀, k, st', rs', sS, hc₀, hfeed, hst, hrunS, ?_, ?_, ?_⟩
  · rw [hSout, hSh]
  · rw [hSout, hFout]
    exact apre_of_prefix hpF
  · intro i ci hi hcons
    have hij : i ≤ j := by
      rcases hlag with hno | hlag
      · exact nostep_le hno t1 hi
      · refine Classical.byContradiction fun hlt => ?_
        have hsp := steps_split hi t1 (by omega)
        have := (steps_rd hsp hbad).2.length_le
        omega
    have hsp := steps_split t1 hi hij
    obtain ⟨Hi, _, hHi⟩ := histGe_steps hi ⟨[], List.prefix_refl _, hinit⟩
    obtain ⟨H', hp', hH'⟩ := histGe_steps hsp ⟨Hi, List.prefix_refl _, hHi⟩
    rw [t2, t3] at hH'
    obtain ⟨_, _, _, h1⟩ := finish_hist hHi
    obtain ⟨_, _, _, h2⟩ := finish_hist hH'
    rw [h1, h2]
    exact apre_of_prefix hp'

/-! ## `finish` after any successful feeding (no assumption on the rest of the stream) -/

theorem write_perfect (st : Stream) (data : Bytes) (snk : Sink) (hs : snk.script = []) :
    (st.write data snk).1.script = [] :=
  ((OM.streamWrite st data).obl snk snk hs rfl).1

theorem feed_perfect : ∀ (f : Nat) (st : Stream) (data : Bytes) (acc : Nat) (snk : Sink),
    snk.script = [] → (Stream.feed f st data acc snk).1.script = [] := by
  intro f
  induction f with
  | zero => intro st data acc snk hs; exact hs
  | succ f ih =>
    intro st data acc snk hs
    rw [Stream.feed]
    split
    · exact hs
    · have hw : (st.writeS data snk).1.script = [] := by
        rw [Stream.writeS_fst]; exact write_perfect st data snk hs
      rcases hres : st.writeS data snk with ⟨k, st1, r⟩
      rw [hres] at hw
      cases r with
      | error e => exact hw
      | ok n =>
        simp only
        split
        · exact hw
        · exact ih st1 _ _ k hw

theorem feedAll_perfect : ∀ (cs : List Bytes) (st : Stream) (snk : Sink),
    snk.script = [] → (feedAll cs st snk).1.script = [] := by
  intro cs
  induction cs with
  | nil => intro st snk hs; exact hs
  | cons c cs ih =>
    intro st snk hs
    rw [feedAll]
    have hf := feed_perfect (c.length + 1) st c 0 snk hs
    rcases hres : Stream.feed (c.length + 1) st c 0 snk with ⟨k, st1, r⟩
    rw [hres] at hf
    cases r with
    | error e => exact hf
    | ok n => exact ih st1 k hf

theorem finish_any_ok (hN : Need20) {opts : Options} (hA : opts.allowIncomplete = true) {cs : List Bytes}
    {snk0 k : Sink} {st' : Stream} (hs : snk0.script = [])
    (hfeed : feedAll cs (Stream.newWithOptions opts) snk0 = (k, st', .ok ()))
    (hlen : NN opts ≤ cs.flatten.length) :
    ∃ snkS, streamRun opts cs snk0 = (snkS, .ok ()) := by
  have hk : k.script = [] := by
    have := feedAll_perfect cs (Stream.newWithOptions opts) snk0 hs
    rw [hfeed] at this; exact this
  have h := feedAll_header cs (Stream.newWithOptions opts) snk0 rfl (HNone_nil opts)
  rw [hfeed] at h
  obtain ⟨hopt, ⟨_, _, _, r, hr⟩ | ⟨rs', hD, _⟩⟩ := h
  · have := srh_none hr
    rw [show (Stream.newWithOptions opts).tmp ++ cs.flatten = cs.flatten from rfl] at this
    exact absurd this (Nat.not_lt.mpr hlen)
  · obtain ⟨s', hf, _⟩ := circ_finish_perfect hk hD.inv.cw.2.1
    refine ⟨s', ?_⟩
    unfold streamRun streamRunFrom
    rw [hfeed]
    simp only
    rw [finish_incomplete_eq hD.state (by rw [hopt]; exact hA)]
    exact hf

end StreamEq
end Lzma
