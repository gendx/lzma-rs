/-
  C07: the probability tables keep their sizes and values in `[31, 2017]` (`ProbsInv`); on a tree
  whose indices are all in bounds the interpreter `runDec` is safe and every probability bit
  decreases the measure.  The symbol tree is walked once, for an arbitrary property
  of its indices and errors and with the bit counts of its paths (`Paths`): index validity gives
  `symTree_safe`, the counts give the 20-byte bound of C05.
-/
import LzmaProofs.Lemmas.Safety
import LzmaProofs.Lemmas.Reset
namespace Lzma
namespace Safety

def ArrOk (n : Nat) (a : Array Nat) : Prop := a.size = n ∧ ∀ i (h : i < a.size), PVal a[i]

theorem ArrOk_replicate (n : Nat) : ArrOk n (Array.replicate n 0x400) := by
  refine ⟨by simp, ?_⟩
  intro i h
  simp only [Array.getElem_replicate]
  exact PVal_init

theorem ArrOk.set {n : Nat} {a : Array Nat} (h : ArrOk n a) {v : Nat} (hv : PVal v) (i : Nat) :
    ArrOk n (a.setIfInBounds i v) := by
  refine ⟨by simpa using h.1, ?_⟩
  intro j hj
  rw [Array.getElem_setIfInBounds]
  split
  · exact hv
  · exact h.2 j (by simpa using hj)

structure LenOk (l : LenProbs) : Prop where
  choice : PVal l.choice
  choice2 : PVal l.choice2
  low : ArrOk 128 l.low
  mid : ArrOk 128 l.mid
  high : ArrOk 256 l.high

theorem LenOk_init : LenOk {} :=
  ⟨PVal_init, PVal_init, ArrOk_replicate _, ArrOk_replicate _, ArrOk_replicate _⟩

structure ProbsInv (p : Probs) : Prop where
  lit : ArrOk (p.litRows * 0x300) p.lit
  posSlot : ArrOk 256 p.posSlot
  align : ArrOk 16 p.align
  posDec : ArrOk 115 p.posDec
  isMatch : ArrOk 192 p.isMatch
  isRep : ArrOk 12 p.isRep
  isRepG0 : ArrOk 12 p.isRepG0
  isRepG1 : ArrOk 12 p.isRepG1
  isRepG2 : ArrOk 12 p.isRepG2
  isRep0Long : ArrOk 192 p.isRep0Long
  len : LenOk p.len
  repLen : LenOk p.repLen

theorem ProbsInv_init (rows : Nat) : ProbsInv (Probs.init rows) :=
  ⟨ArrOk_replicate _, ArrOk_replicate _, ArrOk_replicate _, ArrOk_replicate _, ArrOk_replicate _,
   ArrOk_replicate _, ArrOk_replicate _, ArrOk_replicate _, ArrOk_replicate _, ArrOk_replicate _,
   LenOk_init, LenOk_init⟩

/-- the tables `reset_state` builds -/
theorem ProbsInv_fresh (n rows : Nat) (h : n = rows * 0x300) :
    ProbsInv { lit := Array.replicate n 0x400, litRows := rows } := by
  subst h
  exact ProbsInv_init rows

/-- in-bounds addresses for a literal table of `R` rows -/
def IdxValid (R : Nat) : PIdx → Prop
  | .lit row col => row < R ∧ col < 0x300
  | .posSlot ls t => ls < 4 ∧ t < 64
  | .align t => t < 16
  | .posDec i => i < 115
  | .isMatch i => i < 192
  | .isRep i => i < 12
  | .isRepG0 i => i < 12
  | .isRepG1 i => i < 12
  | .isRepG2 i => i < 12
  | .isRep0Long i => i < 192
  | .lenChoice _ => True
  | .lenChoice2 _ => True
  | .lenLow _ ps t => ps < 16 ∧ t < 8
  | .lenMid _ ps t => ps < 16 ∧ t < 8
  | .lenHigh _ t => t < 256

theorem ArrOk.get_spec {n : Nat} {a : Array Nat} (h : ArrOk n a) (i : Nat) :
    (i < n → ∃ v, arrGet a i = .ok v ∧ PVal v) ∧ (¬ i < n → arrGet a i = oob) := by
  refine ⟨fun hi => ?_, fun hi => ?_⟩
  · have hi' : i < a.size := by rw [h.1]; exact hi
    exact ⟨a[i], by simp [arrGet, hi'], h.2 i hi'⟩
  · have : a[i]? = none := Array.getElem?_eq_none (by rw [h.1]; omega)
    simp only [arrGet, this]

/-- a read guarded by `d`, where `d` is exactly the validity `c` of the index and implies that
the table read succeeds -/
theorem guarded_get_spec {c d : Prop} [Decidable d] {r : Except Err Nat} (hcd : c ↔ d)
    (hr : d → ∃ v, r = .ok v ∧ PVal v) :
    (c → ∃ v, (if d then r else oob) = .ok v ∧ PVal v) ∧ (¬ c → (if d then r else oob) = oob) :=
  ⟨fun hc => by rw [if_pos (hcd.1 hc)]; exact hr (hcd.1 hc), fun hc => if_neg (mt hcd.2 hc)⟩

theorem Probs.get_spec {p : Probs} (h : ProbsInv p) (i : PIdx) :
    (IdxValid p.litRows i → ∃ v, p.get i = .ok v ∧ PVal v) ∧
      (¬ IdxValid p.litRows i → p.get i = oob) := by
  have hl : ∀ rep : Bool, LenOk (if rep = true then p.repLen else p.len) := by
    intro rep; cases rep
    · exact h.len
    · exact h.repLen
  cases i with
  | lit row col =>
    have hs := h.lit.1
    exact guarded_get_spec (by rw [hs]; show _ ∧ _ ↔ _ ∧ _; omega)
      (fun hd => (h.lit.get_spec _).1 (by rw [← hs]; omega))
  | posSlot ls t => exact guarded_get_spec Iff.rfl (fun hd => (h.posSlot.get_spec _).1 (by omega))
  | align t => exact h.align.get_spec t
  | posDec i => exact h.posDec.get_spec i
  | isMatch i => exact h.isMatch.get_spec i
  | isRep i => exact h.isRep.get_spec i
  | isRepG0 i => exact h.isRepG0.get_spec i
  | isRepG1 i => exact h.isRepG1.get_spec i
  | isRepG2 i => exact h.isRepG2.get_spec i
  | isRep0Long i => exact h.isRep0Long.get_spec i
  | lenChoice rep => exact ⟨fun _ => ⟨_, rfl, (hl rep).choice⟩, fun hn => absurd trivial hn⟩
  | lenChoice2 rep => exact ⟨fun _ => ⟨_, rfl, (hl rep).choice2⟩, fun hn => absurd trivial hn⟩
  | lenLow rep ps t => exact guarded_get_spec Iff.rfl (fun hd => ((hl rep).low.get_spec _).1 (by omega))
  | lenMid rep ps t => exact guarded_get_spec Iff.rfl (fun hd => ((hl rep).mid.get_spec _).1 (by omega))
  | lenHigh rep t => exact (hl rep).high.get_spec t

theorem Probs.get_safe {p : Probs} (h : ProbsInv p) {i : PIdx} (hi : IdxValid p.litRows i) :
    ∃ v, p.get i = .ok v ∧ PVal v :=
  (Probs.get_spec h i).1 hi

theorem Probs.get_pval {p : Probs} (h : ProbsInv p) {i : PIdx} {v : Nat} (hg : p.get i = .ok v) :
    PVal v := by
  have hs := Probs.get_spec h i
  by_cases hi : IdxValid p.litRows i
  · obtain ⟨v', e, hv'⟩ := hs.1 hi
    rw [hg] at e; cases e; exact hv'
  · rw [hs.2 hi] at hg; cases hg

theorem Probs.get_error {p : Probs} (h : ProbsInv p) {i : PIdx} {e : Err} (hg : p.get i = .error e) :
    e = .panic "index out of bounds" := by
  have hs := Probs.get_spec h i
  by_cases hi : IdxValid p.litRows i
  · obtain ⟨v, e', _⟩ := hs.1 hi
    rw [hg] at e'; cases e'
  · rw [hs.2 hi] at hg; cases hg; rfl

theorem ArrOk.upd {n v : Nat} {a a' : Array Nat} (h : ArrOk n a) (hv : PVal v) (hu : AUpd v a a') :
    ArrOk n a' := by
  rcases hu with rfl | ⟨k, rfl⟩
  · exact h
  · exact h.set hv k

theorem LenOk.upd {v : Nat} {l l' : LenProbs} (h : LenOk l) (hv : PVal v) (hu : LUpd v l l') :
    LenOk l' :=
  ⟨hu.choice.elim (fun e => e ▸ h.choice) (fun e => e ▸ hv),
   hu.choice2.elim (fun e => e ▸ h.choice2) (fun e => e ▸ hv),
   h.low.upd hv hu.low, h.mid.upd hv hu.mid, h.high.upd hv hu.high⟩

/-- a `set` overwrites at most one cell of one table (`Probs.set_upd`), with a valid value -/
theorem Probs.set_inv {p : Probs} (h : ProbsInv p) {v : Nat} (hv : PVal v) (i : PIdx) :
    ProbsInv (p.set i v) ∧ (p.set i v).litRows = p.litRows := by
  have hu := Probs.set_upd p i v
  have hr := Probs.set_litRows p i v
  exact ⟨⟨hr ▸ h.lit.upd hv hu.lit, h.posSlot.upd hv hu.posSlot, h.align.upd hv hu.align,
    h.posDec.upd hv hu.posDec, h.isMatch.upd hv hu.isMatch, h.isRep.upd hv hu.isRep,
    h.isRepG0.upd hv hu.isRepG0, h.isRepG1.upd hv hu.isRepG1, h.isRepG2.upd hv hu.isRepG2,
    h.isRep0Long.upd hv hu.isRep0Long, h.len.upd hv hu.len, h.repLen.upd hv hu.repLen⟩, hr⟩

/-! ## the paths of a decoding tree -/

/-- Along every path of the tree: each probability index satisfies `V`, each `.fail` leaf carries
an error in `E`, each returned value satisfies `Q`, and the numbers `(a, b)` of probability / direct
bits of every path prefix (from the root to any node) satisfy `P`. -/
inductive Paths {ι α : Type} (V : ι → Prop) (E : Err → Prop) (Q : α → Prop) :
    (Nat → Nat → Prop) → Coder ι α → Prop
  | ret {P : Nat → Nat → Prop} {x : α} : P 0 0 → Q x → Paths V E Q P (.ret x)
  | fail {P : Nat → Nat → Prop} {e : Err} : P 0 0 → E e → Paths V E Q P (.fail e)
  | bit {P : Nat → Nat → Prop} {i : ι} {k : Bool → Coder ι α} : P 0 0 → V i →
      (∀ c, Paths V E Q (fun a b => P (a + 1) b) (k c)) → Paths V E Q P (.bit i k)
  | direct {P : Nat → Nat → Prop} {k : Bool → Coder ι α} : P 0 0 →
      (∀ c, Paths V E Q (fun a b => P a (b + 1)) (k c)) → Paths V E Q P (.direct k)

def Bits {ι α : Type} (V : ι → Prop) (E : Err → Prop) (Q : α → Prop) (a b : Nat) (t : Coder ι α) :
    Prop :=
  Paths V E Q (fun a' b' => a' ≤ a ∧ b' ≤ b) t

section paths
variable {ι α β : Type} {V : ι → Prop} {E : Err → Prop} {Q : α → Prop} {Q' : β → Prop}

theorem Paths.root {P : Nat → Nat → Prop} {t : Coder ι α} (h : Paths V E Q P t) : P 0 0 := by
  cases h <;> assumption

theorem Paths.mono {Q' : α → Prop} {P : Nat → Nat → Prop} {t : Coder ι α} (h : Paths V E Q P t) :
    ∀ {P' : Nat → Nat → Prop}, (∀ a b, P a b → P' a b) → (∀ x, Q x → Q' x) → Paths V E Q' P' t := by
  induction h with
  | ret h0 hq => intro P' hP hQ; exact .ret (hP _ _ h0) (hQ _ hq)
  | fail h0 he => intro P' hP _; exact .fail (hP _ _ h0) he
  | bit h0 hv _ ih => intro P' hP hQ; exact .bit (hP _ _ h0) hv fun c => ih c (fun a b => hP _ _) hQ
  | direct h0 _ ih => intro P' hP hQ; exact .direct (hP _ _ h0) fun c => ih c (fun a b => hP _ _) hQ

/-- sequencing: the continuation is checked from every pair of counts the prefix can reach -/
theorem Paths.bind {P1 : Nat → Nat → Prop} {t : Coder ι α} {f : α → Coder ι β}
    (h : Paths V E Q P1 t) : ∀ {P : Nat → Nat → Prop}, (∀ a b, P1 a b → P a b) →
      (∀ x, Q x → ∀ a b, P1 a b → Paths V E Q' (fun a2 b2 => P (a + a2) (b + b2)) (f x)) →
      Paths V E Q' P (t.bind f) := by
  induction h with
  | ret h0 hq =>
    intro P _ hf
    exact (hf _ hq 0 0 h0).mono (fun a2 b2 h => by simpa using h) fun _ h => h
  | fail h0 he => intro P hP _; exact .fail (hP _ _ h0) he
  | bit h0 hv _ ih =>
    intro P hP hf
    refine .bit (hP _ _ h0) hv fun c => ih c (fun a b => hP _ _) fun x hq a b h => ?_
    exact (hf x hq _ _ h).mono (fun a2 b2 h => by rwa [Nat.add_right_comm] at h) fun _ h => h
  | direct h0 _ ih =>
    intro P hP hf
    refine .direct (hP _ _ h0) fun c => ih c (fun a b => hP _ _) fun x hq a b h => ?_
    exact (hf x hq _ _ h).mono (fun a2 b2 h => by rwa [Nat.add_right_comm b] at h) fun _ h => h

theorem Bits.ret {a b : Nat} {x : α} (h : Q x) : Bits V E Q a b (.ret x : Coder ι α) :=
  Paths.ret ⟨Nat.zero_le _, Nat.zero_le _⟩ h

theorem Bits.fail {a b : Nat} {e : Err} (h : E e) : Bits V E Q a b (.fail e : Coder ι α) :=
  Paths.fail ⟨Nat.zero_le _, Nat.zero_le _⟩ h

theorem Bits.bit {a b : Nat} {i : ι} {k : Bool → Coder ι α} (hv : V i)
    (h : ∀ c, Bits V E Q a b (k c)) : Bits V E Q (a + 1) b (.bit i k) :=
  Paths.bit ⟨Nat.zero_le _, Nat.zero_le _⟩ hv fun c =>
    (h c).mono (fun _ _ ⟨h1, h2⟩ => ⟨Nat.succ_le_succ h1, h2⟩) fun _ h => h

theorem Bits.direct {a b : Nat} {k : Bool → Coder ι α} (h : ∀ c, Bits V E Q a b (k c)) :
    Bits V E Q a (b + 1) (.direct k) :=
  Paths.direct ⟨Nat.zero_le _, Nat.zero_le _⟩ fun c =>
    (h c).mono (fun _ _ ⟨h1, h2⟩ => ⟨h1, Nat.succ_le_succ h2⟩) fun _ h => h

theorem Bits.mono {Q' : α → Prop} {a b a' b' : Nat} {t : Coder ι α} (h : Bits V E Q a b t)
    (ha : a ≤ a') (hb : b ≤ b') (hQ : ∀ x, Q x → Q' x) : Bits V E Q' a' b' t :=
  Paths.mono h (fun _ _ ⟨h1, h2⟩ => ⟨Nat.le_trans h1 ha, Nat.le_trans h2 hb⟩) hQ

/-- a bounded subtree inside a tree whose prefixes are checked against `P` -/
theorem Bits.paths {a b : Nat} {t : Coder ι α} {P : Nat → Nat → Prop} (h : Bits V E Q a b t)
    (hP : ∀ a' b', a' ≤ a → b' ≤ b → P a' b') : Paths V E Q P t :=
  Paths.mono h (fun _ _ ⟨h1, h2⟩ => hP _ _ h1 h2) fun _ h => h

theorem Bits.bind {a b a2 b2 : Nat} {t : Coder ι α} {f : α → Coder ι β} (h : Bits V E Q a b t)
    (hf : ∀ x, Q x → Bits V E Q' a2 b2 (f x)) : Bits V E Q' (a + a2) (b + b2) (t.bind f) :=
  Paths.bind h (fun _ _ ⟨h1, h2⟩ => ⟨by omega, by omega⟩) fun x hq _ _ ⟨h1, h2⟩ =>
    Paths.mono (hf x hq) (fun _ _ ⟨g1, g2⟩ => ⟨by omega, by omega⟩) fun _ h => h

theorem Bits.map {a b : Nat} {t : Coder ι α} {f : α → β} (h : Bits V E Q a b t)
    (hf : ∀ x, Q x → Q' (f x)) : Bits V E Q' a b (t.map f) :=
  Bits.bind (a2 := 0) (b2 := 0) h fun x hx => .ret (hf x hx)

end paths

theorem runDec_bit_step {α : Type} (u : Bool) {Q : α → Prop} (i : PIdx) (k : Bool → Coder PIdx α)
    (p : Probs) (rc : RC) (rd : Rd) (hp : ProbsInv p) (hi : IdxValid p.litRows i) (hrc : RCInv rc)
    (hk : ∀ b p' rc' rd', ProbsInv p' → p'.litRows = p.litRows → RCInv rc' →
      ESafe (fun x => Q x.1 ∧ ProbsInv x.2.1 ∧ x.2.1.litRows = p'.litRows ∧ RCInv x.2.2.1 ∧
        x.2.2.2.rem.length ≤ rd'.rem.length ∧ mu x.2.2.2 x.2.2.1 ≤ mu rd' rc')
      (runDec u (k b) p' rc' rd')) :
    ESafe (fun x => Q x.1 ∧ ProbsInv x.2.1 ∧ x.2.1.litRows = p.litRows ∧ RCInv x.2.2.1 ∧
        x.2.2.2.rem.length ≤ rd.rem.length ∧ mu x.2.2.2 x.2.2.1 < mu rd rc)
      (runDec u (.bit i k) p rc rd) := by
  obtain ⟨v, hg, hv⟩ := Probs.get_safe hp hi
  have hg' : ProbStore.get p i = .ok v := hg
  rw [runDec_bit, hg']
  refine (decodeBit_safe u v rc rd hv hrc).bind fun x ⟨hpv, hrc', hlen, hmu⟩ => ?_
  have hset : ProbsInv (if u = true then ProbStore.set p i x.2.1 else p) ∧
      (if u = true then ProbStore.set p i x.2.1 else p).litRows = p.litRows := by
    split
    · exact Probs.set_inv hp hpv i
    · exact ⟨hp, rfl⟩
  refine (hk x.1 _ x.2.2.1 x.2.2.2 hset.1 hset.2 hrc').mono ?_
  rintro ⟨a, p2, rc2, rd2⟩ ⟨h1, h2, h3, h4, h5, h6⟩
  exact ⟨h1, h2, h3.trans hset.2, h4, Nat.le_trans h5 hlen, Nat.lt_of_le_of_lt h6 hmu⟩

theorem runDec_safe {α : Type} (u : Bool) {R : Nat} {Q : α → Prop} {P : Nat → Nat → Prop}
    {t : Coder PIdx α} (ht : Paths (IdxValid R) (fun e => bad e = false) Q P t) :
    ∀ (p : Probs) (rc : RC) (rd : Rd), ProbsInv p → p.litRows = R → RCInv rc →
    ESafe (fun x => Q x.1 ∧ ProbsInv x.2.1 ∧ x.2.1.litRows = p.litRows ∧ RCInv x.2.2.1 ∧
        x.2.2.2.rem.length ≤ rd.rem.length ∧ mu x.2.2.2 x.2.2.1 ≤ mu rd rc)
      (runDec u t p rc rd) := by
  induction ht with
  | ret _ hq => intro p rc rd hp _ hrc; exact ⟨hq, hp, rfl, hrc, Nat.le_refl _, Nat.le_refl _⟩
  | fail _ he => intro p rc rd _ _ _; exact he
  | @bit _ i k _ hv _ ih =>
    intro p rc rd hp hR hrc
    refine (runDec_bit_step u i k p rc rd hp (hR ▸ hv) hrc fun b p' rc' rd' hp' hr hrc' =>
      ih b p' rc' rd' hp' (hr.trans hR) hrc').mono ?_
    exact fun _ ⟨h1, h2, h3, h4, h5, h6⟩ => ⟨h1, h2, h3, h4, h5, Nat.le_of_lt h6⟩
  | @direct _ k _ _ ih =>
    intro p rc rd hp hR hrc
    rw [runDec_direct]
    refine (getBit_safe rc rd hrc).bind fun x ⟨hrc', hlen, hmu⟩ => (ih x.1 p x.2.1 x.2.2 hp hR hrc').mono ?_
    rintro ⟨a, p2, rc2, rd2⟩ ⟨h1, h2, h3, h4, h5, h6⟩
    exact ⟨h1, h2, h3, h4, Nat.le_trans h5 hlen, Nat.le_trans h6 (Nat.le_of_lt hmu)⟩

theorem runDec_bit_lt {α : Type} (u : Bool) {Q : α → Prop} {P : Nat → Nat → Prop} (i : PIdx)
    (k : Bool → Coder PIdx α) (p : Probs) (rc : RC) (rd : Rd) (hp : ProbsInv p)
    (ht : Paths (IdxValid p.litRows) (fun e => bad e = false) Q P (.bit i k)) (hrc : RCInv rc) :
    ESafe (fun x => Q x.1 ∧ ProbsInv x.2.1 ∧ x.2.1.litRows = p.litRows ∧ RCInv x.2.2.1 ∧
        x.2.2.2.rem.length ≤ rd.rem.length ∧ mu x.2.2.2 x.2.2.1 < mu rd rc)
      (runDec u (.bit i k) p rc rd) := by
  cases ht with
  | bit _ hv hk =>
    exact runDec_bit_step u i k p rc rd hp hv hrc fun b p' rc' rd' hp' hr hrc' =>
      runDec_safe u (hk b) p' rc' rd' hp' hr hrc'

section trees
variable {ι α β : Type} {V : ι → Prop} {E : Err → Prop} {Q : α → Prop} {Q' : β → Prop}

theorem bitTreeAux_bits (mk : Nat → ι) :
    ∀ n k tmp, 2 ^ k ≤ tmp → tmp < 2 ^ (k + 1) → (∀ t, t < 2 ^ (k + n) → V (mk t)) →
      Bits V E (fun r => 2 ^ (k + n) ≤ r ∧ r < 2 ^ (k + n + 1)) n 0 (bitTreeAux mk n tmp) := by
  intro n
  induction n with
  | zero => intro k tmp h1 h2 _; exact .ret ⟨h1, h2⟩
  | succ n ih =>
    intro k tmp h1 h2 hv
    have hle : 2 ^ (k + 1) ≤ 2 ^ (k + (n + 1)) := Nat.pow_le_pow_right (by omega) (by omega)
    refine .bit (hv tmp (by omega)) fun b => ?_
    have hb := Bool.toNat_le b
    have e : k + 1 + n = k + (n + 1) := by omega
    have := ih (k + 1) (2 * tmp + b.toNat) (by rw [Nat.pow_succ]; omega)
      (by rw [Nat.pow_succ 2 (k + 1)]; omega) (by rw [e]; exact hv)
    rw [e] at this
    exact this

/-- `parse_bit_tree`: `n` probability bits at the indices `mk t`, `t < 2^n`; the value is `< 2^n` -/
theorem bitTree_bits (mk : Nat → ι) (n : Nat) (hv : ∀ t, t < 2 ^ n → V (mk t)) :
    Bits V E (fun r => r < 2 ^ n) n 0 (bitTree mk n) := by
  refine Bits.bind (a2 := 0) (b2 := 0)
    (bitTreeAux_bits mk n 0 1 (by simp) (by simp) (by simpa using hv)) ?_
  intro tmp ⟨h1, h2⟩
  simp only [Nat.zero_add] at h1 h2
  rw [Nat.shiftLeft_eq, Nat.one_mul, subChk_safe h1]
  exact .ret (by rw [Nat.pow_succ] at h2; omega)

theorem revBitTreeAux_bits (mk : Nat → ι) (offset : Nat) :
    ∀ n k i tmp result, 2 ^ k ≤ tmp → tmp < 2 ^ (k + 1) →
      (∀ t, t < 2 ^ (k + n) → V (mk (offset + t))) →
      Bits V E (fun _ => True) n 0 (revBitTreeAux mk offset n i tmp result) := by
  intro n
  induction n with
  | zero => intro k i tmp result _ _ _; exact .ret trivial
  | succ n ih =>
    intro k i tmp result h1 h2 hv
    have hle : 2 ^ (k + 1) ≤ 2 ^ (k + (n + 1)) := Nat.pow_le_pow_right (by omega) (by omega)
    refine .bit (hv tmp (by omega)) fun b => ?_
    have hb := Bool.toNat_le b
    have e : k + 1 + n = k + (n + 1) := by omega
    exact ih (k + 1) _ (2 * tmp + b.toNat) _ (by rw [Nat.pow_succ]; omega)
      (by rw [Nat.pow_succ 2 (k + 1)]; omega) (by rw [e]; exact hv)

theorem revBitTree_bits (mk : Nat → ι) (offset n : Nat)
    (hv : ∀ t, t < 2 ^ n → V (mk (offset + t))) :
    Bits V E (fun _ => True) n 0 (revBitTree mk offset n) :=
  revBitTreeAux_bits mk offset n 0 0 1 0 (by simp) (by simp) (by simpa using hv)

theorem directBits_bits : ∀ n acc, Bits V E (fun _ => True) 0 n (directBits n acc : Coder ι Nat)
  | 0, _ => .ret trivial
  | n + 1, _ => .direct fun _ => directBits_bits n _

end trees

/-! ## the symbol tree

One walk, generic in the property `V` of the probability indices and the property `E` of the
errors of the two window reads of the context: the checked subtractions of the tree never fail
and the fuel of the literal loops is never exhausted, whatever the context. -/

/-- the probability addresses the symbol decoder can touch in context `c` -/
def _root_.Lzma.Ctx.Touches (c : Ctx) : PIdx → Prop
  | .lit row col => c.litRow = .ok row ∧ col < 0x300
  | .posSlot ls t => ls < 4 ∧ t < 64
  | .align t => t < 16
  | .posDec i => i < 115
  | .isMatch i => i = (c.state <<< 4) + c.posState
  | .isRep i => i = c.state
  | .isRepG0 i => i = c.state
  | .isRepG1 i => i = c.state
  | .isRepG2 i => i = c.state
  | .isRep0Long i => i = (c.state <<< 4) + c.posState
  | .lenChoice _ => True
  | .lenChoice2 _ => True
  | .lenLow _ ps t => ps = c.posState ∧ t < 8
  | .lenMid _ ps t => ps = c.posState ∧ t < 8
  | .lenHigh _ t => t < 256

/-- The bit counts of the path prefixes of the symbol decoder: at most 22
probability bits together with at most 26 direct bits (a match with
`pos_slot ≥ 14`), or at most 23 probability bits and no direct bit (a match with
`pos_slot ∈ {12, 13}`: `is_match`, `is_rep`, `choice`, `choice2`, 8 length bits,
6 slot bits, 5 reverse-tree bits). -/
def SymP (a b : Nat) : Prop := (a ≤ 22 ∧ b ≤ 26) ∨ (a ≤ 23 ∧ b = 0)

theorem double_step {result f : Nat} (b : Bool) (h : 256 ≤ result * 2 ^ (f + 1)) :
    256 ≤ (2 * result + b.toNat) * 2 ^ f := by
  rw [Nat.pow_succ, Nat.mul_comm (2 ^ f) 2, ← Nat.mul_assoc, Nat.mul_comm result 2] at h
  exact Nat.le_trans h (Nat.mul_le_mul_right _ (by omega))

/-- the `posDec` window of slots 4..13 -/
theorem posDec_window : ∀ s, s < 14 → 4 ≤ s →
    s ≤ (2 ^^^ (s &&& 1)) <<< ((s >>> 1) - 1) ∧
      (2 ^^^ (s &&& 1)) <<< ((s >>> 1) - 1) - s + 2 ^ ((s >>> 1) - 1) ≤ 115 := by
  decide

/-- the part of `decode_distance` after the slot -/
def distRest (posSlot : Nat) : Coder PIdx Nat :=
  if posSlot < 4 then .ret posSlot
  else
    let numDirectBits := (posSlot >>> 1) - 1
    let result := (2 ^^^ (posSlot &&& 1)) <<< numDirectBits
    if posSlot < 14 then
      match subChk "decode_distance: result - pos_slot" result posSlot with
      | .error e => .fail e
      | .ok off => (revBitTree .posDec off numDirectBits).map (result + ·)
    else
      (directBits (numDirectBits - 4) 0).bind fun d =>
        (revBitTree .align 0 4).map fun a => result + (d <<< 4) + a

theorem distTree_eq (length : Nat) :
    distTree length = (bitTree (.posSlot (if length > 3 then 3 else length)) 6).bind distRest := rfl

theorem Coder.bind_assoc {ι α β γ : Type} (t : Coder ι α) (f : α → Coder ι β) (g : β → Coder ι γ) :
    (t.bind f).bind g = t.bind (fun x => (f x).bind g) := by
  induction t with
  | ret a => rfl
  | fail e => rfl
  | bit i k ih => simp only [Coder.bind]; congr 1; funext b; exact ih b
  | direct k ih => simp only [Coder.bind]; congr 1; funext b; exact ih b

section symbol
variable {V : PIdx → Prop} {E : Err → Prop} {c : Ctx} (hV : ∀ i, c.Touches i → V i)
include hV

/-- `LenDecoder::decode`: at most `2 + 8` probability bits -/
theorem lenTree_bits (rep : Bool) : Bits V E (fun _ => True) 10 0 (lenTree rep c.posState) := by
  unfold lenTree
  refine .bit (a := 9) (hV _ trivial) fun b => ?_
  cases b
  · exact (bitTree_bits (PIdx.lenLow rep c.posState) 3 fun t ht => hV _ ⟨rfl, ht⟩).mono (by omega) (by omega)
      fun _ _ => trivial
  · refine .bit (a := 8) (hV _ trivial) fun b => ?_
    cases b
    · exact ((bitTree_bits (PIdx.lenMid rep c.posState) 3 fun t ht => hV _ ⟨rfl, ht⟩).map fun _ _ => trivial).mono
        (by omega) (by omega) fun _ h => h
    · exact (bitTree_bits (PIdx.lenHigh rep) 8 fun t ht => hV _ ht).map fun _ _ => trivial

/-- the plain literal loop: one probability bit per unit of fuel; with `256 ≤ result * 2^fuel`
the fuel suffices -/
theorem litPlain_bits {row : Nat} (hrow : c.litRow = .ok row) :
    ∀ fuel result, 256 ≤ result * 2 ^ fuel →
      Bits V E (fun x => 256 ≤ x) fuel 0 (litPlain row fuel result) := by
  intro fuel
  induction fuel with
  | zero =>
    intro result h
    have : ¬ result < 256 := by simpa using h
    simp only [litPlain, this, if_false]
    exact .ret (Nat.le_of_not_lt this)
  | succ f ih =>
    intro result h
    simp only [litPlain]
    split
    · exact .bit (hV _ ⟨hrow, by omega⟩) fun b => ih _ (double_step b h)
    · exact .ret (by omega)

theorem litMatched_bits {row : Nat} (hrow : c.litRow = .ok row) :
    ∀ fuel mb result, 256 ≤ result * 2 ^ fuel →
      Bits V E (fun x => 256 ≤ x) fuel 0 (litMatched row fuel mb result) := by
  intro fuel
  induction fuel with
  | zero =>
    intro mb result h
    have : ¬ result < 256 := by simpa using h
    simp only [litMatched, this, if_false]
    exact .ret (Nat.le_of_not_lt this)
  | succ f ih =>
    intro mb result h
    simp only [litMatched]
    split
    · have hmb : (mb >>> 7) &&& 1 ≤ 1 := Nat.and_le_right
      refine .bit (hV _ ⟨hrow, by rw [Nat.shiftLeft_eq]; omega⟩) fun b => ?_
      show Bits V E _ f 0 (if _ then _ else _)
      split
      · exact litPlain_bits hV hrow _ _ (double_step b h)
      · exact ih _ _ (double_step b h)
    · exact .ret (by omega)

theorem distRest_bits_low {s : Nat} (h : s < 14) : Bits V E (fun _ => True) 5 0 (distRest s) := by
  unfold distRest
  split
  · exact .ret trivial
  · obtain ⟨w1, w2⟩ := posDec_window s h (by omega)
    have hs : s >>> 1 = s / 2 := Nat.shiftRight_eq_div_pow s 1
    simp only [subChk_safe w1]
    exact ((revBitTree_bits PIdx.posDec _ _ fun t ht => hV _ (by show _ < 115; omega)).map
      fun _ _ => trivial).mono (by omega) (Nat.le_refl _) fun _ h => h

theorem distRest_bits_high {s : Nat} (h : ¬ s < 14) (h64 : s < 64) :
    Bits V E (fun _ => True) 4 26 (distRest s) := by
  unfold distRest
  have hs : s >>> 1 = s / 2 := Nat.shiftRight_eq_div_pow s 1
  simp only [show ¬ s < 4 by omega, h, if_false]
  exact (Bits.bind (Q' := fun _ => True) (a2 := 4) (b2 := 0) (directBits_bits _ 0) fun d _ =>
    (revBitTree_bits PIdx.align 0 4 fun t ht => hV _ (by show 0 + t < 16; omega)).map
      fun _ _ => trivial).mono (by omega) (by omega) fun _ h => h

/-- the new-match branch (after `is_match`, `is_rep`), checked from the counts `(2, 0)`: the only
place where the two kinds of bits trade off -/
theorem matchTree_paths :
    Paths V E (fun _ => True) (fun a b => SymP (a + 1 + 1) b)
      ((lenTree false c.posState).bind fun len => (distTree len).map (RawSym.mtch len)) := by
  refine Paths.bind (lenTree_bits hV false) (fun a b ⟨ha, hb⟩ => by unfold SymP; omega) ?_
  intro len _ a b ⟨ha, hb⟩
  have hls : (if len > 3 then 3 else len) < 4 := by split <;> omega
  rw [distTree_eq]
  unfold Coder.map
  rw [Coder.bind_assoc]
  refine Paths.bind (bitTree_bits (PIdx.posSlot (if len > 3 then 3 else len)) 6 fun t ht => hV _ ⟨hls, ht⟩)
    (fun a' b' ⟨ha', hb'⟩ => by unfold SymP; omega) ?_
  intro s hs a' b' ⟨ha', hb'⟩
  by_cases h14 : s < 14
  · exact ((distRest_bits_low hV h14).map (f := RawSym.mtch len) (Q' := fun _ => True)
      fun _ _ => trivial).paths fun a3 b3 ha3 hb3 => by unfold SymP; omega
  · exact ((distRest_bits_high hV h14 hs).map (f := RawSym.mtch len) (Q' := fun _ => True)
      fun _ _ => trivial).paths fun a3 b3 ha3 hb3 => by unfold SymP; omega

theorem symTree_paths (hrow : ∀ e, c.litRow = .error e → E e)
    (hmb : ∀ e, c.matchByte = .error e → E e) :
    Paths V E (fun _ => True) SymP (symTree c) := by
  have hl : ∀ i, Bits V E (fun _ => True) 10 0 ((lenTree true c.posState).map (RawSym.rep i)) :=
    fun i => (lenTree_bits hV true).map fun _ _ => trivial
  unfold symTree
  refine .bit (by unfold SymP; omega) (hV _ rfl) fun b => ?_
  cases b
  · -- `decode_literal`: 8 probability bits
    simp only [Bool.not_false, if_true]
    cases hr : c.litRow with
    | error e => exact .fail (by unfold SymP; omega) (hrow e hr)
    | ok row =>
      refine (Bits.bind (a := 8) (b := 0) (a2 := 0) (b2 := 0) (Q := fun x => 256 ≤ x) ?_ ?_).paths
        fun a' b' ha hb => by unfold SymP; omega
      · split
        · cases hm : c.matchByte with
          | error e => exact .fail (hmb e hm)
          | ok mb => exact litMatched_bits hV hr 8 mb 1 (by decide)
        · exact litPlain_bits hV hr 8 1 (by decide)
      · intro result hres
        rw [subChk_safe hres]
        exact .ret trivial
  · simp only [Bool.not_true, Bool.false_eq_true, if_false]
    refine .bit (by unfold SymP; omega) (hV _ rfl) fun b => ?_
    cases b
    · simp only [Bool.false_eq_true, if_false]
      exact matchTree_paths hV
    · -- the repeated-match branch: at most `3 + 10` more probability bits
      simp only [if_true]
      refine Bits.paths (a := 13) (b := 0) ?_ fun a' b' ha hb => by unfold SymP; omega
      refine .bit (a := 12) (hV _ rfl) fun b => ?_
      cases b
      · simp only [Bool.not_false, if_true]
        refine Bits.mono (.bit (a := 10) (hV _ rfl) fun b => ?_) (by omega) (Nat.le_refl _) fun _ h => h
        cases b
        · exact .ret trivial
        · exact hl 0
      · simp only [Bool.not_true, Bool.false_eq_true, if_false]
        refine .bit (a := 11) (hV _ rfl) fun b => ?_
        cases b
        · exact (hl 1).mono (by omega) (Nat.le_refl _) fun _ h => h
        · simp only [Bool.not_true, Bool.false_eq_true, if_false]
          refine .bit (a := 10) (hV _ rfl) fun b => ?_
          cases b
          · exact hl 2
          · exact hl 3

end symbol

/-- what `symTree` needs from its context -/
structure CtxOk (R : Nat) (c : Ctx) : Prop where
  state : c.state < 12
  posState : c.posState < 16
  litRow : ESafe (fun row => row < R) c.litRow
  matchByte : ESafe (fun _ => True) c.matchByte

theorem CtxOk.touches {R : Nat} {c : Ctx} (h : CtxOk R c) : ∀ i, c.Touches i → IdxValid R i := by
  obtain ⟨hst, hps, hrow, _⟩ := h
  have hidx : (c.state <<< 4) + c.posState < 192 := by rw [Nat.shiftLeft_eq]; omega
  intro i ht
  cases i with
  | lit row col => rw [ht.1] at hrow; exact ⟨hrow, ht.2⟩
  | isMatch i => rw [ht]; exact hidx
  | isRep0Long i => rw [ht]; exact hidx
  | isRep i => rw [ht]; exact hst
  | isRepG0 i => rw [ht]; exact hst
  | isRepG1 i => rw [ht]; exact hst
  | isRepG2 i => rw [ht]; exact hst
  | lenLow _ ps t => rw [ht.1]; exact ⟨hps, ht.2⟩
  | lenMid _ ps t => rw [ht.1]; exact ⟨hps, ht.2⟩
  | _ => exact ht

theorem symTree_safe {R : Nat} {c : Ctx} (h : CtxOk R c) :
    Paths (IdxValid R) (fun e => bad e = false) (fun _ => True) SymP (symTree c) :=
  symTree_paths h.touches
    (fun e he => by have := h.litRow; rwa [he] at this)
    (fun e he => by have := h.matchByte; rwa [he] at this)

/-- `symTree` starts with a probability bit (so it strictly decreases the measure). -/
theorem symTree_isBit (c : Ctx) : ∃ i k, symTree c = .bit i k := ⟨_, _, rfl⟩

end Safety
end Lzma
