/-
  C07: the streaming decoder.  A `Stream` in the `Data` state carries the invariants of the
  symbol loop; every `write`, failed or not, leaves a stream inside the invariant, so safety
  holds for every call sequence (`Reachable`).
-/
import LzmaProofs.Lemmas.SafetyLzma
namespace Lzma
namespace Safety

def RunInv (rs : RunState) : Prop :=
  DStateInv rs.decoder ∧ RCInv { range := rs.range, code := rs.code } ∧ CircSafe rs.output

def StreamInv (st : Stream) : Prop :=
  match st.state with
  | some (.data rs) => RunInv rs
  | _ => True

theorem StreamInv_new (opts : Options) : StreamInv (Stream.newWithOptions opts) := trivial

theorem StreamInv_failed (st : Stream) : StreamInv st.failed := trivial

theorem Stream_readHeader_spec (rd : Rd) (opts : Options) :
    ESafe (fun x => (∀ rs, x.1 = some rs → RunInv rs) ∧ x.2.rem.length ≤ rd.rem.length)
      (Stream.readHeader rd opts) := by
  unfold Stream.readHeader
  have h := readHeader_safe rd opts
  cases hx : Lzma.readHeader rd opts with
  | ok x =>
    obtain ⟨params, rd'⟩ := x
    rw [hx] at h
    obtain ⟨hp, hd, hl⟩ := h
    have h2 := DState_new_safe hp params.unpackedSize
    dsimp only at hp hd hl h2 ⊢
    split
    · rename_i e he; rw [he] at h2; exact h2
    · rename_i decoder hdec
      rw [hdec] at h2
      have h3 := RC_new_safe rd'
      split
      · rename_i rc rd'' hrc
        rw [hrc] at h3
        refine ESafe_ok.mpr ⟨fun rs hrs => ?_, by have := h3.2; dsimp only at this ⊢; omega⟩
        cases hrs
        exact ⟨h2.1, h3.1, CircSafe_fromStream hd⟩
      · exact ESafe_ok.mpr ⟨fun rs hrs => (by cases hrs), hl⟩
  | error e =>
    rw [hx] at h
    cases e <;> first
      | exact h
      | exact ESafe_ok.mpr ⟨fun rs hrs => (by cases hrs), Nat.le_refl _⟩

theorem Stream_readHeader_safe (rd : Rd) (opts : Options) :
    ESafe (fun x => ∀ rs, x.1 = some rs → RunInv rs) (Stream.readHeader rd opts) :=
  (Stream_readHeader_spec rd opts).mono fun _ h => h.1

theorem readData_safe {rs : RunState} (h : RunInv rs) (rd : Rd) :
    MSafe (fun x => RunInv x.1 ∧ x.2.rem.length ≤ rd.rem.length) (Stream.readData rs rd) := by
  unfold Stream.readData
  refine MSafe.bind (processMode_safe (ω := Circ) .stream rd h.1 h.2.2 h.2.1) ?_
  rintro ⟨dec, out, rc, rd'⟩ ⟨h1, h2, h3, h4⟩
  exact MSafe_pure.mpr ⟨⟨h1, h3, h2⟩, h4⟩

/-- `write` keeps the invariant, and the 18-byte staging buffer within its capacity -/
theorem Stream_write_safe {st : Stream} (h : StreamInv st) (data : Bytes) :
    MSafe (fun x => StreamInv x.1 ∧ (st.tmp.length ≤ 18 → x.1.tmp.length ≤ 18)) (st.write data) := by
  unfold Stream.write
  split
  · exact MSafe_pure.mpr ⟨h, id⟩
  · by_cases hc : st.tmp.length > 0 <;> simp only [hc, ↓reduceIte] <;> intro snk <;> dsimp only
    · have := Stream_readHeader_spec
        (Rd.ofBytes (st.tmp ++ List.take (min data.length (MAX_TMP_LEN - st.tmp.length)) data)) st.options
      have hlen : st.tmp.length ≤ 18 →
          (st.tmp ++ List.take (min data.length (MAX_TMP_LEN - st.tmp.length)) data).length ≤ 18 := by
        simp [MAX_TMP_LEN]; omega
      split
      · rename_i e he; rw [he] at this; exact this
      · rename_i rs rd' he
        rw [he] at this
        exact ⟨this.1 rs rfl, fun ht => Nat.le_trans this.2 (hlen ht)⟩
      · exact ⟨trivial, hlen⟩
    · have := Stream_readHeader_spec (Rd.ofBytes data) st.options
      split
      · rename_i e he; rw [he] at this; exact this
      · rename_i rs rd' he
        rw [he] at this
        exact ⟨this.1 rs rfl, id⟩
      · refine ⟨trivial, fun _ => ?_⟩
        show (List.take (min data.length MAX_TMP_LEN) data).length ≤ 18
        simp [MAX_TMP_LEN]; omega
  · rename_i rs hst
    have hrs : RunInv rs := by unfold StreamInv at h; rw [hst] at h; exact h
    extract_lets jp
    have hjp : ∀ rs1, RunInv rs1 →
        MSafe (fun x => StreamInv x.1 ∧ (st.tmp.length ≤ 18 → x.1.tmp.length ≤ 18)) (jp rs1) := by
      intro rs1 h1
      simp -zeta only [jp]
      refine MSafe.bind (readData_safe h1 _) ?_
      rintro ⟨rs2, rd⟩ ⟨h2, _⟩
      exact MSafe_pure.mpr ⟨h2, fun _ => Nat.zero_le _⟩
    split
    · refine MSafe.bind (readData_safe hrs _) ?_
      rintro ⟨rs1, _⟩ ⟨h1, _⟩
      dsimp -zeta only
      rw [mPure_bind]
      exact hjp _ h1
    · rw [mPure_bind]
      exact hjp _ hrs

theorem Stream_writeS_safe {st : Stream} (h : StreamInv st) (data : Bytes) (snk : Sink) :
    StreamInv (st.writeS data snk).2.1 ∧
      (st.tmp.length ≤ 18 → (st.writeS data snk).2.1.tmp.length ≤ 18) ∧
      ESafe (fun _ => True) (st.writeS data snk).2.2 := by
  unfold Stream.writeS
  have := Stream_write_safe h data snk
  split
  · rename_i snk' st' n heq
    rw [heq] at this
    exact ⟨this.1, this.2, trivial⟩
  · rename_i snk' e heq
    rw [heq] at this
    exact ⟨StreamInv_failed st, id, this⟩

theorem Stream_feed_inv {I : Stream → Prop}
    (hw : ∀ st data snk, I st →
      I (Stream.writeS st data snk).2.1 ∧ ESafe (fun _ => True) (Stream.writeS st data snk).2.2) :
    ∀ (fuel : Nat) (st : Stream) (data : Bytes) (acc : Nat) (snk : Sink), I st →
    I (Stream.feed fuel st data acc snk).2.1 ∧
      ESafe (fun _ => True) (Stream.feed fuel st data acc snk).2.2 := by
  intro fuel
  induction fuel with
  | zero => intro st data acc snk h; exact ⟨h, trivial⟩
  | succ fuel ih =>
    intro st data acc snk h
    unfold Stream.feed
    split
    · exact ⟨h, trivial⟩
    · have := hw st data snk h
      split
      · rename_i snk' st' e heq
        rw [heq] at this
        exact this
      · rename_i snk' st' n heq
        rw [heq] at this
        split
        · exact ⟨this.1, trivial⟩
        · exact ih st' _ _ snk' this.1

theorem Stream_feed_safe (fuel : Nat) (st : Stream) (data : Bytes) (acc : Nat) (snk : Sink)
    (h : StreamInv st) :
    StreamInv (Stream.feed fuel st data acc snk).2.1 ∧
      ESafe (fun _ => True) (Stream.feed fuel st data acc snk).2.2 :=
  Stream_feed_inv (fun _ data snk h => ⟨(Stream_writeS_safe h data snk).1,
    (Stream_writeS_safe h data snk).2.2⟩) fuel st data acc snk h

theorem Stream_flush_safe (st : Stream) : MSafe (fun _ => True) st.flush := by
  unfold Stream.flush
  split
  · exact flushSink_safe
  · exact MSafe_pure.mpr trivial

theorem Stream_finish_safe {st : Stream} (h : StreamInv st) : MSafe (fun _ => True) st.finish := by
  unfold Stream.finish
  split
  · simp
  · split <;> simp
  · rename_i rs hst
    have hrs : RunInv rs := by unfold StreamInv at h; rw [hst] at h; exact h
    extract_lets jp
    split
    · refine MSafe.bind (processMode_safe (ω := Circ) .finish _ hrs.1 hrs.2.2 hrs.2.1) ?_
      rintro ⟨_, out, _, _⟩ ⟨_, h2, _, _⟩
      dsimp -zeta only
      rw [mPure_bind]
      exact Circ.finish_safe out h2
    · rw [mPure_bind]
      exact Circ.finish_safe _ hrs.2.2

/-- the streams a caller can ever hold: a fresh one, or the one left behind by a
`write` (successful or not) on a reachable stream with any data and any sink -/
inductive Reachable (opts : Options) : Stream → Prop
  | new : Reachable opts (Stream.newWithOptions opts)
  | write {st : Stream} (h : Reachable opts st) (data : Bytes) (snk : Sink) :
      Reachable opts (st.writeS data snk).2.1

theorem Reachable.inv_tmp {opts : Options} {st : Stream} (h : Reachable opts st) :
    StreamInv st ∧ st.tmp.length ≤ 18 := by
  induction h with
  | new => exact ⟨StreamInv_new opts, Nat.zero_le _⟩
  | write _ data snk ih =>
    have := Stream_writeS_safe ih.1 data snk
    exact ⟨this.1, this.2.1 ih.2⟩

theorem Reachable.inv {opts : Options} {st : Stream} (h : Reachable opts st) : StreamInv st :=
  h.inv_tmp.1

theorem Reachable.tmp_le {opts : Options} {st : Stream} (h : Reachable opts st) :
    st.tmp.length ≤ 18 :=
  h.inv_tmp.2

theorem Reachable.feed {opts : Options} : ∀ (fuel : Nat) {st : Stream} (data : Bytes) (acc : Nat)
    (snk : Sink), Reachable opts st → Reachable opts (Stream.feed fuel st data acc snk).2.1 :=
  fun fuel st data acc snk h => (Stream_feed_inv (I := Reachable opts) (fun _ data snk h =>
    ⟨.write h data snk, (Stream_writeS_safe h.inv data snk).2.2⟩) fuel st data acc snk h).1

end Safety
end Lzma
