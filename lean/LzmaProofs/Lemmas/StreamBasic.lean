/-
  Basic facts about `Stream` (C16; also used by C05 and `MemLimit`): `write` in Data state as `tmpRun` followed by one
  `read_data`, the "size reached" fixpoint of `processMode .stream`, the latching of the
  `none` state, the call language `Stream.Call` / `stepCall` / `runCalls` that C16 is stated with.
-/
import LzmaProofs.Lemmas.Monad
namespace Lzma

theorem StreamBasic.liftE_pure_run {α : Type} (a : α) (s : Sink) :
    (liftE (pure a : Except Err α) : M α) s = (s, .ok a) := rfl

/-! ## `processLoop` stops at once when the unpacked size is reached -/

theorem DState.processLoop_size_reached {ω : Type} [LzBuf ω] (mode : DState.Mode) (fuel : Nat)
    (s : DState) (w : ω) (rc : RC) (rd : Rd) (snk : Sink) (n : Nat)
    (hn : s.unpackedSize = some n) (hlen : LzBuf.len w ≥ n) :
    DState.processLoop mode (fuel + 1) s w rc rd snk = (snk, .ok (s, w, rc, rd)) := by
  unfold DState.processLoop
  simp [hn, hlen, bind_run, StreamBasic.liftE_pure_run]

theorem DState.loopFuel_succ (s : DState) (rd : Rd) :
    ∃ k, DState.loopFuel s rd = k + 1 := ⟨_, rfl⟩

theorem DState.processMode_stream_size_reached {ω : Type} [LzBuf ω]
    (s : DState) (w : ω) (rc : RC) (rd : Rd) (snk : Sink) (n : Nat)
    (hn : s.unpackedSize = some n) (hlen : LzBuf.len w ≥ n) :
    DState.processMode .stream s w rc rd snk = (snk, .ok (s, w, rc, rd)) := by
  unfold DState.processMode
  obtain ⟨k, hk⟩ := DState.loopFuel_succ s rd
  rw [hk, bind_run, DState.processLoop_size_reached _ _ _ _ _ _ _ n hn hlen]
  simp [hn]

namespace Stream

theorem readData_size_reached (rs : RunState) (rd : Rd) (snk : Sink) (n : Nat)
    (hn : rs.decoder.unpackedSize = some n) (hlen : rs.output.len ≥ n) :
    readData rs rd snk = (snk, .ok (rs, rd)) := by
  unfold readData
  have hlen' : LzBuf.len rs.output ≥ n := hlen
  exact (bind_run_ok (DState.processMode_stream_size_reached (ω := Circ) rs.decoder rs.output
    _ _ _ n hn hlen')).trans rfl

/-! ## `write` in Data state -/

/-- the first phase of `write` in Data state: bytes still staged in `tmp` go through `read_data`
(what that leaves unread is dropped) -/
def tmpRun (st : Stream) (rs : RunState) : M RunState :=
  if st.tmp.length > 0 then do
    let (rs, _) ← readData rs (Rd.ofBytes st.tmp)
    pure rs
  else pure rs

theorem tmpRun_ok_inv {st : Stream} {rs rs1 : RunState} {snk k : Sink}
    (h : tmpRun st rs snk = (k, .ok rs1)) :
    (st.tmp = [] ∧ k = snk ∧ rs1 = rs) ∨
      (st.tmp ≠ [] ∧ ∃ rd, readData rs ⟨st.tmp, false⟩ snk = (k, .ok (rs1, rd))) := by
  unfold tmpRun at h
  split at h
  · rename_i ht
    obtain ⟨⟨rs', rd⟩, k', h1, h2⟩ := mBind_eq_ok.mp h
    obtain ⟨rfl, rfl⟩ := mPure_eq_ok.mp h2
    exact .inr ⟨List.length_pos_iff.mp ht, rd, h1⟩
  · rename_i ht
    obtain ⟨rfl, rfl⟩ := mPure_eq_ok.mp h
    exact .inl ⟨List.eq_nil_of_length_eq_zero (by omega), rfl, rfl⟩

theorem tmpRun_err_inv {st : Stream} {rs : RunState} {snk k : Sink} {e : Err}
    (h : tmpRun st rs snk = (k, .error e)) :
    st.tmp ≠ [] ∧ readData rs ⟨st.tmp, false⟩ snk = (k, .error e) := by
  unfold tmpRun at h
  split at h
  · rename_i ht
    rcases mBind_eq_error.mp h with h1 | ⟨x, k', _, h2⟩
    · exact ⟨List.length_pos_iff.mp ht, h1⟩
    · simp at h2
  · simp at h

/-- the join point of `write`'s two branches, as a bind (`m`, `f` stay opaque: they contain the
symbol loop with its fuel) -/
theorem ite_bind_jp {α β γ : Type} (c : Prop) [Decidable c] (m : M (α × γ)) (a : α) (f : α → M β) :
    (if c then (do let (x, _) ← m; let y ← pure x; f y) else (do let y ← pure a; f y)) =
      ((if c then (do let (x, _) ← m; pure x) else pure a) >>= f) := by
  funext snk
  split
  · simp only [bind_run]
    rcases m snk with ⟨k1, e | ⟨x, z⟩⟩ <;> rfl
  · rfl

theorem write_data_eq {st : Stream} {rs : RunState} (hs : st.state = some (.data rs)) (data : Bytes) :
    st.write data = (do
      let rs ← tmpRun st rs
      let (rs, rd) ← readData rs (Rd.ofBytes data)
      pure ({ st with tmp := [], state := some (.data rs) }, data.length - rd.rem.length)) := by
  unfold write tmpRun
  rw [hs]
  exact ite_bind_jp _ _ _ _

theorem write_data_ok_iff {st st' : Stream} {rs : RunState} (hs : st.state = some (.data rs))
    {data : Bytes} {snk k : Sink} {n : Nat} :
    st.write data snk = (k, .ok (st', n)) ↔ ∃ rs1 k1 rs2 rd2, tmpRun st rs snk = (k1, .ok rs1) ∧
      readData rs1 ⟨data, false⟩ k1 = (k, .ok (rs2, rd2)) ∧
      st' = { st with tmp := [], state := some (.data rs2) } ∧ n = data.length - rd2.rem.length := by
  rw [write_data_eq hs]
  simp only [mBind_eq_ok, mPure_eq_ok, Prod.mk.injEq, Prod.exists, Rd.ofBytes]
  constructor
  · rintro ⟨rs1, k1, h1, rs2, rd2, k2, h2, ⟨rfl, rfl⟩, rfl⟩
    exact ⟨rs1, k1, rs2, rd2, h1, h2, rfl, rfl⟩
  · rintro ⟨rs1, k1, rs2, rd2, h1, h2, rfl, rfl⟩
    exact ⟨rs1, k1, h1, rs2, rd2, k, h2, ⟨rfl, rfl⟩, rfl⟩

theorem write_data_err_iff {st : Stream} {rs : RunState} (hs : st.state = some (.data rs))
    {data : Bytes} {snk k : Sink} {e : Err} :
    st.write data snk = (k, .error e) ↔ tmpRun st rs snk = (k, .error e) ∨
      ∃ rs1 k1, tmpRun st rs snk = (k1, .ok rs1) ∧
        readData rs1 ⟨data, false⟩ k1 = (k, .error e) := by
  rw [write_data_eq hs, mBind_eq_error]
  refine or_congr Iff.rfl (exists_congr fun rs1 => exists_congr fun k1 => and_congr Iff.rfl ?_)
  rw [mBind_eq_error]
  simp only [pure_run, Prod.mk.injEq, reduceCtorEq, and_false, exists_false, or_false,
    Rd.ofBytes]

theorem write_size_reached (st : Stream) (rs : RunState) (data : Bytes) (snk : Sink) (n : Nat)
    (hst : st.state = some (.data rs))
    (hn : rs.decoder.unpackedSize = some n) (hlen : rs.output.len ≥ n) :
    st.write data snk = (snk, .ok ({ st with tmp := [], state := some (.data rs) }, 0)) := by
  have hr := fun rd => readData_size_reached rs rd snk n hn hlen
  have ht : tmpRun st rs snk = (snk, .ok rs) := by
    unfold tmpRun
    split
    · exact (bind_run_ok (hr _)).trans rfl
    · rfl
  rw [write_data_eq hst]
  refine (bind_run_ok ht).trans ((bind_run_ok (hr _)).trans ?_)
  simp [Rd.ofBytes]

/-! ## the `none` state latches -/

theorem write_none (st : Stream) (data : Bytes) (snk : Sink) (h : st.state = none) :
    st.write data snk = (snk, .ok (st, 0)) := by
  unfold write; rw [h]; rfl

theorem writeS_none (st : Stream) (data : Bytes) (snk : Sink) (h : st.state = none) :
    st.writeS data snk = (snk, st, .ok 0) := by
  unfold writeS; rw [write_none st data snk h]

theorem flush_none (st : Stream) (snk : Sink) (h : st.state = none) :
    st.flush snk = (snk, .ok ()) := by
  unfold flush; rw [h]; rfl

theorem finish_none (st : Stream) (snk : Sink) (h : st.state = none) :
    st.finish snk = (snk, .error .lzma) := by
  unfold finish; rw [h]; rfl

theorem writeS_ok_iff {st st' : Stream} {data : Bytes} {snk k : Sink} {n : Nat} :
    st.writeS data snk = (k, st', .ok n) ↔ st.write data snk = (k, .ok (st', n)) := by
  unfold writeS
  rcases st.write data snk with ⟨k', e | ⟨st1, n1⟩⟩
  · simp
  · simp only [Prod.mk.injEq, Except.ok.injEq]

theorem writeS_err_iff {st st' : Stream} {data : Bytes} {snk k : Sink} {e : Err} :
    st.writeS data snk = (k, st', .error e) ↔ st.write data snk = (k, .error e) ∧ st' = st.failed := by
  unfold writeS
  rcases st.write data snk with ⟨k', e' | ⟨st1, n1⟩⟩
  · simp only [Prod.mk.injEq, Except.error.injEq]
    exact ⟨fun ⟨h1, h2, h3⟩ => ⟨⟨h1, h3⟩, h2.symm⟩, fun ⟨⟨h1, h3⟩, h2⟩ => ⟨h1, h2.symm, h3⟩⟩
  · simp

theorem writeS_error_state {st st' : Stream} {data : Bytes} {snk snk' : Sink} {e : Err}
    (h : st.writeS data snk = (snk', st', .error e)) : st'.state = none ∧ st' = st.failed :=
  have := (writeS_err_iff.mp h).2
  ⟨by rw [this]; rfl, this⟩

/-! ## the `header` state never touches the sink -/

theorem write_header_sink (st : Stream) (data : Bytes) (snk : Sink) (h : st.state = some .header) :
    (st.write data snk).1 = snk := by
  unfold write; rw [h]; dsimp only
  by_cases hh : st.tmp.length > 0
  · simp only [hh, ↓reduceIte]; split <;> rfl
  · simp only [hh, ↓reduceIte]; split <;> rfl

theorem writeS_fst (st : Stream) (data : Bytes) (snk : Sink) :
    (st.writeS data snk).1 = (st.write data snk).1 := by
  unfold writeS
  rcases st.write data snk with ⟨k, e | ⟨st1, n⟩⟩ <;> rfl

theorem writeS_header_sink (st : Stream) (data : Bytes) (snk : Sink) (h : st.state = some .header) :
    (st.writeS data snk).1 = snk :=
  (writeS_fst st data snk).trans (write_header_sink st data snk h)

theorem flush_header (st : Stream) (snk : Sink) (h : st.state = some .header) :
    st.flush snk = (snk, .ok ()) := by
  unfold flush; rw [h]; rfl

theorem write_data_state {st st' : Stream} {rs : RunState} {data : Bytes} {snk snk' : Sink} {n : Nat}
    (hst : st.state = some (.data rs)) (h : st.write data snk = (snk', .ok (st', n))) :
    ∃ rs', st'.state = some (.data rs') := by
  obtain ⟨_, _, rs2, _, _, _, rfl, _⟩ := (write_data_ok_iff hst).mp h
  exact ⟨rs2, rfl⟩

/-! ## the call language -/

/-- one call on the `Write` interface of a `Stream` -/
inductive Call where
  | write (data : Bytes)
  | flush
  deriving Repr, Inhabited

/-- `<Stream as Write>::flush` as a transition (the stream object is not changed);
reports `ok 0` or the error -/
def flushS (st : Stream) (snk : Sink) : Sink × Stream × Except Err Nat :=
  match st.flush snk with
  | (snk', .ok _) => (snk', st, .ok 0)
  | (snk', .error e) => (snk', st, .error e)

def stepCall (c : Call) (st : Stream) (snk : Sink) : Sink × Stream × Except Err Nat :=
  match c with
  | .write data => st.writeS data snk
  | .flush => st.flushS snk

def runCalls : List Call → Stream → Sink → Sink × Stream × List (Except Err Nat)
  | [], st, snk => (snk, st, [])
  | c :: cs, st, snk =>
    match stepCall c st snk with
    | (snk1, st1, r) =>
      match runCalls cs st1 snk1 with
      | (snk2, st2, rs) => (snk2, st2, r :: rs)

theorem runCalls_append (cs ds : List Call) (st : Stream) (snk : Sink) :
    runCalls (cs ++ ds) st snk =
      match runCalls cs st snk with
      | (snk1, st1, rs) =>
        match runCalls ds st1 snk1 with
        | (snk2, st2, rs') => (snk2, st2, rs ++ rs') := by
  induction cs generalizing st snk with
  | nil => simp [runCalls]
  | cons c cs ih => simp [runCalls, ih]

theorem stepCall_none (c : Call) (st : Stream) (snk : Sink) (h : st.state = none) :
    stepCall c st snk = (snk, st, .ok 0) := by
  cases c with
  | write data => exact writeS_none st data snk h
  | flush => simp [stepCall, flushS, flush_none st snk h]

theorem runCalls_none (cs : List Call) (st : Stream) (snk : Sink) (h : st.state = none) :
    runCalls cs st snk = (snk, st, cs.map fun _ => .ok 0) := by
  induction cs with
  | nil => rfl
  | cons c cs ih => simp [runCalls, stepCall_none c st snk h, ih]

theorem flushS_state (st : Stream) (snk : Sink) : (st.flushS snk).2.1 = st := by
  unfold flushS; split <;> rfl

theorem stepCall_to_header {c : Call} {st st' : Stream} {snk snk' : Sink} {r : Except Err Nat}
    (h : stepCall c st snk = (snk', st', r)) (hst' : st'.state = some .header) :
    st.state = some .header ∧ snk' = snk := by
  have hst : st.state = some .header := by
    cases c with
    | flush =>
      have := flushS_state st snk
      simp only [stepCall] at h
      rw [h] at this; simp only at this; rw [← this]; exact hst'
    | write data =>
      simp only [stepCall] at h
      rcases r with e | n
      · rw [(writeS_error_state h).1] at hst'; cases hst'
      · have hw := writeS_ok_iff.mp h
        match hs : st.state with
        | none =>
          rw [write_none st data snk hs] at hw
          simp only [Prod.mk.injEq, Except.ok.injEq] at hw
          rw [← hw.2.1, hs] at hst'; cases hst'
        | some .header => rfl
        | some (.data rs) =>
          obtain ⟨rs', hrs'⟩ := write_data_state hs hw
          rw [hrs'] at hst'; cases hst'
  refine ⟨hst, ?_⟩
  cases c with
  | flush =>
    simp only [stepCall, flushS, flush_header st snk hst, Prod.mk.injEq] at h
    exact h.1.symm
  | write data =>
    have := writeS_header_sink st data snk hst
    simp only [stepCall] at h
    rw [h] at this; exact this

theorem runCalls_to_header {cs : List Call} {st st' : Stream} {snk snk' : Sink}
    {rs : List (Except Err Nat)}
    (h : runCalls cs st snk = (snk', st', rs)) (hst' : st'.state = some .header) :
    st.state = some .header ∧ snk' = snk := by
  induction cs generalizing st snk rs with
  | nil =>
    simp only [runCalls, Prod.mk.injEq] at h
    obtain ⟨rfl, rfl, -⟩ := h
    exact ⟨hst', rfl⟩
  | cons c cs ih =>
    simp only [runCalls] at h
    rcases h1 : stepCall c st snk with ⟨snk1, st1, r⟩
    rcases h2 : runCalls cs st1 snk1 with ⟨snk2, st2, rs2⟩
    rw [h1] at h; dsimp only at h; rw [h2] at h
    simp only [Prod.mk.injEq] at h
    obtain ⟨rfl, rfl, -⟩ := h
    obtain ⟨hs1, rfl⟩ := ih h2
    exact stepCall_to_header h1 hs1

end Stream

end Lzma
