/-
  Lemmas for C13 (whole decoders): the reader-generic decoders of
  `LzmaModel/FDecoders.lean` are the model decoders at `ρ := Rd` (`…G_Rd`), and run on
  related readers (`DecSrcRel`, instance `FRd.decSrcRel`) they produce the same sink and related
  results (`RelM`, lemmas `…G_rel`).  The symbol loop is related only with `partialBuf = []`
  (`LoopRel`, `ChunkRel`): the staged branch does one raw `read`, whose result depends on the
  fragmentation, so `DecSrcRel` has no field for `read`.
-/
import LzmaModel.FDecoders
import LzmaProofs.Lemmas.FReader
import LzmaProofs.Lemmas.Reset
namespace Lzma
namespace FD

section atRd
variable {ω : Type} [LzBuf ω]

theorem content_Rd (rd : Rd) : DecSrc.content rd = rd.rem := rfl
theorem read_Rd (rd : Rd) (n : Nat) : DecSrc.read rd n = rd.readRaw n := rfl
theorem readExact_Rd (rd : Rd) (n : Nat) : DecSrc.readExact rd n = rd.readExact n := rfl
theorem readU16BE_Rd (rd : Rd) : DecSrc.readU16BE rd = rd.readU16BE := rfl
theorem readU32LE_Rd (rd : Rd) : DecSrc.readU32LE rd = rd.readU32LE := rfl
theorem readU64LE_Rd (rd : Rd) : DecSrc.readU64LE rd = rd.readU64LE := rfl
theorem readTag_Rd (rd : Rd) (t : Bytes) : DecSrc.readTag rd t = rd.readTag t := rfl
theorem flushZeroPadding_Rd (rd : Rd) : DecSrc.flushZeroPadding rd = rd.flushZeroPadding := rfl
theorem take_Rd (rd : Rd) (n : Nat) : DecSrc.take rd n = rd.split n := rfl
theorem unsplit_Rd (rd i : Rd) (r : Bytes) : DecSrc.unsplit rd i r = rd.unsplit i r := rfl
theorem readU8_Rd (rd : Rd) : ByteSrc.readU8 rd = rd.readU8 := rfl
theorem readU32BE_Rd (rd : Rd) : ByteSrc.readU32BE rd = rd.readU32BE := rfl
theorem isEof_Rd (rd : Rd) : ByteSrc.isEof rd = rd.isEof := rfl

/-! The decoders: equalities of functions, so that `rw` reaches the calls inside continuations. -/

theorem applySymG_Rd : DState.applySymG (ρ := Rd) (ω := ω) = DState.applySym := by
  funext s w rc rd sym
  cases sym <;> rfl

theorem processNextG_Rd : DState.processNextG (ρ := Rd) (ω := ω) = DState.processNext := by
  funext s w rc rd
  unfold DState.processNextG DState.processNext
  rw [applySymG_Rd]
  simp only [runDecG_Rd]

theorem readPartialInputBufG_Rd :
    DState.readPartialInputBufG (ρ := Rd) = DState.readPartialInputBuf := by
  funext s rd
  unfold DState.readPartialInputBufG DState.readPartialInputBuf
  rw [read_Rd]
  unfold Rd.readRaw
  by_cases h : DState.MAX_REQUIRED_INPUT - s.partialBuf.length > 0 ∧ rd.rem.isEmpty ∧ rd.bad
  · simp only [h, and_self, if_true]
  · simp only [h, if_false]

theorem processLoopG_Rd : DState.processLoopG (ρ := Rd) (ω := ω) = DState.processLoop .finish := by
  funext fuel
  induction fuel with
  | zero => rfl
  | succ fuel ih =>
    funext s w rc rd
    unfold DState.processLoopG DState.processLoop
    rw [ih, processNextG_Rd, readPartialInputBufG_Rd]
    simp only [reduceCtorEq, false_and, if_false]
    rfl

theorem processModeG_Rd : DState.processModeG (ρ := Rd) (ω := ω) = DState.processMode .finish := by
  funext s w rc rd
  unfold DState.processModeG DState.processMode
  rw [processLoopG_Rd]
  simp only [true_and]
  rfl

theorem readHeaderG_Rd : readHeaderG (ρ := Rd) = readHeader := by
  funext rd opts; rfl

theorem LzmaDecoder.decompressG_Rd : LzmaDecoder.decompressG (ρ := Rd) = LzmaDecoder.decompress := by
  funext d rd
  unfold LzmaDecoder.decompressG LzmaDecoder.decompress
  rw [processModeG_Rd, RC.newG_Rd]
  cases RC.new rd <;> rfl

theorem lzmaDecompressG_Rd : lzmaDecompressG (ρ := Rd) = lzmaDecompress := by
  funext rd opts
  unfold lzmaDecompressG lzmaDecompress
  rw [LzmaDecoder.decompressG_Rd, readHeaderG_Rd]

theorem parseUncompressedG_Rd :
    Lzma2Decoder.parseUncompressedG (ρ := Rd) = Lzma2Decoder.parseUncompressed := by
  funext accum rd r; rfl

theorem parseLzmaG_Rd : Lzma2Decoder.parseLzmaG (ρ := Rd) = Lzma2Decoder.parseLzma := by
  funext d accum rd status
  unfold Lzma2Decoder.parseLzmaG Lzma2Decoder.parseLzma
  rw [processModeG_Rd]
  rfl

theorem chunkLoopG_Rd : Lzma2Decoder.chunkLoopG (ρ := Rd) = Lzma2Decoder.chunkLoop := by
  funext fuel
  induction fuel with
  | zero => rfl
  | succ fuel ih =>
    funext d accum rd
    unfold Lzma2Decoder.chunkLoopG Lzma2Decoder.chunkLoop
    rw [ih, parseLzmaG_Rd, parseUncompressedG_Rd]
    rfl

theorem Lzma2Decoder.decompressG_Rd :
    Lzma2Decoder.decompressG (ρ := Rd) = Lzma2Decoder.decompress := by
  funext d rd
  unfold Lzma2Decoder.decompressG Lzma2Decoder.decompress
  rw [chunkLoopG_Rd]
  rfl

theorem lzma2DecompressG_Rd : lzma2DecompressG (ρ := Rd) = lzma2Decompress := by
  funext rd
  unfold lzma2DecompressG lzma2Decompress
  rw [Lzma2Decoder.decompressG_Rd]

theorem parseStreamHeaderG_Rd : parseStreamHeaderG (ρ := Rd) = parseStreamHeader := by
  funext rd; rfl

theorem getMultibyteAuxG_Rd : getMultibyteAuxG (ρ := Rd) = getMultibyteAux := by
  funext fuel
  induction fuel with
  | zero => rfl
  | succ fuel ih =>
    funext i result acc rd
    unfold getMultibyteAuxG getMultibyteAux
    rw [ih]
    rfl

theorem getMultibyteG_Rd : getMultibyteG (ρ := Rd) = getMultibyte := by
  funext rd
  unfold getMultibyteG getMultibyte
  rw [getMultibyteAuxG_Rd]

theorem readZeroBytesG_Rd : readZeroBytesG (ρ := Rd) = readZeroBytes := by
  funext n
  induction n with
  | zero => rfl
  | succ n ih =>
    funext acc rd
    unfold readZeroBytesG readZeroBytes
    rw [ih]
    rfl

theorem checkRecordsG_Rd : checkRecordsG (ρ := Rd) = checkRecords := by
  funext rs
  induction rs with
  | nil => rfl
  | cons r rs ih =>
    funext dig rd
    unfold checkRecordsG checkRecords
    rw [ih, getMultibyteG_Rd]

theorem checkIndexG_Rd : checkIndexG (ρ := Rd) = checkIndex := by
  funext start rs rd
  unfold checkIndexG checkIndex
  rw [checkRecordsG_Rd, getMultibyteG_Rd, readZeroBytesG_Rd]
  rfl

theorem readFiltersG_Rd : readFiltersG (ρ := Rd) = readFilters := by
  funext n
  induction n with
  | zero => rfl
  | succ n ih =>
    funext hs acc rd
    unfold readFiltersG readFilters
    rw [ih, getMultibyteG_Rd]
    refine congrArg _ (funext fun (id, _, rd) => ?_)
    refine ite_congr rfl (fun _ => rfl) fun _ => ?_
    refine congrArg _ (funext fun (sz, _, rd) => ?_)
    refine ite_congr rfl (fun _ => rfl) fun _ => ?_
    rw [readExact_Rd]
    cases rd.readExact sz <;> rfl

theorem readBlockHeaderG_Rd : readBlockHeaderG (ρ := Rd) = readBlockHeader := by
  funext rd hs
  unfold readBlockHeaderG readBlockHeader
  rw [readFiltersG_Rd, getMultibyteG_Rd]
  rfl

theorem decodeFilterG_Rd : decodeFilterG (ρ := Rd) = decodeFilter := by
  funext rd f
  unfold decodeFilterG decodeFilter
  rw [Lzma2Decoder.decompressG_Rd]
  refine ite_congr rfl (fun _ => rfl) fun _ => ?_
  refine congrArg _ (funext fun d => ?_)
  rcases d.decompress rd {} with ⟨snk, e | ⟨_, rd'⟩⟩ <;> rfl

theorem validateBlockCheckG_Rd : validateBlockCheckG (ρ := Rd) = validateBlockCheck := by
  funext rd buf c
  cases c <;> rfl

theorem readBlockG_Rd : readBlockG (ρ := Rd) = readBlock := by
  funext start rd check hs
  unfold readBlockG readBlock
  rw [readBlockHeaderG_Rd, decodeFilterG_Rd, readZeroBytesG_Rd, validateBlockCheckG_Rd]
  rfl

theorem blockLoopG_Rd : blockLoopG (ρ := Rd) = blockLoop := by
  funext check fuel
  induction fuel with
  | zero => rfl
  | succ fuel ih =>
    funext rs rd
    unfold blockLoopG blockLoop
    rw [ih, readBlockG_Rd, checkIndexG_Rd]
    rfl

theorem xzDecompressG_Rd : xzDecompressG (ρ := Rd) = xzDecompress := by
  funext rd
  unfold xzDecompressG xzDecompress
  rw [blockLoopG_Rd, parseStreamHeaderG_Rd]
  rfl

end atRd

theorem getMultibyteAuxG_FRd (fuel i result : Nat) (acc : Bytes) (fr : FRd) :
    getMultibyteAuxG fuel i result acc fr = FRd.getMultibyteAux fuel i result acc fr := by
  induction fuel generalizing i result acc fr with
  | zero => rfl
  | succ fuel ih =>
    unfold getMultibyteAuxG FRd.getMultibyteAux
    simp only [ih]
    rfl

theorem getMultibyteG_FRd (fr : FRd) : getMultibyteG fr = fr.getMultibyte :=
  getMultibyteAuxG_FRd 9 0 0 [] fr

/-- same resulting sink; results related as by `RelE` -/
def RelM (R : α → β → Prop) (x : M α) (y : M β) : Prop :=
  ∀ s, (x s).1 = (y s).1 ∧ RelE R (x s).2 (y s).2

theorem RelM.pure {R : α → β → Prop} {a : α} {b : β} (h : R a b) :
    RelM R (pure a : M α) (pure b : M β) := fun _ => ⟨rfl, h⟩

theorem RelM.throwM {R : α → β → Prop} (e : Err) : RelM R (throwM e : M α) (throwM e : M β) :=
  fun _ => ⟨rfl, rfl⟩

theorem RelM.liftE {R : α → β → Prop} {x : Except Err α} {y : Except Err β} (h : RelE R x y) :
    RelM R (liftE x) (liftE y) := fun _ =>
  h.elim (fun _ => ⟨rfl, rfl⟩) fun _ _ h => ⟨rfl, h⟩

theorem RelM.bind {R : α → β → Prop} {S : γ → δ → Prop} {x : M α} {y : M β}
    {f : α → M γ} {g : β → M δ} (hxy : RelM R x y) (hfg : ∀ a b, R a b → RelM S (f a) (g b)) :
    RelM S (x >>= f) (y >>= g) := by
  intro s
  obtain ⟨h1, h2⟩ := hxy s
  rw [bind_run, bind_run]
  revert h1 h2
  rcases x s with ⟨s1, r1⟩
  rcases y s with ⟨s2, r2⟩
  rintro rfl h2
  exact (show RelE R r1 r2 from h2).elim (fun _ => ⟨rfl, rfl⟩) fun a b h => hfg a b h s1

theorem RelM.bindV {ρ₁ ρ₂ : Type} {S : ρ₁ → ρ₂ → Prop} {T : γ → δ → Prop} {x : M (α × ρ₁)}
    {y : M (α × ρ₂)} {f : α × ρ₁ → M γ} {g : α × ρ₂ → M δ} (hxy : RelM (RelV S) x y)
    (hfg : ∀ v a b, S a b → RelM T (f (v, a)) (g (v, b))) : RelM T (x >>= f) (y >>= g) :=
  hxy.bind fun (v, a) (_, b) ⟨hv, hs⟩ => by cases hv; exact hfg v a b hs

theorem RelM.bindEq {T : γ → δ → Prop} {x y : M α} {f : α → M γ} {g : α → M δ}
    (hxy : RelM (· = ·) x y) (hfg : ∀ a, RelM T (f a) (g a)) : RelM T (x >>= f) (y >>= g) :=
  hxy.bind fun a _ e => e ▸ hfg a

theorem RelM.throw_bind {S : γ → δ → Prop} (e : Err) {f : α → M γ} {g : β → M δ} :
    RelM S (Lzma.throwM e >>= f) (Lzma.throwM e >>= g) := fun _ => ⟨rfl, rfl⟩

theorem RelM.ite {R : α → β → Prop} {c : Prop} [Decidable c] {x x' : M α} {y y' : M β}
    (ht : RelM R x y) (he : RelM R x' y') : RelM R (if c then x else x') (if c then y else y') := by
  split <;> assumption

theorem RelM.mono {R R' : α → β → Prop} {x : M α} {y : M β} (h : RelM R x y)
    (hR : ∀ a b, R a b → R' a b) : RelM R' x y := fun s => ⟨(h s).1, (h s).2.mono hR⟩

theorem RelM.refl (x : M α) : RelM (· = ·) x x := fun _ => ⟨rfl, RelE.refl_eq _⟩

theorem RelM.join {R : α → γ → Prop} {R' : β → γ → Prop} {T : α → β → Prop}
    {x : M α} {y : M β} {z : M γ}
    (h1 : RelM R x z) (h2 : RelM R' y z) (hT : ∀ a b c, R a c → R' b c → T a b) :
    RelM T x y := fun s =>
  ⟨(h1 s).1.trans (h2 s).1.symm, RelE.join (h1 s).2 (h2 s).2 hT⟩

/-- the operations of two readers map `S`-related readers to related results
(`T` relates what `take` leaves behind).  No field for the raw `read`: its result depends on the
fragmentation. -/
structure DecSrcRel {ρ₁ ρ₂ : Type} [ByteSrc ρ₁] [ByteSrc ρ₂] [DecSrc ρ₁] [DecSrc ρ₂]
    (S : ρ₁ → ρ₂ → Prop) (T : DecSrc.Rest ρ₁ → DecSrc.Rest ρ₂ → Prop) : Prop
    extends ByteSrcRel S where
  content : ∀ a b, S a b → DecSrc.content a = DecSrc.content b
  fillBufOk : ∀ a b, S a b → RelE (· = ·) (DecSrc.fillBufOk a) (DecSrc.fillBufOk b)
  readExact : ∀ a b n, S a b → RelE (RelV S) (DecSrc.readExact a n) (DecSrc.readExact b n)
  readU16BE : ∀ a b, S a b → RelE (RelV S) (DecSrc.readU16BE a) (DecSrc.readU16BE b)
  readU32LE : ∀ a b, S a b → RelE (RelV S) (DecSrc.readU32LE a) (DecSrc.readU32LE b)
  readU64LE : ∀ a b, S a b → RelE (RelV S) (DecSrc.readU64LE a) (DecSrc.readU64LE b)
  readTag : ∀ a b t, S a b → RelE (RelV S) (DecSrc.readTag a t) (DecSrc.readTag b t)
  /-- the verdict always agrees; the remaining readers only when it is `true` -/
  flushZeroPadding : ∀ a b, S a b →
    RelE (fun x y => x.1 = y.1 ∧ (x.1 = true → S x.2 y.2))
      (DecSrc.flushZeroPadding a) (DecSrc.flushZeroPadding b)
  take : ∀ a b n, S a b → S (DecSrc.take a n).1 (DecSrc.take b n).1 ∧
    T (DecSrc.take a n).2 (DecSrc.take b n).2
  unsplit : ∀ a b ia ib ra rb, S a b → S ia ib → T ra rb →
    S (DecSrc.unsplit a ia ra) (DecSrc.unsplit b ib rb)

theorem FRd.decSrcRel :
    DecSrcRel FRd.Sim (fun (ra : List Bytes) (rb : Bytes) => (∀ f ∈ ra, f ≠ []) ∧ ra.flatten = rb) where
  toByteSrcRel := FRd.byteSrcRel
  content := fun _ _ h => h.rem.symm
  fillBufOk := fun a b h => by
    show RelE _ (FRd.fillBufOk a) (Rd.fillBuf b)
    unfold FRd.fillBufOk
    exact (FRd.fillBuf_sim h).elim (fun _ => rfl) fun _ _ _ => rfl
  readExact := fun _ _ n h => FRd.readExact_sim h n
  readU16BE := fun _ _ h => FRd.readExact_map_sim h 2 beVal
  readU32LE := fun _ _ h => FRd.readExact_map_sim h 4 leVal
  readU64LE := fun _ _ h => FRd.readExact_map_sim h 8 leVal
  readTag := fun _ _ t h => FRd.readExact_map_sim h t.length (· == t)
  flushZeroPadding := fun a b h => by
    refine (FRd.flushZeroPadding_sim h).mono ?_
    rintro x y ⟨h1, h2, _, h4, _⟩
    exact ⟨h1, fun ht => ⟨h2, h4 ht⟩⟩
  take := fun _ _ n h => FRd.take_sim h n
  unsplit := fun _ _ _ _ _ _ h hi hr => FRd.unsplit_sim h hi hr

theorem hdrErr_rel {R : α → β → Prop} {x : Except Err α} {y : Except Err β} (h : RelE R x y) :
    RelE R (hdrErr x) (hdrErr y) :=
  h.elim (fun _ => rfl) fun _ _ h => h

theorem lzErr_rel {R : α → β → Prop} {x : Except Err α} {y : Except Err β} (h : RelE R x y) :
    RelE R (lzErr x) (lzErr y) :=
  h.elim (fun _ => rfl) fun _ _ h => h

theorem Lzma2Decoder.new_partialBuf {d : Lzma2Decoder} (h : Lzma2Decoder.new = .ok d) :
    d.lzmaState.partialBuf = [] := by
  rw [Lzma2Decoder.new_eq_fresh] at h
  cases h; rfl

section rel
variable {ρ₁ ρ₂ : Type} [ByteSrc ρ₁] [ByteSrc ρ₂] {S : ρ₁ → ρ₂ → Prop}
variable {ω : Type} [LzBuf ω]

theorem applySymG_rel (hS : ByteSrcRel S) (s : DState) (w : ω) (rc : RC) {a : ρ₁} {b : ρ₂}
    (h : S a b) (sym : RawSym) :
    RelM (fun x y => x = y ∧ x.2.1.partialBuf = s.partialBuf)
      (DState.applySymG s w rc a sym) (DState.applySymG s w rc b sym) := by
  cases sym with
  | lit byte => exact (RelM.refl _).bindEq fun _ => RelM.pure ⟨rfl, rfl⟩
  | shortRep => exact (RelM.refl _).bindEq fun _ => RelM.pure ⟨rfl, rfl⟩
  | rep idx len =>
    refine (RelM.refl _).bindEq fun _ => RelM.pure ⟨rfl, ?_⟩
    dsimp only
    split <;> rfl
  | mtch len r0 =>
    refine RelM.ite ?_ ((RelM.refl _).bindEq fun _ => RelM.pure ⟨rfl, rfl⟩)
    exact (RelM.liftE (RC.isFinishedOkG_rel hS rc h)).bindEq fun _ =>
      RelM.ite (RelM.pure ⟨rfl, rfl⟩) (RelM.throwM _)

def NextRel (S : ρ₁ → ρ₂ → Prop) (s : DState) (x : DState.Status × DState × ω × RC × ρ₁)
    (y : DState.Status × DState × ω × RC × ρ₂) : Prop :=
  x.1 = y.1 ∧ x.2.1 = y.2.1 ∧ x.2.2.1 = y.2.2.1 ∧ x.2.2.2.1 = y.2.2.2.1 ∧
    S x.2.2.2.2 y.2.2.2.2 ∧ x.2.1.partialBuf = s.partialBuf

theorem processNextG_rel (hS : ByteSrcRel S) (s : DState) (w : ω) (rc : RC) {a : ρ₁} {b : ρ₂}
    (h : S a b) :
    RelM (NextRel S s) (DState.processNextG s w rc a) (DState.processNextG s w rc b) := by
  refine (RelM.liftE (runDecG_rel hS true _ _ rc h)).bind ?_
  rintro ⟨sym, probs, rc1, a1⟩ ⟨_, _, _, b1⟩ ⟨rfl, rfl, rfl, h1⟩
  refine (applySymG_rel hS _ w rc1 h1 sym).bind ?_
  rintro ⟨st, s', w'⟩ _ ⟨rfl, hp⟩
  exact RelM.pure ⟨rfl, rfl, rfl, rfl, h1, hp⟩

variable [DecSrc ρ₁] [DecSrc ρ₂] {T : DecSrc.Rest ρ₁ → DecSrc.Rest ρ₂ → Prop}

def LoopRel (S : ρ₁ → ρ₂ → Prop) (x : DState × ω × RC × ρ₁) (y : DState × ω × RC × ρ₂) : Prop :=
  x.1 = y.1 ∧ x.2.1 = y.2.1 ∧ x.2.2.1 = y.2.2.1 ∧ S x.2.2.2 y.2.2.2 ∧ x.1.partialBuf = []

theorem processLoopG_rel (hD : DecSrcRel S T) (fuel : Nat) (s : DState) (hp : s.partialBuf = [])
    (w : ω) (rc : RC) {a : ρ₁} {b : ρ₂} (h : S a b) :
    RelM (LoopRel S) (DState.processLoopG fuel s w rc a) (DState.processLoopG fuel s w rc b) := by
  induction fuel generalizing s w rc a b with
  | zero => exact RelM.throwM _
  | succ fuel ih =>
    unfold DState.processLoopG
    refine RelM.bindEq (RelM.liftE ?_) fun stop => RelM.ite (RelM.pure ⟨rfl, rfl, rfl, h, hp⟩) ?_
    · cases s.unpackedSize with
      | some n => exact RelE.refl_eq _
      | none => exact (RC.isFinishedOkG_rel hD.toByteSrcRel rc h).bindEq fun _ => rfl
    simp only [hp, List.isEmpty_nil, Bool.not_true, Bool.false_eq_true, if_false]
    refine (RelM.liftE (hD.fillBufOk _ _ h)).bindEq fun _ => ?_
    refine (processNextG_rel hD.toByteSrcRel s w rc h).bind ?_
    rintro ⟨st, s', w', rc', a'⟩ ⟨_, _, _, _, b'⟩ ⟨rfl, rfl, rfl, rfl, h', hp'⟩
    exact RelM.ite (RelM.pure ⟨rfl, rfl, rfl, h', hp'.trans hp⟩) (ih _ (hp'.trans hp) _ _ h')

theorem processModeG_rel (hD : DecSrcRel S T) (s : DState) (hp : s.partialBuf = [])
    (w : ω) (rc : RC) {a : ρ₁} {b : ρ₂} (h : S a b) :
    RelM (LoopRel S) (DState.processModeG s w rc a) (DState.processModeG s w rc b) := by
  unfold DState.processModeG DState.loopFuelG
  rw [hD.content _ _ h]
  refine (processLoopG_rel hD _ s hp w rc h).bind ?_
  rintro ⟨s', w', rc', a'⟩ ⟨_, _, _, b'⟩ ⟨rfl, rfl, rfl, h', hp'⟩
  dsimp only
  cases s'.unpackedSize with
  | none => exact RelM.pure ⟨rfl, rfl, rfl, h', hp'⟩
  | some n => exact RelM.ite (RelM.throwM _) (RelM.pure ⟨rfl, rfl, rfl, h', hp'⟩)

theorem readHeaderG_rel (hD : DecSrcRel S T) (opts : Options) {a : ρ₁} {b : ρ₂} (h : S a b) :
    RelE (RelV S) (readHeaderG a opts) (readHeaderG b opts) := by
  unfold readHeaderG
  refine (hdrErr_rel (hD.readU8 _ _ h)).bindV fun p a1 b1 h1 => RelE.ite (RelE.throw_bind _) ?_
  refine (hdrErr_rel (hD.readU32LE _ _ h1)).bindV fun dp a2 b2 h2 => ?_
  cases opts.unpackedSize with
  | readFromHeader => exact (hdrErr_rel (hD.readU64LE _ _ h2)).bindV fun _ _ _ h3 => ⟨rfl, h3⟩
  | readHeaderButUseProvided x =>
    exact (hdrErr_rel (hD.readU64LE _ _ h2)).bindV fun _ _ _ h3 => ⟨rfl, h3⟩
  | useProvided x => exact ⟨rfl, h2⟩

theorem LzmaDecoder.decompressG_rel (hD : DecSrcRel S T) (d : LzmaDecoder)
    (hp : d.state.partialBuf = []) {a : ρ₁} {b : ρ₂} (h : S a b) :
    RelM (RelV S) (d.decompressG a) (d.decompressG b) := by
  unfold LzmaDecoder.decompressG
  refine RelM.bindV (S := S) (RelM.liftE ?_) fun rc a1 b1 h1 => ?_
  · exact (RC.newG_rel hD.toByteSrcRel h).elim (fun _ => rfl) fun _ _ hn => hn
  refine (processModeG_rel hD d.state hp _ rc h1).bind ?_
  rintro ⟨s', w', rc', a'⟩ ⟨_, _, _, b'⟩ ⟨rfl, rfl, rfl, h', -⟩
  exact (RelM.refl _).bindEq fun _ => RelM.pure ⟨rfl, h'⟩

theorem lzmaDecompressG_rel (hD : DecSrcRel S T) (opts : Options) {a : ρ₁} {b : ρ₂} (h : S a b) :
    RelM S (lzmaDecompressG a opts) (lzmaDecompressG b opts) := by
  unfold lzmaDecompressG
  refine (RelM.liftE (readHeaderG_rel hD opts h)).bindV fun params a1 b1 h1 => ?_
  refine (RelM.liftE (RelE.refl_of _ fun d hd => (LzmaDecoder.new_ok hd).2.2.1)).bind ?_
  rintro dec _ ⟨rfl, hp⟩
  exact (LzmaDecoder.decompressG_rel hD dec hp h1).bindV fun _ _ _ h2 => RelM.pure h2

theorem parseUncompressedG_rel (hD : DecSrcRel S T) (accum : Accum) (r : Bool) {a : ρ₁} {b : ρ₂}
    (h : S a b) :
    RelM (RelV S) (Lzma2Decoder.parseUncompressedG accum a r)
      (Lzma2Decoder.parseUncompressedG accum b r) := by
  unfold Lzma2Decoder.parseUncompressedG
  refine (RelM.liftE (lzErr_rel (hD.readU16BE _ _ h))).bindV fun u a1 b1 h1 => ?_
  dsimp -zeta only
  -- the join point after `accum.reset`
  extract_lets us ka kb
  have hk : ∀ acc, RelM (RelV S) (ka acc) (kb acc) := fun acc =>
    (RelM.liftE (lzErr_rel (hD.readExact _ _ _ h1))).bindV fun _ _ _ h2 => RelM.pure ⟨rfl, h2⟩
  clear_value ka kb
  exact RelM.ite ((RelM.refl _).bindEq hk) ((RelM.pure rfl).bindEq hk)

def ChunkRel (S : ρ₁ → ρ₂ → Prop) (x : Lzma2Decoder × Accum × ρ₁) (y : Lzma2Decoder × Accum × ρ₂) :
    Prop :=
  x.1 = y.1 ∧ x.2.1 = y.2.1 ∧ S x.2.2 y.2.2 ∧ x.1.lzmaState.partialBuf = []

def StRel (S : ρ₁ → ρ₂ → Prop) (x : DState × ρ₁) (y : DState × ρ₂) : Prop :=
  x.1 = y.1 ∧ S x.2 y.2 ∧ x.1.partialBuf = []

theorem parseLzmaG_rel (hD : DecSrcRel S T) (d : Lzma2Decoder) (hp : d.lzmaState.partialBuf = [])
    (accum : Accum) (status : Nat) {a : ρ₁} {b : ρ₂} (h : S a b) :
    RelM (ChunkRel S) (d.parseLzmaG accum a status) (d.parseLzmaG accum b status) := by
  unfold Lzma2Decoder.parseLzmaG
  refine RelM.ite (RelM.throw_bind _) ?_
  refine (RelM.liftE (lzErr_rel (hD.readU16BE _ _ h))).bindV fun u a1 b1 h1 => ?_
  refine (RelM.liftE (lzErr_rel (hD.readU16BE _ _ h1))).bindV fun pk a2 b2 h2 => ?_
  dsimp -zeta only
  -- the join points of the `do` block, innermost last: after `accum.reset`, …
  extract_lets ps ka kb
  suffices hk : ∀ acc, RelM (ChunkRel S) (ka acc) (kb acc) by
    clear_value ka kb
    exact RelM.ite ((RelM.refl _).bindEq hk) ((RelM.pure rfl).bindEq hk)
  intro acc
  dsimp -zeta only [ka, kb]
  -- … from `set_unpacked_size` on, and from `reset_state` on
  extract_lets payA rsA payB rsB
  have hpay : ∀ x y, StRel S x y → RelM (ChunkRel S) (payA x) (payB y) := by
    rintro ⟨st, a4⟩ ⟨_, b4⟩ ⟨rfl, h4, hst⟩
    dsimp only [payA, payB] at hst ⊢
    obtain ⟨ht1, ht2⟩ := hD.take _ _ ps h4
    refine (RelM.liftE (lzErr_rel (RC.newG_rel hD.toByteSrcRel ht1))).bindV fun rc ta1 tb1 h5 => ?_
    refine (processModeG_rel hD _ (by exact hst) _ rc h5).bind ?_
    rintro ⟨s', w', rc', ta2⟩ ⟨_, _, _, tb2⟩ ⟨rfl, rfl, rfl, h6, hp'⟩
    refine (RelM.liftE (RC.isFinishedOkG_rel hD.toByteSrcRel rc' h6)).bindEq fun fin => ?_
    exact RelM.ite (RelM.throw_bind _) (RelM.pure ⟨rfl, rfl, hD.unsplit _ _ _ _ _ _ h4 h6 ht2, hp'⟩)
  have hrs : ∀ x y, RelV S x y → RelM (ChunkRel S) (rsA x) (rsB y) := by
    rintro ⟨np, a3⟩ ⟨_, b3⟩ ⟨rfl, h3⟩
    refine (RelM.liftE (RelE.refl_of _ fun s' hs' =>
      (DState.resetState_partialBuf hs').trans hp)).bind ?_
    rintro st0 _ ⟨rfl, hst0⟩
    exact (RelM.pure (R := StRel S) ⟨rfl, h3, hst0⟩).bind hpay
  clear_value rsA rsB payA payB
  refine RelM.ite ?_ ((RelM.pure (R := StRel S) ⟨rfl, h2, hp⟩).bind hpay)
  refine RelM.ite ?_ ((RelM.pure (R := RelV S) ⟨rfl, h2⟩).bind hrs)
  refine (RelM.liftE (lzErr_rel (hD.readU8 _ _ h2))).bindV fun pb a3 b3 h3 => ?_
  refine RelM.ite (RelM.throw_bind _) (RelM.ite (RelM.throw_bind _) ?_)
  exact (RelM.pure (R := RelV S) ⟨rfl, h3⟩).bind hrs

theorem chunkLoopG_rel (hD : DecSrcRel S T) (fuel : Nat) (d : Lzma2Decoder)
    (hp : d.lzmaState.partialBuf = []) (accum : Accum) {a : ρ₁} {b : ρ₂} (h : S a b) :
    RelM (ChunkRel S) (Lzma2Decoder.chunkLoopG fuel d accum a)
      (Lzma2Decoder.chunkLoopG fuel d accum b) := by
  induction fuel generalizing d accum a b with
  | zero => exact RelM.throwM _
  | succ fuel ih =>
    unfold Lzma2Decoder.chunkLoopG
    refine (RelM.liftE (lzErr_rel (hD.readU8 _ _ h))).bindV fun st a1 b1 h1 => ?_
    refine RelM.ite (RelM.pure ⟨rfl, rfl, h1, hp⟩) (RelM.ite ?_ (RelM.ite ?_ ?_))
    · exact (parseUncompressedG_rel hD accum true h1).bindV fun acc _ _ h2 => ih d hp acc h2
    · exact (parseUncompressedG_rel hD accum false h1).bindV fun acc _ _ h2 => ih d hp acc h2
    · refine (parseLzmaG_rel hD d hp accum _ h1).bind ?_
      rintro ⟨d', acc, a2⟩ ⟨_, _, b2⟩ ⟨rfl, rfl, h2, hp'⟩
      exact ih d' hp' acc h2

theorem Lzma2Decoder.decompressG_rel (hD : DecSrcRel S T) (d : Lzma2Decoder)
    (hp : d.lzmaState.partialBuf = []) {a : ρ₁} {b : ρ₂} (h : S a b) :
    RelM (RelV S) (d.decompressG a) (d.decompressG b) := by
  unfold Lzma2Decoder.decompressG
  rw [hD.content _ _ h]
  refine (chunkLoopG_rel hD _ d hp _ h).bind ?_
  rintro ⟨d', acc, a2⟩ ⟨_, _, b2⟩ ⟨rfl, rfl, h2, -⟩
  exact (RelM.refl _).bindEq fun _ => RelM.pure ⟨rfl, h2⟩

theorem lzma2DecompressG_rel (hD : DecSrcRel S T) {a : ρ₁} {b : ρ₂} (h : S a b) :
    RelM S (lzma2DecompressG a) (lzma2DecompressG b) := by
  unfold lzma2DecompressG
  refine (RelM.liftE (RelE.refl_of _ fun d hd => Lzma2Decoder.new_partialBuf hd)).bind ?_
  rintro dec _ ⟨rfl, hp⟩
  exact (Lzma2Decoder.decompressG_rel hD dec hp h).bindV fun _ _ _ h2 => RelM.pure h2

theorem parseStreamHeaderG_rel (hD : DecSrcRel S T) {a : ρ₁} {b : ρ₂} (h : S a b) :
    RelE (RelV S) (parseStreamHeaderG a) (parseStreamHeaderG b) := by
  unfold parseStreamHeaderG
  refine (hD.readTag _ _ _ h).bindV fun ok a1 b1 h1 => RelE.ite (RelE.throw_bind _) ?_
  refine (hD.readExact _ _ _ h1).bindV fun fb a2 b2 h2 => ?_
  refine (hD.readU32LE _ _ h2).bindV fun crc a3 b3 h3 => RelE.ite (RelE.throw_bind _) ?_
  refine (RelE.refl_eq _).bindEq fun check => ?_
  exact ⟨rfl, h3⟩

omit [DecSrc ρ₁] [DecSrc ρ₂] in
theorem getMultibyteAuxG_rel (hS : ByteSrcRel S) (fuel i result : Nat) (acc : Bytes)
    {a : ρ₁} {b : ρ₂} (h : S a b) :
    RelE (RelV (RelV S)) (getMultibyteAuxG fuel i result acc a)
      (getMultibyteAuxG fuel i result acc b) := by
  induction fuel generalizing i result acc a b with
  | zero => exact rfl
  | succ fuel ih =>
    unfold getMultibyteAuxG
    exact (hS.readU8 _ _ h).bindV fun byte a1 b1 h1 => RelE.ite ⟨rfl, rfl, h1⟩ (ih _ _ _ h1)

omit [DecSrc ρ₁] [DecSrc ρ₂] in
theorem getMultibyteG_rel (hS : ByteSrcRel S) {a : ρ₁} {b : ρ₂} (h : S a b) :
    RelE (RelV (RelV S)) (getMultibyteG a) (getMultibyteG b) :=
  getMultibyteAuxG_rel hS 9 0 0 [] h

omit [DecSrc ρ₁] [DecSrc ρ₂] in
theorem readZeroBytesG_rel (hS : ByteSrcRel S) (n : Nat) (acc : Bytes) {a : ρ₁} {b : ρ₂}
    (h : S a b) :
    RelE (RelV S) (readZeroBytesG n acc a) (readZeroBytesG n acc b) := by
  induction n generalizing acc a b with
  | zero => exact ⟨rfl, h⟩
  | succ n ih =>
    unfold readZeroBytesG
    exact (hS.readU8 _ _ h).bindV fun byte a1 b1 h1 => RelE.ite (RelE.throw_bind _) (ih _ h1)

omit [DecSrc ρ₁] [DecSrc ρ₂] in
theorem checkRecordsG_rel (hS : ByteSrcRel S) (rs : List Record) (dig : Bytes) {a : ρ₁} {b : ρ₂}
    (h : S a b) :
    RelE (RelV S) (checkRecordsG rs dig a) (checkRecordsG rs dig b) := by
  induction rs generalizing dig a b with
  | nil => exact ⟨rfl, h⟩
  | cons r rs ih =>
    unfold checkRecordsG
    refine (getMultibyteG_rel hS h).bind ?_
    rintro ⟨v1, bs1, a1⟩ ⟨_, _, b1⟩ ⟨rfl, rfl, h1⟩
    refine RelE.ite (RelE.throw_bind _) ((getMultibyteG_rel hS h1).bind ?_)
    rintro ⟨v2, bs2, a2⟩ ⟨_, _, b2⟩ ⟨rfl, rfl, h2⟩
    exact RelE.ite (RelE.throw_bind _) (ih _ h2)

theorem checkIndexG_rel (hD : DecSrcRel S T) (start : Nat) (rs : List Record) {a : ρ₁} {b : ρ₂}
    (h : S a b) :
    RelE S (checkIndexG start rs a) (checkIndexG start rs b) := by
  unfold checkIndexG
  refine (getMultibyteG_rel hD.toByteSrcRel h).bind ?_
  rintro ⟨n, bs, a1⟩ ⟨_, _, b1⟩ ⟨rfl, rfl, h1⟩
  refine RelE.ite (RelE.throw_bind _) ?_
  refine (checkRecordsG_rel hD.toByteSrcRel rs _ h1).bindV fun dig a2 b2 h2 => ?_
  dsimp only
  rw [hD.content _ _ h2]
  refine (readZeroBytesG_rel hD.toByteSrcRel _ _ h2).bindV fun pad a3 b3 h3 => ?_
  exact (hD.readU32LE _ _ h3).bindV fun crc a4 b4 h4 => RelE.ite (RelE.throw_bind _) h4

theorem readFiltersG_rel (hD : DecSrcRel S T) (n hs : Nat) (acc : List Filter) {a : ρ₁} {b : ρ₂}
    (h : S a b) :
    RelE (RelV S) (readFiltersG n hs acc a) (readFiltersG n hs acc b) := by
  induction n generalizing acc a b with
  | zero => exact ⟨rfl, h⟩
  | succ n ih =>
    unfold readFiltersG
    refine (getMultibyteG_rel hD.toByteSrcRel h).bind ?_
    rintro ⟨id, bs1, a1⟩ ⟨_, _, b1⟩ ⟨rfl, rfl, h1⟩
    refine RelE.ite (RelE.throw_bind _) ((getMultibyteG_rel hD.toByteSrcRel h1).bind ?_)
    rintro ⟨sz, bs2, a2⟩ ⟨_, _, b2⟩ ⟨rfl, rfl, h2⟩
    refine RelE.ite (RelE.throw_bind _) ?_
    dsimp only
    refine (hD.readExact _ _ sz h2).elim (fun _ => rfl) ?_
    rintro ⟨_, _⟩ ⟨_, _⟩ ⟨⟨⟩, h3⟩
    exact ih _ h3

theorem readBlockHeaderG_rel (hD : DecSrcRel S T) (hs : Nat) {a : ρ₁} {b : ρ₂} (h : S a b) :
    RelE (RelV S) (readBlockHeaderG a hs) (readBlockHeaderG b hs) := by
  unfold readBlockHeaderG
  refine (hD.readU8 _ _ h).bindV fun flags a1 b1 h1 => ?_
  dsimp -zeta only
  -- the join points of the `do` block: from the unpacked-size field on, …
  extract_lets fl nf upA k0A upB k0B
  have hup : ∀ x y, RelV S x y → RelE (RelV S) (upA x) (upB y) := by
    rintro ⟨ps, a2⟩ ⟨_, b2⟩ ⟨rfl, h2⟩
    dsimp -zeta only [upA, upB] at h2 ⊢
    -- … and from the filter list on
    extract_lets flA flB
    have hfl : ∀ x y, RelV S x y → RelE (RelV S) (flA x) (flB y) := by
      rintro ⟨us, a3⟩ ⟨_, b3⟩ ⟨rfl, h3⟩
      refine (readFiltersG_rel hD _ _ _ h3).bindV fun fl a4 b4 h4 => ?_
      refine (hD.flushZeroPadding _ _ h4).bind ?_
      rintro ⟨ok, a5⟩ ⟨_, b5⟩ ⟨rfl, h5⟩
      cases ok
      · exact rfl
      · exact ⟨rfl, h5 rfl⟩
    clear_value flA flB
    refine RelE.ite ?_ (hfl _ _ ⟨rfl, h2⟩)
    refine (getMultibyteG_rel hD.toByteSrcRel h2).bind ?_
    rintro ⟨v, bs, a3⟩ ⟨_, _, b3⟩ ⟨rfl, rfl, h3⟩
    exact hfl _ _ ⟨rfl, h3⟩
  clear_value upA upB
  refine RelE.ite (RelE.throw_bind _) ?_
  refine RelE.ite ?_ (hup _ _ ⟨rfl, h1⟩)
  refine (getMultibyteG_rel hD.toByteSrcRel h1).bind ?_
  rintro ⟨v, bs, a2⟩ ⟨_, _, b2⟩ ⟨rfl, rfl, h2⟩
  exact hup _ _ ⟨rfl, h2⟩

theorem decodeFilterG_rel (hD : DecSrcRel S T) (f : Filter) {a : ρ₁} {b : ρ₂} (h : S a b) :
    RelE (RelV S) (decodeFilterG a f) (decodeFilterG b f) := by
  unfold decodeFilterG
  refine RelE.ite (RelE.throw_bind _) ((RelE.refl_of _ fun d hd => Lzma2Decoder.new_partialBuf hd).bind ?_)
  rintro d _ ⟨rfl, hp⟩
  obtain ⟨hs, hr⟩ := Lzma2Decoder.decompressG_rel hD d hp h {}
  revert hs hr
  rcases d.decompressG a {} with ⟨s1, r1⟩
  rcases d.decompressG b {} with ⟨s2, r2⟩
  rintro ⟨⟩ hr
  exact (show RelE _ r1 r2 from hr).elim (fun _ => rfl) fun _ _ hr => ⟨rfl, hr.2⟩

theorem validateBlockCheckG_rel (hD : DecSrcRel S T) (buf : Bytes) (c : CheckMethod)
    {a : ρ₁} {b : ρ₂} (h : S a b) :
    RelE S (validateBlockCheckG a buf c) (validateBlockCheckG b buf c) := by
  cases c with
  | none => exact h
  | crc32 => exact (hD.readU32LE _ _ h).bindV fun _ _ _ h1 => RelE.ite (RelE.throw_bind _) h1
  | crc64 => exact (hD.readU64LE _ _ h).bindV fun _ _ _ h1 => RelE.ite (RelE.throw_bind _) h1
  | sha256 => exact rfl

theorem readBlockG_rel (hD : DecSrcRel S T) (start : Nat) (check : CheckMethod) (hsb : UInt8)
    {a : ρ₁} {b : ρ₂} (h : S a b) :
    RelM (RelV S) (readBlockG start a check hsb) (readBlockG start b check hsb) := by
  unfold readBlockG
  refine (RelM.liftE (RelE.refl_eq _)).bindEq fun hsz => ?_
  obtain ⟨ht1, ht2⟩ := hD.take _ _ hsz h
  revert ht1 ht2
  rcases DecSrc.take a hsz with ⟨ta, ra⟩
  rcases DecSrc.take b hsz with ⟨tb, rb⟩
  intro ht1 ht2
  dsimp -zeta only at ht1 ht2 ⊢
  rw [hD.content _ _ ht1]
  refine (RelM.liftE (readBlockHeaderG_rel hD hsz ht1)).bindV fun bh ta1 tb1 h1 => ?_
  refine (RelM.liftE (hD.readU32LE _ _ (hD.unsplit _ _ _ _ _ _ h h1 ht2))).bindV
    fun crc a2 b2 h2 => RelM.ite (RelM.throw_bind _) ?_
  refine RelM.bindV (S := S) (RelM.liftE ?_) fun tmp a3 b3 h3 => ?_
  · cases bh.filters with
    | nil => exact ⟨rfl, h2⟩
    | cons f fs =>
      dsimp only
      rw [hD.content _ _ h2]
      refine (decodeFilterG_rel hD f h2).bindV fun buf a3 b3 h3 => ?_
      dsimp only
      rw [hD.content _ _ h3]
      have tail : RelE (RelV S) (laterFilters fs buf >>= fun buf => pure (buf, a3))
          (laterFilters fs buf >>= fun buf => pure (buf, b3)) :=
        (RelE.refl_eq _).bindEq fun _ => ⟨rfl, h3⟩
      cases bh.packedSize with
      | none => exact tail
      | some e => exact RelE.ite (RelE.throw_bind _) tail
  · dsimp -zeta only
    -- the join point after the unpacked-size check
    extract_lets us cA pA tlA cB pB tlB
    have htl : RelM (RelV S) (tlA ()) (tlB ()) := by
      dsimp only [tlA, tlB, pA, pB, cA, cB]
      rw [hD.content _ _ h3]
      refine (RelM.liftE (readZeroBytesG_rel hD.toByteSrcRel _ _ h3)).bindV fun _ a4 b4 h4 => ?_
      refine (RelM.liftE (validateBlockCheckG_rel hD tmp check h4)).bind fun a5 b5 h5 => ?_
      refine (RelM.refl _).bindEq fun _ => ?_
      rw [hD.content _ _ h5]
      exact (RelM.liftE (RelE.refl_eq _)).bindEq fun _ => RelM.pure ⟨rfl, h5⟩
    clear_value tlA tlB pA pB cA cB
    cases bh.unpackedSize with
    | none => exact htl
    | some e => exact RelM.ite (RelM.throw_bind _) htl

theorem blockLoopG_rel (hD : DecSrcRel S T) (check : CheckMethod) (fuel : Nat) (rs : List Record)
    {a : ρ₁} {b : ρ₂} (h : S a b) :
    RelM (RelV S) (blockLoopG check fuel rs a) (blockLoopG check fuel rs b) := by
  induction fuel generalizing rs a b with
  | zero => exact RelM.throwM _
  | succ fuel ih =>
    unfold blockLoopG
    dsimp only
    rw [hD.content _ _ h]
    refine (RelM.liftE (hD.readU8 _ _ h)).bindV fun hs a1 b1 h1 => RelM.ite ?_ ?_
    · refine (RelM.liftE (checkIndexG_rel hD _ rs h1)).bind fun a2 b2 h2 => ?_
      rw [hD.content _ _ h2]
      exact RelM.pure ⟨rfl, h2⟩
    · exact (readBlockG_rel hD _ check hs h1).bindV fun _ _ _ h2 => ih _ h2

theorem xzDecompressG_rel (hD : DecSrcRel S T) {a : ρ₁} {b : ρ₂} (h : S a b) :
    RelM S (xzDecompressG a) (xzDecompressG b) := by
  unfold xzDecompressG
  refine (RelM.liftE (parseStreamHeaderG_rel hD h)).bindV fun check a1 b1 h1 =>
    RelM.ite (RelM.throw_bind _) ?_
  dsimp only
  rw [hD.content _ _ h1]
  refine (blockLoopG_rel hD check _ [] h1).bindV fun isz a2 b2 h2 => ?_
  refine (RelM.liftE (hD.readU32LE _ _ h2)).bindV fun crc a3 b3 h3 => ?_
  refine (RelM.liftE (hD.readExact _ _ _ h3)).bindV fun bs a4 b4 h4 =>
    RelM.ite (RelM.throw_bind _) ?_
  refine (RelM.liftE (hD.readExact _ _ _ h4)).bindV fun fb a5 b5 h5 => ?_
  refine (RelM.liftE (RelE.refl_eq _)).bindEq fun flags =>
    RelM.ite (RelM.throw_bind _) (RelM.ite (RelM.throw_bind _) ?_)
  refine (RelM.liftE (hD.readTag _ _ _ h5)).bindV fun ok a6 b6 h6 =>
    RelM.ite (RelM.throw_bind _) ?_
  exact (RelM.liftE (hD.isEof _ _ h6)).bindEq fun eof =>
    RelM.ite (RelM.throw_bind _) (RelM.pure h6)

end rel
end FD
end Lzma
