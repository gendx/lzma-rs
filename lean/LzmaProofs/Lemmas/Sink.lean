/-
  What a faulty sink can do to a run (C12; `Mono` is also what C10's `MemLimit` and C15 use).
  Every model function that writes only appends (`Mono`), behaves like the fault-free run or stops
  with an I/O error after a prefix of its output (`Obl`), and is unaffected by short writes (`Ben`);
  `OM` bundles the three and is carried through decoders, encoders and `Stream::write/flush/finish`.
  The LZMA/LZMA2 decoders end flushed (`Fl`), the XZ decoder never flushes (`NF`).  The raw calls
  are specified in `SinkCalls`.
-/
import LzmaProofs.Lemmas.SinkCalls
import LzmaProofs.Lemmas.Stages
import LzmaProofs.Lemmas.XzInv
namespace Lzma

/-! ## `Mono`, `Obl`, `Ben`, their bundle `OM` and its combinators -/

def Mono (m : M α) : Prop := ∀ s, APre s.out (m s).1.out

/-- Sink-obliviousness.  `sp` is a fault-free sink (exhausted script) holding the same bytes as
`s`, whose script is arbitrary.  Then the fault-free run keeps an exhausted script, and the run on
`s` either behaves exactly like the fault-free run (same result, same delivered bytes) or returns
an I/O error having delivered a prefix of what the fault-free run finally delivers. -/
def Obl (m : M α) : Prop := ∀ s sp, sp.script = [] → s.out = sp.out →
    (m sp).1.script = [] ∧
    (((m s).2 = (m sp).2 ∧ (m s).1.out = (m sp).1.out) ∨
     ((m s).2 = .error .io ∧ APre (m s).1.out (m sp).1.out))

def Ben (m : M α) : Prop := ∀ s sp, Benign s.script → sp.script = [] → s.out = sp.out →
    (m s).2 = (m sp).2 ∧ (m s).1.out = (m sp).1.out ∧ Benign (m s).1.script

structure OM (m : M α) : Prop where
  mono : Mono m
  obl : Obl m
  ben : Ben m

/-- `Mono` and `NF` are of this form -/
theorem bind_steps {R : Sink → Sink → Prop} (trans : ∀ {a b c}, R a b → R b c → R a c)
    {m : M α} {f : α → M β} (hm : ∀ s, R s (m s).1) (hf : ∀ a s, R s (f a s).1) (s : Sink) :
    R s ((m >>= f) s).1 := by
  rw [bind_run]
  have h1 := hm s
  split
  · rename_i s' a h; rw [h] at h1; exact trans h1 (hf a s')
  · rename_i s' e h; rw [h] at h1; exact h1

theorem Mono.bind {m : M α} {f : α → M β} (hm : Mono m) (hf : ∀ a, Mono (f a)) :
    Mono (m >>= f) :=
  bind_steps (R := fun a b => APre a.out b.out) APre.trans hm hf

theorem Obl.bind {m : M α} {f : α → M β} (hm : Obl m) (hf : ∀ a, Obl (f a))
    (hfm : ∀ a, Mono (f a)) : Obl (m >>= f) := by
  intro s sp hsp ho
  obtain ⟨h1, h2⟩ := hm s sp hsp ho
  rw [bind_run, bind_run]
  rcases hs : m s with ⟨s', r⟩
  rcases hp : m sp with ⟨sp', rp⟩
  rw [hs, hp] at h2; rw [hp] at h1
  simp only at h1 h2 ⊢
  rcases h2 with ⟨hr, hout⟩ | ⟨hr, hpre⟩
  · subst hr
    cases r with
    | ok a => exact hf a s' sp' h1 hout
    | error e => exact ⟨h1, Or.inl ⟨rfl, hout⟩⟩
  · subst hr
    cases rp with
    | ok a =>
      exact ⟨(hf a sp' sp' h1 rfl).1, Or.inr ⟨rfl, hpre.trans (hfm a sp')⟩⟩
    | error e => exact ⟨h1, Or.inr ⟨rfl, hpre⟩⟩

theorem Ben.bind {m : M α} {f : α → M β} (hm : Ben m) (hmo : Obl m) (hf : ∀ a, Ben (f a)) :
    Ben (m >>= f) := by
  intro s sp hb hsp ho
  obtain ⟨h1, h2, h3⟩ := hm s sp hb hsp ho
  have h4 := (hmo s sp hsp ho).1
  rw [bind_run, bind_run]
  rcases hs : m s with ⟨s', r⟩
  rcases hp : m sp with ⟨sp', rp⟩
  rw [hs, hp] at h1 h2; rw [hs] at h3; rw [hp] at h4
  simp only at h1 h2 h3 h4 ⊢
  subst h1
  cases r with
  | ok a => exact hf a s' sp' h3 h4 h2
  | error e => exact ⟨rfl, h2, h3⟩

theorem OM.bind {m : M α} {f : α → M β} (hm : OM m) (hf : ∀ a, OM (f a)) : OM (m >>= f) :=
  ⟨hm.mono.bind fun a => (hf a).mono, hm.obl.bind (fun a => (hf a).obl) fun a => (hf a).mono,
   hm.ben.bind hm.obl fun a => (hf a).ben⟩

theorem OM.of_const {m : M α} (h1 : ∀ s, (m s).1 = s) (h2 : ∀ s s', (m s).2 = (m s').2) : OM m :=
  ⟨fun s => by rw [h1]; exact APre.refl _,
   fun s sp hsp ho => ⟨by rw [h1]; exact hsp, Or.inl ⟨h2 s sp, by rw [h1, h1]; exact ho⟩⟩,
   fun s sp hb _ ho => ⟨h2 s sp, by rw [h1, h1]; exact ho, by rw [h1]; exact hb⟩⟩

theorem OM.pure (a : α) : OM (Pure.pure a : M α) := OM.of_const (fun _ => rfl) fun _ _ => rfl
theorem OM.mpure (a : α) : OM (M.pure a : M α) := OM.pure a
theorem OM.throw (e : Err) : OM (throwM e : M α) := OM.of_const (fun _ => rfl) fun _ _ => rfl
theorem OM.liftE (x : Except Err α) : OM (liftE x : M α) := by
  cases x with
  | ok a => exact OM.pure a
  | error e => exact OM.throw e
theorem OM.monadLift (x : Except Err α) : OM (MonadLift.monadLift x : M α) := OM.liftE x
theorem OM.liftM (x : Except Err α) : OM (liftM x : M α) := OM.liftE x

/-- reading the current output size (used by the XZ writer) -/
theorem OM.outSize : OM (fun snk => (snk, .ok snk.out.size) : M Nat) :=
  ⟨fun s => APre.refl _, fun s sp hsp ho => ⟨hsp, Or.inl ⟨by simp [ho], ho⟩⟩,
   fun s sp hb _ ho => ⟨by simp [ho], ho, hb⟩⟩

theorem OM.writeAll (bs : Array UInt8) : OM (writeAll bs) := by
  constructor
  · intro s
    rcases (writeAll_spec bs s).2 with ⟨_, h⟩ | ⟨_, k, _, h⟩ <;> rw [h] <;> exact APre.append _ _
  · intro s sp hsp ho
    obtain ⟨c1, c2, c3⟩ := writeAll_clean bs sp hsp
    refine ⟨c2, ?_⟩
    rcases (writeAll_spec bs s).2 with ⟨hr, h⟩ | ⟨hr, k, hk, h⟩
    · left; rw [hr, c1, h, c3, ho]; exact ⟨rfl, rfl⟩
    · right; refine ⟨hr, ?_⟩
      rw [h, c3, ho]
      refine ⟨bs.extract k bs.size, ?_⟩
      rw [Array.append_assoc]; congr 1
      rw [Array.extract_append_extract]
      have : max k bs.size = bs.size := by omega
      simp [this]
  · intro s sp hb hsp ho
    obtain ⟨c1, c2, c3⟩ := writeAll_clean bs sp hsp
    obtain ⟨b1, b2, b3⟩ := writeAll_benign bs s hb
    exact ⟨by rw [b1, c1], by rw [b2, c3, ho], b3⟩

theorem OM.writeBytes (bs : Bytes) : OM (writeBytes bs) := OM.writeAll bs.toArray

theorem OM.flushSink : OM flushSink := by
  constructor
  · intro s; rw [(flushSink_spec s).1]; exact APre.refl _
  · intro s sp hsp ho
    have hs := flushSink_spec s
    have hp := flushSink_spec sp
    refine ⟨by rw [hp.2.1, hsp]; rfl, ?_⟩
    rcases hs.2.2.2 with ⟨hr, _⟩ | ⟨hr, _⟩
    · left
      rcases hp.2.2.2 with ⟨hr', _⟩ | ⟨_, _, hh⟩
      · rw [hr, hr', hs.1, hp.1]; exact ⟨rfl, ho⟩
      · simp [hsp] at hh
    · right; refine ⟨hr, ?_⟩; rw [hs.1, hp.1, ho]; exact APre.refl _
  · intro s sp hb hsp ho
    have hs := flushSink_spec s
    have hp := flushSink_spec sp
    refine ⟨?_, by rw [hs.1, hp.1, ho], ?_⟩
    · rcases hs.2.2.2 with ⟨hr, _⟩ | ⟨_, _, hh⟩
      · rcases hp.2.2.2 with ⟨hr', _⟩ | ⟨_, _, hh⟩
        · rw [hr, hr']
        · simp [hsp] at hh
      · cases hsc : s.script with
        | nil => simp [hsc] at hh
        | cons b r =>
          simp [hsc] at hh
          exact absurd hh (hb b (by simp [hsc])).1
    · rw [hs.2.1]; intro b hb'; exact hb b (List.mem_of_mem_tail hb')

theorem OM.ite {c : Prop} [Decidable c] {a b : M α} (ha : OM a) (hb : OM b) :
    OM (if c then a else b) := by split <;> assumption

theorem OM.dite {c : Prop} [Decidable c] {a : c → M α} {b : ¬c → M α} (ha : ∀ h, OM (a h))
    (hb : ∀ h, OM (b h)) : OM (if h : c then a h else b h) := by
  split
  · exact ha _
  · exact hb _

/-- `if c then throwM e` followed by the rest `k` of a `do` block -/
theorem OM.guard {c : Prop} [Decidable c] {e : Err} {k : PUnit → M α} (h : OM (k ())) :
    OM (if c then throwM e >>= k else k ()) := by
  split
  · exact OM.throw e
  · exact h

/-! ### consequences of `Obl` -/

theorem Obl.ok_eq {m : M α} (h : Obl m) (s sp : Sink) (hsp : sp.script = []) (ho : s.out = sp.out)
    (a : α) (hok : (m s).2 = .ok a) : (m sp).2 = .ok a ∧ (m s).1.out = (m sp).1.out := by
  rcases (h s sp hsp ho).2 with ⟨hr, hout⟩ | ⟨hr, _⟩
  · exact ⟨hr ▸ hok, hout⟩
  · rw [hok] at hr; cases hr

theorem Obl.not_io_eq {m : M α} (h : Obl m) (s sp : Sink) (hsp : sp.script = [])
    (ho : s.out = sp.out) (hne : (m s).2 ≠ .error .io) :
    (m s).2 = (m sp).2 ∧ (m s).1.out = (m sp).1.out := by
  rcases (h s sp hsp ho).2 with h1 | ⟨hr, _⟩
  · exact h1
  · exact absurd hr hne

/-! ## the windows

From here on an `OM` fact is, where the function is a plain `do` block, the term that follows it:
`OM.bind` per `←`, `OM.ite`/`OM.guard` per `if`, the lemma of the callee at the leaves (unification
sees through the pair matches and join points of the elaborated block).  Loops are inductions on
the fuel; functions written with `match` on a result are unfolded and split first. -/

theorem OM.circ_appendLiteral (w : Circ) (b : UInt8) : OM (w.appendLiteral b) :=
  OM.bind (OM.liftE _) fun _ => OM.ite (OM.bind (OM.writeAll _) fun _ => OM.pure _) (OM.pure _)

theorem OM.circ_copyLoop : ∀ (n : Nat) (w : Circ) (offset : Nat), OM (Circ.copyLoop n w offset)
  | 0, _, _ => OM.pure _
  | n + 1, _, _ => OM.bind (OM.circ_appendLiteral ..) fun _ => OM.circ_copyLoop n ..

theorem OM.circ_appendLz (w : Circ) (len dist : Nat) : OM (w.appendLz len dist) :=
  OM.ite (OM.throw _) <| OM.ite (OM.throw _) <| OM.bind (OM.liftE _) fun _ => OM.circ_copyLoop ..

theorem OM.circ_finish (w : Circ) : OM w.finish :=
  OM.ite (OM.ite (OM.bind (OM.writeAll _) fun _ => OM.flushSink) (OM.bind (OM.throw _) fun _ => OM.flushSink))
    OM.flushSink

theorem OM.accum_reset (w : Accum) : OM w.reset := OM.bind (OM.writeAll _) fun _ => OM.pure _

theorem OM.accum_appendLiteral (w : Accum) (b : UInt8) : OM (w.appendLiteral b) :=
  OM.ite (OM.throw _) (OM.pure _)

theorem OM.accum_appendLz (w : Accum) (len dist : Nat) : OM (w.appendLz len dist) :=
  OM.ite (OM.throw _) <| OM.bind (OM.liftE _) fun _ => OM.pure _

theorem OM.accum_finish (w : Accum) : OM w.finish := OM.bind (OM.writeAll _) fun _ => OM.flushSink

class OMBuf (ω : Type) [LzBuf ω] : Prop where
  appendLiteral : ∀ (w : ω) (b : UInt8), OM (LzBuf.appendLiteral w b)
  appendLz : ∀ (w : ω) (len dist : Nat), OM (LzBuf.appendLz w len dist)

instance : OMBuf Circ := ⟨OM.circ_appendLiteral, OM.circ_appendLz⟩
instance : OMBuf Accum := ⟨OM.accum_appendLiteral, OM.accum_appendLz⟩

/-! ## the symbol decoder -/

section
variable {ω : Type} [LzBuf ω] [OMBuf ω]

theorem OM.applySym (s : DState) (w : ω) (rc : RC) (rd : Rd) :
    ∀ sym : RawSym, OM (s.applySym w rc rd sym)
  | .lit _ => OM.bind (OMBuf.appendLiteral ..) fun _ => OM.pure _
  | .shortRep => OM.bind (OMBuf.appendLz ..) fun _ => OM.pure _
  | .rep .. => OM.bind (OMBuf.appendLz ..) fun _ => OM.pure _
  | .mtch .. => OM.ite (OM.bind (OM.liftE _) fun _ => OM.ite (OM.pure _) (OM.throw _))
      (OM.bind (OMBuf.appendLz ..) fun _ => OM.pure _)

theorem OM.processNext (s : DState) (w : ω) (rc : RC) (rd : Rd) : OM (s.processNext w rc rd) :=
  OM.bind (OM.liftE _) fun _ => OM.bind (OM.applySym ..) fun _ => OM.pure _

theorem OM.processLoop (mode : DState.Mode) :
    ∀ (fuel : Nat) (s : DState) (w : ω) (rc : RC) (rd : Rd), OM (DState.processLoop mode fuel s w rc rd)
  | 0, _, _, _, _ => OM.throw _
  | n + 1, _, _, _, _ =>
    have next {s : DState} {w : ω} {rc : RC} {rd : Rd} {k : _ → M (DState × ω × RC × Rd)}
        (hk : ∀ x, OM (k x)) : OM (s.processNext w rc rd >>= k) := OM.bind (OM.processNext ..) hk
    OM.bind (OM.liftE _) fun _ => OM.ite (OM.pure _) <| OM.ite
      (OM.bind (OM.liftE _) fun _ => OM.ite (OM.pure _) <|
        next fun _ => OM.ite (OM.pure _) (OM.processLoop mode n ..))
      (OM.bind (OM.liftE _) fun _ => OM.ite (OM.bind (OM.liftE _) fun _ => OM.pure _) <|
        next fun _ => OM.ite (OM.pure _) (OM.processLoop mode n ..))

theorem OM.processMode (mode : DState.Mode) (s : DState) (w : ω) (rc : RC) (rd : Rd) :
    OM (s.processMode mode w rc rd) := by
  refine OM.bind (OM.processLoop _ _ _ _ _ _) fun x => ?_
  split
  split
  · exact OM.ite (OM.throw _) (OM.pure _)
  · exact OM.pure _

end

/-! ## the LZMA, LZMA2 and XZ decoders -/

theorem OM.lzmaDecoder_decompress (d : LzmaDecoder) (rd : Rd) : OM (d.decompress rd) :=
  OM.bind (OM.liftE _) fun _ => OM.bind (OM.processMode ..) fun _ =>
    OM.bind (OM.circ_finish _) fun _ => OM.pure _

theorem OM.lzmaDecompress (rd : Rd) (opts : Options) : OM (lzmaDecompress rd opts) :=
  OM.bind (OM.liftE _) fun _ => OM.bind (OM.liftE _) fun _ =>
    OM.bind (OM.lzmaDecoder_decompress ..) fun _ => OM.pure _

theorem OM.parseUncompressed (accum : Accum) (rd : Rd) (resetDict : Bool) :
    OM (Lzma2Decoder.parseUncompressed accum rd resetDict) :=
  OM.bind (OM.liftE _) fun _ =>
    OM.ite (OM.bind (OM.accum_reset _) fun _ => OM.bind (OM.liftE _) fun _ => OM.pure _)
      (OM.bind (OM.pure _) fun _ => OM.bind (OM.liftE _) fun _ => OM.pure _)

theorem OM.lzma2Payload (st : DState) (a0 : Accum) (rd : Rd) (k : Nat) :
    OM (lzma2Payload st a0 rd k) :=
  OM.bind (OM.liftE _) fun _ => OM.bind (OM.processMode ..) fun _ => OM.liftE _

theorem OM.parseLzma (d : Lzma2Decoder) (accum : Accum) (rd : Rd) (status : Nat) :
    OM (d.parseLzma accum rd status) := by
  rw [parseLzma_eq_M]
  exact OM.ite (OM.throw _) <| OM.bind (OM.liftE _) fun _ => OM.bind (OM.liftE _) fun _ =>
    OM.bind (OM.ite (OM.accum_reset _) (OM.pure _)) fun _ => OM.bind (OM.liftE _) fun _ =>
    OM.lzma2Payload ..

theorem OM.chunkLoop : ∀ (fuel : Nat) (d : Lzma2Decoder) (accum : Accum) (rd : Rd),
    OM (Lzma2Decoder.chunkLoop fuel d accum rd)
  | 0, _, _, _ => OM.throw _
  | n + 1, _, _, _ =>
    OM.bind (OM.liftE _) fun _ => OM.ite (OM.pure _) <|
      OM.ite (OM.bind (OM.parseUncompressed ..) fun _ => OM.chunkLoop n ..) <|
      OM.ite (OM.bind (OM.parseUncompressed ..) fun _ => OM.chunkLoop n ..) <|
      OM.bind (OM.parseLzma ..) fun _ => OM.chunkLoop n ..

theorem OM.lzma2Decoder_decompress (d : Lzma2Decoder) (rd : Rd) : OM (d.decompress rd) :=
  OM.bind (OM.chunkLoop ..) fun _ => OM.bind (OM.accum_finish _) fun _ => OM.pure _

theorem OM.lzma2Decompress (rd : Rd) : OM (lzma2Decompress rd) :=
  OM.bind (OM.liftE _) fun _ => OM.bind (OM.lzma2Decoder_decompress ..) fun _ => OM.pure _

theorem OM.readBlockTail (start : Nat) (rd : Rd) (tmpbuf : Bytes) (check : CheckMethod) :
    OM (readBlockTail start rd tmpbuf check) :=
  OM.bind (OM.liftE _) fun _ => OM.bind (OM.liftE _) fun _ => OM.bind (OM.writeAll _) fun _ =>
    OM.bind (OM.liftE _) fun _ => OM.pure _

theorem OM.blockWriteStage (start : Nat) (check : CheckMethod) (p : BlockHeader × Bytes × Rd) :
    OM (blockWriteStage start check p) := by
  unfold Lzma.blockWriteStage
  split
  · exact OM.ite (OM.throw _) (OM.readBlockTail ..)
  · exact OM.readBlockTail ..

/-- `readBlock` via its staged form `readBlock_eq` (`Lemmas/XzInv.lean`): the data stage
(`blockDataStage`: `decodeFilter` / `laterFilters` run the inner LZMA2 decoder on a private fresh
sink `{}`) is `Except`-valued and enters through `liftE`, so the caller's sink is touched only by
the single `writeAll tmpbuf` of the tail. -/
theorem OM.readBlock (start : Nat) (rd : Rd) (check : CheckMethod) (hsByte : UInt8) :
    OM (readBlock start rd check hsByte) := by
  rw [readBlock_eq]
  exact OM.bind (OM.liftE _) (OM.blockWriteStage _ _)

theorem OM.blockLoop (check : CheckMethod) : ∀ (fuel : Nat) (records : List Record) (rd : Rd),
    OM (blockLoop check fuel records rd)
  | 0, _, _ => OM.throw _
  | n + 1, _, _ =>
    OM.bind (OM.liftE _) fun _ => OM.ite (OM.bind (OM.liftE _) fun _ => OM.pure _) <|
      OM.bind (OM.readBlock ..) fun _ => OM.blockLoop check n ..

theorem OM.xzBodyStage (x : CheckMethod × Rd) : OM (xzBodyStage x) :=
  OM.ite (OM.throw _) <| OM.bind (OM.blockLoop ..) fun _ => OM.liftE _

theorem OM.xzDecompress (rd : Rd) : OM (xzDecompress rd) := by
  rw [xzDecompress_eq]
  exact OM.bind (OM.liftE _) OM.xzBodyStage

/-! ## the encoders -/

theorem OM.emitLoop (carry : Nat) : ∀ n tmp : Nat, OM (REnc.emitLoop carry n tmp)
  | 0, _ => OM.pure _
  | n + 1, _ => OM.bind (OM.writeBytes _) fun _ => OM.emitLoop carry n _

theorem OM.writeLow (e : REnc) : OM e.writeLow :=
  OM.ite
    (OM.guard <| OM.bind (OM.emitLoop ..) fun _ => OM.bind (OM.pure _) fun _ => OM.pure _)
    (OM.bind (OM.pure _) fun _ => OM.pure _)

theorem OM.rencFinish (e : REnc) : OM e.finish :=
  OM.bind (OM.writeLow _) fun _ => OM.bind (OM.writeLow _) fun _ => OM.bind (OM.writeLow _) fun _ =>
    OM.bind (OM.writeLow _) fun _ => OM.writeLow _

theorem OM.normalize (fuel : Nat) (e : REnc) : OM (REnc.normalize fuel e) := by
  induction fuel generalizing e with
  | zero => exact OM.ite (OM.throw _) (OM.pure _)
  | succ n ih => exact OM.ite (OM.bind (OM.writeLow _) fun _ => ih _) (OM.pure _)

theorem OM.encodeBit (e : REnc) (p : Nat) (bit : Bool) : OM (e.encodeBit p bit) :=
  OM.bind (OM.liftE _) fun _ => OM.ite
    (OM.bind (OM.liftE _) fun _ => OM.bind (OM.normalize ..) fun _ => OM.pure _)
    (OM.bind (OM.liftE _) fun _ => OM.bind (OM.normalize ..) fun _ => OM.pure _)

theorem OM.dumbFromStream (opt : EncSizeOpt) : OM (DumbEnc.fromStream opt) := by
  refine OM.bind (OM.writeBytes _) fun _ => OM.bind (OM.writeBytes _) fun _ => ?_
  split
  · exact OM.bind (OM.writeBytes _) fun _ => OM.pure _
  · exact OM.pure _

theorem OM.encodeLiteralLoop (row byte : Nat) : ∀ (n result : Nat) (e : DumbEnc),
    OM (DumbEnc.encodeLiteralLoop row byte n result e)
  | 0, _, _ => OM.pure _
  | n + 1, _, _ => OM.bind (OM.liftE _) fun _ => OM.bind (OM.encodeBit ..) fun _ =>
      OM.encodeLiteralLoop row byte n ..

theorem OM.encodeFresh (bit : Bool) : ∀ (n : Nat) (rc : REnc), OM (DumbEnc.encodeFresh bit n rc)
  | 0, _ => OM.pure _
  | n + 1, _ => OM.bind (OM.encodeBit ..) fun _ => OM.encodeFresh bit n _

theorem OM.dumbFinish (e : DumbEnc) (inputLen : Nat) : OM (e.finish inputLen) := by
  have fin (rc : REnc) : OM (rc.finish >>= fun _ => (Pure.pure () : M Unit)) :=
    OM.bind (OM.rencFinish _) fun _ => OM.pure _
  unfold DumbEnc.finish
  split
  · exact OM.bind (OM.pure _) fin
  · exact OM.bind (OM.pure _) fin
  · exact OM.bind (OM.liftE _) fun _ => OM.bind (OM.encodeBit ..) fun _ =>
      OM.bind (OM.encodeBit ..) fun _ => OM.bind (OM.encodeFresh ..) fun _ =>
      OM.bind (OM.encodeFresh ..) fun _ => OM.bind (OM.encodeFresh ..) fin

theorem OM.dumbProcessLoop : ∀ (fuel outLen inputLen prevByte : Nat) (e : DumbEnc) (rd : ERd),
    OM (DumbEnc.processLoop fuel outLen inputLen prevByte e rd)
  | 0, _, _, _, _, _ => OM.throw _
  | n + 1, _, _, _, _, _ => OM.bind (OM.liftE _) fun x => by
    obtain ⟨_ | _, _⟩ := x
    · exact OM.pure _
    · exact OM.bind (OM.liftE _) fun _ => OM.bind (OM.encodeBit ..) fun _ =>
        OM.bind (OM.encodeLiteralLoop ..) fun _ => OM.dumbProcessLoop n ..

theorem OM.lzmaCompress (rd : ERd) (opt : EncSizeOpt) : OM (lzmaCompress rd opt) :=
  OM.bind (OM.dumbFromStream _) fun _ => OM.bind (OM.dumbProcessLoop ..) fun _ => OM.dumbFinish ..

theorem OM.lzma2EncodeLoop : ∀ (fuel : Nat) (rd : ERd), OM (lzma2EncodeLoop fuel rd)
  | 0, _ => OM.throw _
  | n + 1, _ => OM.bind (OM.liftE _) fun _ => OM.ite (OM.bind (OM.writeBytes _) fun _ => OM.pure _) <|
      OM.bind (OM.writeBytes _) fun _ => OM.bind (OM.liftE _) fun _ => OM.bind (OM.writeBytes _) fun _ =>
      OM.bind (OM.writeAll _) fun _ => OM.lzma2EncodeLoop n _

theorem OM.lzma2Compress (rd : ERd) : OM (lzma2Compress rd) := OM.lzma2EncodeLoop ..

theorem OM.xzWriteHeader (check : CheckMethod) : OM (xzWriteHeader check) :=
  OM.bind (OM.writeAll _) fun _ => OM.bind (OM.writeAll _) fun _ => OM.writeBytes _

theorem OM.xzWriteBlock (rd : ERd) : OM (xzWriteBlock rd) :=
  OM.bind OM.outSize fun _ => OM.bind (OM.writeBytes _) fun _ => OM.bind (OM.writeBytes _) fun _ =>
    OM.bind (OM.writeBytes _) fun _ => OM.bind (OM.writeBytes _) fun _ =>
    OM.bind (OM.writeBytes _) fun _ => OM.bind (OM.writeBytes _) fun _ =>
    OM.bind (OM.writeBytes _) fun _ => OM.bind (OM.lzma2Compress _) fun _ =>
    OM.bind OM.outSize fun _ => OM.bind (OM.writeAll _) fun _ => OM.pure _

theorem OM.forM_writeBytes : ∀ l : List UInt8, OM (l.forM fun b => Lzma.writeBytes [b])
  | [] => OM.pure _
  | _ :: l => OM.bind (OM.writeBytes _) fun _ => OM.forM_writeBytes l

theorem OM.xzWriteIndex (unpadded unpacked : Nat) : OM (xzWriteIndex unpadded unpacked) :=
  OM.bind (OM.forM_writeBytes _) fun _ => OM.bind (OM.writeAll _) fun _ =>
    OM.bind (OM.writeBytes _) fun _ => OM.pure _

theorem OM.xzWriteFooter (check : CheckMethod) (indexSize : Nat) :
    OM (xzWriteFooter check indexSize) :=
  OM.bind (OM.liftE _) fun _ => OM.bind (OM.writeBytes _) fun _ => OM.bind (OM.writeAll _) fun _ =>
    OM.writeAll _

theorem OM.xzCompress (rd : ERd) : OM (xzCompress rd) :=
  OM.bind (OM.xzWriteHeader _) fun _ => OM.bind (OM.xzWriteBlock _) fun _ =>
    OM.bind (OM.xzWriteIndex ..) fun _ => OM.xzWriteFooter ..

/-! ## the streaming decoder (`Stream::write/flush/finish`) -/

theorem OM.streamReadData (rs : RunState) (rd : Rd) : OM (Stream.readData rs rd) :=
  OM.bind (OM.processMode ..) fun _ => OM.pure _

theorem OM.streamWrite (st : Stream) (data : Bytes) : OM (st.write data) := by
  unfold Stream.write
  split
  · exact OM.pure _
  · -- both header branches are raw `fun snk => match readHeader … with …` (not a `liftE`): they hand
    -- the sink through and their result does not depend on it
    refine OM.ite ?_ ?_ <;>
      exact OM.of_const (fun s => by split <;> rfl) fun s s' => by split <;> rfl
  · have rest (rs : RunState) : OM (Stream.readData rs (Rd.ofBytes data) >>= fun x =>
        (Pure.pure ({ st with tmp := [], state := some (.data x.1) }, data.length - x.2.rem.length) :
          M (Stream × Nat))) :=
      OM.bind (OM.streamReadData ..) fun _ => OM.pure _
    exact OM.ite (OM.bind (OM.streamReadData ..) fun _ => OM.bind (OM.pure _) rest)
      (OM.bind (OM.pure _) rest)

theorem OM.streamFlush (st : Stream) : OM st.flush := by
  unfold Stream.flush
  split
  · exact OM.flushSink
  · exact OM.pure _

theorem OM.streamFinish (st : Stream) : OM st.finish := by
  unfold Stream.finish
  split
  · exact OM.throw _
  · exact OM.ite (OM.throw _) (OM.pure _)
  · exact OM.ite
      (OM.bind (OM.processMode ..) fun _ => OM.bind (OM.pure _) fun _ => OM.circ_finish _)
      (OM.bind (OM.pure _) fun _ => OM.circ_finish _)

/-! ## flushing -/

/-- a successful run ends with a successful `flush` as its last raw sink call -/
def Fl (m : M α) : Prop := ∀ s a, (m s).2 = .ok a → (m s).1.lastFlush = true

theorem Fl.flushSink : Fl flushSink := by
  intro s a h
  rcases (flushSink_spec s).2.2.2 with ⟨_, h2, _⟩ | ⟨h1, _⟩
  · exact h2
  · rw [h1] at h; cases h

theorem Fl.bind_right {m : M α} {f : α → M β} (hf : ∀ a, Fl (f a)) : Fl (m >>= f) := by
  intro s b h
  rw [bind_run] at h ⊢
  rcases hms : m s with ⟨s', r⟩
  rw [hms] at h
  cases r with
  | ok a => exact hf a s' b h
  | error e => cases h

theorem Fl.bind_id {m : M α} {f : α → M β} (hm : Fl m) (hf : ∀ a s, (f a s).1 = s) :
    Fl (m >>= f) := by
  intro s b h
  rw [bind_run] at h ⊢
  have h1 := hm s
  rcases hms : m s with ⟨s', r⟩
  rw [hms] at h1 h
  cases r with
  | ok a => simp only; rw [hf a s']; exact h1 a rfl
  | error e => cases h

theorem Fl.circ_finish (w : Circ) : Fl w.finish := by
  unfold Circ.finish
  split
  · split
    · exact Fl.bind_right fun _ => Fl.flushSink
    · exact Fl.bind_right fun _ => Fl.flushSink
  · exact Fl.flushSink

theorem Fl.accum_finish (w : Accum) : Fl w.finish := Fl.bind_right fun _ => Fl.flushSink

theorem Fl.lzmaDecoder_decompress (d : LzmaDecoder) (rd : Rd) : Fl (d.decompress rd) :=
  Fl.bind_right fun _ => Fl.bind_right fun _ => Fl.bind_id (Fl.circ_finish _) fun _ _ => rfl

theorem Fl.lzmaDecompress (rd : Rd) (opts : Options) : Fl (lzmaDecompress rd opts) :=
  Fl.bind_right fun _ => Fl.bind_right fun _ =>
    Fl.bind_id (Fl.lzmaDecoder_decompress _ _) fun _ _ => rfl

theorem Fl.lzma2Decoder_decompress (d : Lzma2Decoder) (rd : Rd) : Fl (d.decompress rd) :=
  Fl.bind_right fun _ => Fl.bind_id (Fl.accum_finish _) fun _ _ => rfl

theorem Fl.lzma2Decompress (rd : Rd) : Fl (lzma2Decompress rd) :=
  Fl.bind_right fun _ => Fl.bind_id (Fl.lzma2Decoder_decompress _ _) fun _ _ => rfl

/-- `s'` was reached from `s` without any `flush` call: the flush counter is unchanged, and
`lastFlush` is either untouched (and then nothing was delivered) or was cleared by a write -/
def NoFlushStep (s s' : Sink) : Prop :=
  s'.flushes = s.flushes ∧ ((s'.lastFlush = s.lastFlush ∧ s'.out = s.out) ∨ s'.lastFlush = false)

theorem NoFlushStep.refl (s : Sink) : NoFlushStep s s := ⟨rfl, Or.inl ⟨rfl, rfl⟩⟩
theorem NoFlushStep.trans {a b c : Sink} (h1 : NoFlushStep a b) (h2 : NoFlushStep b c) :
    NoFlushStep a c := by
  refine ⟨h2.1.trans h1.1, ?_⟩
  rcases h2.2 with ⟨h3, h4⟩ | h3
  · rcases h1.2 with ⟨h5, h6⟩ | h5
    · exact Or.inl ⟨h3.trans h5, h4.trans h6⟩
    · exact Or.inr (h3.trans h5)
  · exact Or.inr h3

/-- `m` never calls `flush` -/
structure NF (m : M α) : Prop where
  step : ∀ s, NoFlushStep s (m s).1

theorem NF.bind {m : M α} {f : α → M β} (hm : NF m) (hf : ∀ a, NF (f a)) : NF (m >>= f) :=
  ⟨bind_steps (R := NoFlushStep) NoFlushStep.trans hm.step fun a => (hf a).step⟩

theorem NF.pure (a : α) : NF (Pure.pure a : M α) := ⟨fun s => NoFlushStep.refl s⟩
theorem NF.throw (e : Err) : NF (throwM e : M α) := ⟨fun s => NoFlushStep.refl s⟩
theorem NF.liftE (x : Except Err α) : NF (liftE x : M α) := by
  cases x with
  | ok a => exact NF.pure a
  | error e => exact NF.throw e

theorem Sink.write1_noFlush (s : Sink) (bs : Bytes) : NoFlushStep s (s.write1 bs).1 := by
  unfold Sink.write1 NoFlushStep; split <;> simp

theorem NF.writeAll (bs : Array UInt8) : NF (writeAll bs) := by
  constructor
  intro s
  unfold Lzma.writeAll
  split
  · exact NoFlushStep.refl s
  · split
    · exact ⟨rfl, Or.inr rfl⟩
    · exact writeAllList_steps NoFlushStep.refl NoFlushStep.trans Sink.write1_noFlush _ _

theorem NF.ite {c : Prop} [Decidable c] {a b : M α} (ha : NF a) (hb : NF b) :
    NF (if c then a else b) := by split <;> assumption

theorem NF.readBlockTail (start : Nat) (rd : Rd) (tmpbuf : Bytes) (check : CheckMethod) :
    NF (readBlockTail start rd tmpbuf check) :=
  NF.bind (NF.liftE _) fun _ => NF.bind (NF.liftE _) fun _ => NF.bind (NF.writeAll _) fun _ =>
    NF.bind (NF.liftE _) fun _ => NF.pure _

theorem NF.blockWriteStage (start : Nat) (check : CheckMethod) (p : BlockHeader × Bytes × Rd) :
    NF (blockWriteStage start check p) := by
  unfold Lzma.blockWriteStage
  split
  · exact NF.ite (NF.throw _) (NF.readBlockTail ..)
  · exact NF.readBlockTail ..

theorem NF.readBlock (start : Nat) (rd : Rd) (check : CheckMethod) (hsByte : UInt8) :
    NF (readBlock start rd check hsByte) := by
  rw [readBlock_eq]
  exact NF.bind (NF.liftE _) (NF.blockWriteStage _ _)

theorem NF.blockLoop (check : CheckMethod) : ∀ (fuel : Nat) (records : List Record) (rd : Rd),
    NF (blockLoop check fuel records rd)
  | 0, _, _ => NF.throw _
  | n + 1, _, _ =>
    NF.bind (NF.liftE _) fun _ => NF.ite (NF.bind (NF.liftE _) fun _ => NF.pure _) <|
      NF.bind (NF.readBlock ..) fun _ => NF.blockLoop check n ..

theorem NF.xzBodyStage (x : CheckMethod × Rd) : NF (xzBodyStage x) :=
  NF.ite (NF.throw _) <| NF.bind (NF.blockLoop ..) fun _ => NF.liftE _

theorem NF.xzDecompress (rd : Rd) : NF (xzDecompress rd) := by
  rw [xzDecompress_eq]
  exact NF.bind (NF.liftE _) NF.xzBodyStage

/-! ## `Obl` spelled out -/

theorem OM.sink_prefix {m : M α} (h : OM m) (s sp : Sink) (hsp : sp.script = [])
    (ho : s.out = sp.out) :
    (m sp).1.script = [] ∧
    (((m s).2 = (m sp).2 ∧ (m s).1.out = (m sp).1.out) ∨
     ((m s).2 = .error .io ∧ ∃ pre post : Array UInt8,
        (m s).1.out = s.out ++ pre ∧ (m sp).1.out = s.out ++ pre ++ post)) := by
  obtain ⟨h1, h2⟩ := h.obl s sp hsp ho
  refine ⟨h1, ?_⟩
  rcases h2 with h2 | ⟨hr, post, hpost⟩
  · exact Or.inl h2
  · obtain ⟨pre, hpre⟩ := h.mono s
    exact Or.inr ⟨hr, pre, post, hpre, by rw [hpost, hpre]⟩

end Lzma
