/-
  Symbol layer, part 3: no probability index occurs twice on a root-to-leaf
  path of `symTree` (the tables are visited in a fixed order and inside a table
  the position grows: `Coder.Ranked`); consequently, over a store where writing a cell does not
  disturb another (`LawfulProbStore`), the dry run (`update = false`) reads exactly the same bits
  as the real run (`runDec_update_irrelevant_aux`, `runDec_true_ok_aux`).
-/
import LzmaProofs.Lemmas.SymLayer
import LzmaProofs.Lemmas.RcDec
namespace Lzma

/-! ## the predicates -/

namespace Coder

/-- no index of `seen` and no index twice on any root-to-leaf path -/
def NoDupAux : Coder ι α → (ι → Prop) → Prop
  | .ret _, _ => True
  | .fail _, _ => True
  | .bit i k, seen => ¬ seen i ∧ ∀ b, NoDupAux (k b) (fun j => j = i ∨ seen j)
  | .direct k, seen => ∀ b, NoDupAux (k b) seen

/-- on every root-to-leaf path of the tree no probability index occurs twice -/
def NoDup (t : Coder ι α) : Prop := NoDupAux t (fun _ => False)

/-- Every index `i` of the tree has a stage `st i < hi` and an offset `off i`; along every path
the pairs `(st i, off i)` increase strictly in the lexicographic order, starting at or above
`(s, o)`.  Trees that follow one another use later stages; within one table the offset grows. -/
def Ranked (st off : ι → Nat) : Nat → Nat → Nat → Coder ι α → Prop
  | _, _, _, .ret _ => True
  | _, _, _, .fail _ => True
  | s, o, hi, .bit i k => (s < st i ∨ s = st i ∧ o ≤ off i) ∧ st i < hi ∧
      ∀ b, Ranked st off (st i) (off i + 1) hi (k b)
  | s, o, hi, .direct k => ∀ b, Ranked st off s o hi (k b)

variable {st off : ι → Nat}

theorem Ranked.mono {t : Coder ι α} {s o hi s' o' hi' : Nat} (h : s' < s ∨ s' = s ∧ o' ≤ o)
    (hh : hi ≤ hi') (ht : Ranked st off s o hi t) : Ranked st off s' o' hi' t := by
  induction t generalizing s o s' o' with
  | ret a => trivial
  | fail e => trivial
  | bit i k ih =>
    exact ⟨by have := ht.1; omega, by have := ht.2.1; omega,
      fun b => ih b (.inr ⟨rfl, Nat.le_refl _⟩) (ht.2.2 b)⟩
  | direct k ih => exact fun b => ih b h (ht b)

/-- sequencing: the second tree uses stages from `mid` on, the first only stages below `mid` -/
theorem Ranked.bind {t : Coder ι α} {f : α → Coder ι β} {s o mid hi : Nat}
    (ht : Ranked st off s o mid t) (hf : ∀ a, Ranked st off mid 0 hi (f a)) (hs : s < mid)
    (hm : mid ≤ hi) : Ranked st off s o hi (t.bind f) := by
  induction t generalizing s o with
  | ret a => exact (hf a).mono (.inl hs) (Nat.le_refl _)
  | fail e => trivial
  | bit i k ih =>
    exact ⟨ht.1, by have := ht.2.1; omega, fun b => ih b (ht.2.2 b) ht.2.1⟩
  | direct k ih => exact fun b => ih b (ht b) hs

theorem Ranked.map {t : Coder ι α} {g : α → β} {s o hi : Nat} (ht : Ranked st off s o hi t) :
    Ranked st off s o hi (t.map g) := by
  induction t generalizing s o with
  | ret a => trivial
  | fail e => trivial
  | bit i k ih => exact ⟨ht.1, ht.2.1, fun b => ih b (ht.2.2 b)⟩
  | direct k ih => exact fun b => ih b (ht b)

theorem Ranked.ofExcept {s o hi : Nat} (x : Except Err α) :
    Ranked st off s o hi (Coder.ofExcept x : Coder ι α) := by
  cases x <;> trivial

/-- strictly increasing pairs never repeat an index -/
theorem Ranked.nodupAux {t : Coder ι α} {s o hi : Nat} {seen : ι → Prop}
    (ht : Ranked st off s o hi t) (hs : ∀ j, seen j → st j < s ∨ st j = s ∧ off j < o) :
    NoDupAux t seen := by
  induction t generalizing s o seen with
  | ret a => trivial
  | fail e => trivial
  | bit i k ih =>
    refine ⟨fun h => by have := hs i h; have := ht.1; omega, fun b => ih b (ht.2.2 b) ?_⟩
    rintro j (rfl | h)
    · omega
    · have := hs j h; have := ht.1; omega
  | direct k ih => exact fun b => ih b (ht b) hs

theorem Ranked.nodup {t : Coder ι α} {s o hi : Nat} (ht : Ranked st off s o hi t) : NoDup t :=
  ht.nodupAux fun _ h => h.elim

end Coder

open Coder

/-! ## the dry run reads the same bits -/

/-- what `runDec`'s correctness needs of a probability store: writing a
readable cell does not disturb any other cell.  (For `Probs` the premise
`get s i = .ok w` matters: `Probs.set` is not bounds-checked per table row, so
an out-of-range `.posSlot 0 64` would alias `.posSlot 1 0`; `runDec` only ever
writes a cell it has just read.) -/
class LawfulProbStore (σ : Type) (ι : outParam Type) [ProbStore σ ι] : Prop where
  get_set_ne : ∀ (s : σ) (i j : ι) (v w : Nat), ProbStore.get s i = .ok w → j ≠ i →
    ProbStore.get (ProbStore.set s i v) j = ProbStore.get s j

theorem exc_ok_bind {α β : Type} (a : α) (f : α → Except Err β) : (Except.ok a >>= f) = f a :=
  rc_except_ok_bind a f
theorem exc_error_bind {α β : Type} (e : Err) (f : α → Except Err β) :
    ((Except.error e : Except Err α) >>= f) = .error e := rfl
theorem exc_pure {α : Type} (a : α) : (pure a : Except Err α) = .ok a := rfl

theorem decodeBit_dry (p : Nat) (hp : p ≤ 0x800) (rc : RC) (rd : Rd) :
    RC.decodeBit false p rc rd = (RC.decodeBit true p rc rd).map (fun r => (r.1, p, r.2.2)) := by
  by_cases hb : (rc.range >>> 11) * p < 4294967296
  · rw [RC.decodeBit_spec false p rc rd hp hb, RC.decodeBit_spec true p rc rd hp hb]
    cases RC.normalize _ rd <;> rfl
  · have hm : mulChk U32 "decode_bit: bound overflow" (rc.range >>> 11) p =
        .error (.panic "decode_bit: bound overflow") := by simp [mulChk, U32, hb]
    unfold RC.decodeBit
    rw [hm]; rfl

def dropStore {α σ : Type} (r : α × σ × RC × Rd) : α × RC × Rd := (r.1, r.2.2)

theorem agree_set [ProbStore σ ι] [LawfulProbStore σ ι] {s s' : σ} {seen : ι → Prop} {i : ι}
    {p : Nat} (hs : ∀ j, ¬ seen j → ProbStore.get s' j = ProbStore.get s j) (hi : ¬ seen i)
    (hg : ProbStore.get s i = .ok p) (q : Nat) (j : ι) (hj : ¬ (j = i ∨ seen j)) :
    ProbStore.get (ProbStore.set s' i q) j = ProbStore.get s j := by
  rw [LawfulProbStore.get_set_ne s' i j q p (by rw [hs i hi, hg]) fun h => hj (.inl h)]
  exact hs j fun h => hj (.inr h)

/-- the `update = true` run may start from any store that agrees with `s` outside the indices
already `seen` -/
theorem runDec_update_irrelevant_aux [ProbStore σ ι] [LawfulProbStore σ ι]
    (t : Coder ι α) (seen : ι → Prop) (ht : t.NoDupAux seen) (s s' : σ)
    (hb : ∀ i v, ProbStore.get s i = .ok v → v ≤ 0x800)
    (hs : ∀ j, ¬ seen j → ProbStore.get s' j = ProbStore.get s j) (rc : RC) (rd : Rd) :
    (runDec false t s rc rd).map dropStore = (runDec true t s' rc rd).map dropStore := by
  induction t generalizing seen s' rc rd with
  | ret a => rfl
  | fail e => rfl
  | bit i k ih =>
    simp only [runDec]
    rw [hs i ht.1]
    cases hg : ProbStore.get s i with
    | error e => rfl
    | ok p =>
      simp only []
      rw [decodeBit_dry p (hb i p hg)]
      cases RC.decodeBit true p rc rd with
      | error e => rfl
      | ok r => exact ih r.1 _ (ht.2 r.1) _ (agree_set hs ht.1 hg r.2.1) r.2.2.1 r.2.2.2
  | direct k ih =>
    simp only [runDec]
    cases RC.getBit rc rd with
    | error e => rfl
    | ok r => exact ih r.1 seen (ht r.1) s' hs r.2.1 r.2.2

theorem decodeBit_true_ok {p : Nat} {rc : RC} {rd : Rd} {r : Bool × Nat × RC × Rd}
    (h : RC.decodeBit true p rc rd = .ok r) :
    RC.decodeBit false p rc rd = .ok (r.1, p, r.2.2) := by
  unfold RC.decodeBit at h ⊢
  obtain ⟨bound, hm, h⟩ := Except.bind_eq_ok'.1 h
  rw [hm]
  show (if rc.code < bound then _ else _) = _
  split at h
  · obtain ⟨d, _, h⟩ := Except.bind_eq_ok'.1 h
    obtain ⟨p', _, h⟩ := Except.bind_eq_ok'.1 h
    obtain ⟨x, hn, h⟩ := Except.bind_eq_ok'.1 h
    rw [if_pos ‹_›]
    show (RC.normalize _ rd >>= _) = _
    rw [hn]; cases h; rfl
  · obtain ⟨code, hc, h⟩ := Except.bind_eq_ok'.1 h
    obtain ⟨range, hr, h⟩ := Except.bind_eq_ok'.1 h
    obtain ⟨x, hn, h⟩ := Except.bind_eq_ok'.1 h
    rw [if_neg ‹_›, hc, hr]
    show (RC.normalize _ rd >>= _) = _
    rw [hn]; cases h; rfl

theorem runDec_true_ok_aux [ProbStore σ ι] [LawfulProbStore σ ι]
    (t : Coder ι α) (seen : ι → Prop) (ht : t.NoDupAux seen) (s s' : σ)
    (hs : ∀ j, ¬ seen j → ProbStore.get s' j = ProbStore.get s j) (rc : RC) (rd : Rd)
    {r : α × σ × RC × Rd} (h : runDec true t s' rc rd = .ok r) :
    runDec false t s rc rd = .ok (r.1, s, r.2.2) := by
  induction t generalizing seen s' rc rd with
  | ret a => cases h; rfl
  | fail e => cases h
  | bit i k ih =>
    rw [runDec_bit] at h ⊢
    obtain ⟨p, hg, h⟩ := Except.bind_eq_ok'.1 h
    obtain ⟨x, hT, h⟩ := Except.bind_eq_ok'.1 h
    rw [hs i ht.1] at hg
    rw [hg]
    show (RC.decodeBit false p rc rd >>= _) = _
    rw [decodeBit_true_ok hT]
    exact ih x.1 _ (ht.2 x.1) _ (agree_set hs ht.1 hg x.2.1) x.2.2.1 x.2.2.2 h
  | direct k ih =>
    rw [runDec_direct] at h ⊢
    obtain ⟨x, hG, h⟩ := Except.bind_eq_ok'.1 h
    rw [hG]
    exact ih x.1 seen (ht x.1) s' hs x.2.1 x.2.2 h

instance : LawfulProbStore Probs PIdx := ⟨Probs.get_set_ne⟩

/-! ## the generic trees -/

section
variable {st off : ι → Nat} (mk : Nat → ι) {S : Nat} (hs : ∀ t, st (mk t) = S)
  (ho : ∀ t, off (mk t) = t)
include hs ho

theorem bitTreeAux_ranked (n tmp : Nat) (h1 : 1 ≤ tmp) :
    Ranked st off S tmp (S + 1) (bitTreeAux mk n tmp) := by
  induction n generalizing tmp with
  | zero => trivial
  | succ n ih =>
    refine ⟨.inr ⟨(hs _).symm, by rw [ho]; exact Nat.le_refl _⟩, by rw [hs]; omega, fun b => ?_⟩
    rw [hs, ho]
    exact (ih _ (by omega)).mono (.inr ⟨rfl, by omega⟩) (Nat.le_refl _)

theorem bitTree_ranked (n : Nat) : Ranked st off S 0 (S + 1) (bitTree mk n) :=
  ((bitTreeAux_ranked mk hs ho n 1 (Nat.le_refl _)).bind (fun _ => .ofExcept _) (Nat.lt_succ_self S)
    (Nat.le_refl _)).mono (.inr ⟨rfl, Nat.zero_le _⟩) (Nat.le_refl _)

theorem revBitTree_ranked (offset n : Nat) : Ranked st off S 0 (S + 1) (revBitTree mk offset n) := by
  have aux : ∀ n i tmp res, 1 ≤ tmp →
      Ranked st off S (offset + tmp) (S + 1) (revBitTreeAux mk offset n i tmp res) := by
    intro n
    induction n with
    | zero => intros; trivial
    | succ n ih =>
      intro i tmp res h1
      refine ⟨.inr ⟨(hs _).symm, by rw [ho]; exact Nat.le_refl _⟩, by rw [hs]; omega, fun b => ?_⟩
      rw [hs, ho]
      exact (ih _ _ _ (by omega)).mono (.inr ⟨rfl, by omega⟩) (Nat.le_refl _)
  exact (aux n 0 1 0 (Nat.le_refl _)).mono (.inr ⟨rfl, Nat.zero_le _⟩) (Nat.le_refl _)

end

theorem directBits_ranked (st off : ι → Nat) (s o hi n acc : Nat) :
    Ranked st off s o hi (directBits n acc : Coder ι Nat) := by
  induction n generalizing acc with
  | zero => trivial
  | succ n ih => exact fun b => ih _

/-! ## the LZMA trees -/

/-- the order in which `symTree` visits the tables; tables on disjoint branches may share a
stage (`isRep0Long`/`isRepG1`, the three length trees, `posDec`/`align`), and stage 10 is left
free for the index-less `directBits` between `posSlot` and `align` (`distTree_ranked`) -/
def PIdx.st : PIdx → Nat
  | .isMatch _ => 0 | .lit .. => 1 | .isRep _ => 2 | .isRepG0 _ => 3 | .isRep0Long _ => 4
  | .isRepG1 _ => 4 | .isRepG2 _ => 5 | .lenChoice _ => 6 | .lenChoice2 _ => 7
  | .lenLow .. => 8 | .lenMid .. => 8 | .lenHigh .. => 8 | .posSlot .. => 9
  | .posDec _ => 11 | .align _ => 11

/-- the position inside a table that grows along a path; for the literal tables the partial
symbol `result`, whichever of the three 0x100-blocks of the row the index lies in -/
def PIdx.off : PIdx → Nat
  | .lit _ c => c % 256 | .lenLow _ _ t => t | .lenMid _ _ t => t | .lenHigh _ t => t
  | .posSlot _ t => t | .posDec t => t | .align t => t | _ => 0

/-- `Ranked` for the tables of the LZMA decoder, in the order `symTree` visits them -/
abbrev RankedL {α : Type} := @Ranked PIdx α PIdx.st PIdx.off

theorem lenTree_ranked (rep : Bool) (ps : Nat) : RankedL 6 0 9 (lenTree rep ps) := by
  have tree (mk : Nat → PIdx) (hs : ∀ t, (mk t).st = 8) (ho : ∀ t, (mk t).off = t) (n s : Nat)
      (h : s < 8) : RankedL s 1 9 (bitTree mk n) :=
    (bitTree_ranked mk hs ho n).mono (.inl h) (Nat.le_refl _)
  refine ⟨.inr ⟨rfl, Nat.le_refl _⟩, (by decide : 6 < 9), fun b => ?_⟩
  cases b
  · exact tree _ (fun _ => rfl) (fun _ => rfl) 3 6 (by decide)
  · refine ⟨.inl (by decide : 6 < 7), (by decide : 7 < 9), fun b => ?_⟩
    cases b
    · exact (tree _ (fun _ => rfl) (fun _ => rfl) 3 7 (by decide)).map
    · exact (tree _ (fun _ => rfl) (fun _ => rfl) 8 7 (by decide)).map

theorem distTree_ranked (l : Nat) : RankedL 9 0 12 (distTree l) := by
  have rev (mk : Nat → PIdx) (hs : ∀ t, (mk t).st = 11) (ho : ∀ t, (mk t).off = t) (o n : Nat) :
      RankedL 11 0 12 (revBitTree mk o n) := revBitTree_ranked mk hs ho o n
  unfold distTree
  dsimp only
  refine Ranked.bind (mid := 10) (bitTree_ranked (PIdx.posSlot _) (fun _ => rfl) (fun _ => rfl) 6)
    (fun a => ?_) (by decide) (by decide)
  split
  · trivial
  · split
    · split
      · trivial
      · exact (rev .posDec (fun _ => rfl) (fun _ => rfl) _ _).map.mono (.inl (by decide)) (Nat.le_refl _)
    · exact ((directBits_ranked _ _ 10 0 11 _ _).bind
        (fun _ => (rev .align (fun _ => rfl) (fun _ => rfl) _ _).map) (by decide) (by decide)).mono
        (.inr ⟨rfl, Nat.le_refl _⟩) (Nat.le_refl _)

theorem litPlain_ranked (row fuel result : Nat) (h1 : 1 ≤ result) :
    RankedL 1 result 2 (litPlain row fuel result) := by
  induction fuel generalizing result with
  | zero => unfold litPlain; split <;> trivial
  | succ f ih =>
    unfold litPlain
    split
    · rename_i hlt
      have ho : (PIdx.lit row result).off = result := Nat.mod_eq_of_lt hlt
      refine ⟨.inr ⟨rfl, Nat.le_of_eq ho.symm⟩, (by decide : 1 < 2), fun b => ?_⟩
      rw [ho]
      exact (ih _ (by omega)).mono (.inr ⟨rfl, by omega⟩) (Nat.le_refl _)
    · trivial

/-- in the matched loop the index is `0x100 + result` or `0x200 + result`: its offset is `result` -/
theorem litMatched_ranked (row fuel mb result : Nat) (h1 : 1 ≤ result) :
    RankedL 1 result 2 (litMatched row fuel mb result) := by
  induction fuel generalizing mb result with
  | zero => unfold litMatched; split <;> trivial
  | succ f ih =>
    unfold litMatched
    split
    · rename_i hlt
      have ho : (PIdx.lit row (((1 + ((mb >>> 7) &&& 1)) <<< 8) + result)).off = result := by
        show (_ <<< 8 + result) % 256 = result
        rw [Nat.shiftLeft_eq]; omega
      refine ⟨.inr ⟨rfl, Nat.le_of_eq ho.symm⟩, (by decide : 1 < 2), fun b => ?_⟩
      rw [ho]
      dsimp only
      split
      · exact (litPlain_ranked row f _ (by omega)).mono (.inr ⟨rfl, by omega⟩) (Nat.le_refl _)
      · exact (ih _ _ (by omega)).mono (.inr ⟨rfl, by omega⟩) (Nat.le_refl _)
    · trivial

theorem symTree_ranked (c : Ctx) : RankedL 0 0 12 (symTree c) := by
  have len (k : Nat → RawSym) (s : Nat) (h : s < 6) : RankedL s 1 12 ((lenTree true c.posState).map k) :=
    (lenTree_ranked true c.posState).map.mono (.inl h) (by decide)
  unfold symTree
  refine ⟨.inr ⟨rfl, Nat.le_refl _⟩, (by decide : 0 < 12), fun b => ?_⟩
  cases b
  · -- literal
    simp only [Bool.not_false, if_true]
    split
    · trivial
    · rename_i row _
      refine Ranked.mono (.inl (by decide : 0 < 1)) (by decide : 3 ≤ 12)
        (Ranked.bind (mid := 2) (hi := 3) (s := 1) (o := 1) ?_ (fun a => ?_) (by decide) (by decide))
      · split
        · split
          · trivial
          · exact litMatched_ranked row 8 _ 1 (Nat.le_refl _)
        · exact litPlain_ranked row 8 1 (Nat.le_refl _)
      · split <;> trivial
  · refine ⟨.inl (by decide : 0 < 2), (by decide : 2 < 12), fun b => ?_⟩
    cases b
    · -- match: length then distance
      exact ((lenTree_ranked false _).bind (fun l => (distTree_ranked l).map) (by decide)
        (by decide)).mono (.inl (by decide : 2 < 6)) (Nat.le_refl _)
    · -- rep family
      refine ⟨.inl (by decide : 2 < 3), (by decide : 3 < 12), fun b => ?_⟩
      cases b
      · refine ⟨.inl (by decide : 3 < 4), (by decide : 4 < 12), fun b => ?_⟩
        cases b
        · trivial
        · exact len _ 4 (by decide)
      · refine ⟨.inl (by decide : 3 < 4), (by decide : 4 < 12), fun b => ?_⟩
        cases b
        · exact len _ 4 (by decide)
        · refine ⟨.inl (by decide : 4 < 5), (by decide : 5 < 12), fun b => ?_⟩
          cases b
          · exact len _ 5 (by decide)
          · exact len _ 5 (by decide)

theorem symTree_nodup_lemma (c : Ctx) : NoDup (symTree c) := (symTree_ranked c).nodup

/-! ## `NoDup` in terms of paths -/

def Ev.idx? : Ev → Option PIdx
  | .pbit i _ => some i
  | .dbit _ => none

theorem Coder.NoDupAux.path {t : Coder PIdx α} {seen : PIdx → Prop} (ht : NoDupAux t seen)
    {evs rest : List Ev} {a : α} (h : runEv t evs = some (a, rest)) :
    ∃ used, evs = used ++ rest ∧ (used.filterMap Ev.idx?).Nodup ∧
      ∀ i ∈ used.filterMap Ev.idx?, ¬ seen i := by
  induction t generalizing seen evs with
  | ret a' => simp at h; exact ⟨[], by simp [h.2]⟩
  | fail e => simp at h
  | bit i k ih =>
    obtain ⟨b, evs', rfl, h'⟩ := runEv_bit_ok h
    obtain ⟨u, rfl, hnd, hns⟩ := ih b (ht.2 b) h'
    refine ⟨.pbit i b :: u, rfl, List.nodup_cons.2 ⟨fun hm => hns i hm (.inl rfl), hnd⟩, ?_⟩
    intro x hx
    rcases List.mem_cons.1 hx with rfl | hx
    · exact ht.1
    · exact fun hs => hns x hx (.inr hs)
  | direct k ih =>
    obtain ⟨b, evs', rfl, h'⟩ := runEv_direct_ok h
    obtain ⟨u, rfl, hnd, hns⟩ := ih b (ht b) h'
    exact ⟨.dbit b :: u, rfl, hnd, hns⟩

end Lzma
