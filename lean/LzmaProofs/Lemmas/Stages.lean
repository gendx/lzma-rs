/-
  Cutting a decoder's `do` block into stages: a pure `Except` prefix, the calls that touch the
  sink, a pure `Except` suffix.  The rewriting lemmas push `liftE` into an `Except` block and
  re-associate, after which a staged form and the model's text are definitionally equal.
  Staged here: `xzDecompress` (Rust `decode_stream`; `xzDecompress_eq`) and `Lzma2Decoder.parseLzma`
  (Rust `parse_lzma`; `parseLzma_eq_M`, staged form `parseLzmaM`).  `readBlock` is staged the same way
  in `XzInv` (`readBlock_eq`).
-/
import LzmaProofs.Lemmas.Multibyte
namespace Lzma

/-! ## `liftE` is a monad morphism; `M` is associative -/

theorem liftE_bind (e : Except Err α) (f : α → Except Err β) :
    (liftE (e >>= f) : M β) = liftE e >>= fun a => liftE (f a) := by
  cases e <;> rfl
theorem liftE_pure (a : α) : (liftE (pure a) : M α) = pure a := rfl
theorem liftE_throw (e : Err) : (liftE (throw e) : M α) = throwM e := rfl
theorem liftE_ite {c : Prop} [Decidable c] (a b : Except Err α) :
    (liftE (if c then a else b) : M α) = if c then liftE a else liftE b := by
  split <;> rfl

theorem mBind_assoc (m : M α) (f : α → M β) (g : β → M γ) :
    m >>= f >>= g = m >>= fun a => f a >>= g := by
  funext s; simp only [bind_run]; rcases m s with ⟨s', e | a⟩ <;> rfl
theorem mPure_bind (a : α) (f : α → M β) : pure a >>= f = f a := rfl
theorem mIte_bind {c : Prop} [Decidable c] (a b : M α) (f : α → M β) :
    (if c then a else b) >>= f = if c then a >>= f else b >>= f := by
  split <;> rfl

/-! ## `decode_stream` -/

/-- the stream footer, read after the index -/
def xzFooterStage (check : CheckMethod) (indexSize : Nat) (rd : Rd) : Except Err Rd := do
  let x ← rd.readU32LE
  let y ← x.2.readExact 4
  if indexSize ≠ (leVal y.1 + 1) <<< 2 then throw .xz
  else do
    let z ← y.2.readExact 2
    let flags ← parseStreamFlags (beVal z.1)
    if check ≠ flags then throw .xz
    else if x.1 ≠ crc32 (y.1 ++ z.1) then throw .xz
    else do
      let t ← z.2.readTag XZ_MAGIC_FOOTER
      if !t.1 then throw .xz else pure t.2

/-- nothing may follow the stream footer -/
def xzEndStage (rd : Rd) : Except Err Rd := do
  let eof ← rd.isEof
  if !eof then throw .xz else pure rd

/-- `decode_stream` after the stream header: the blocks are the only part that writes -/
def xzBodyStage (x : CheckMethod × Rd) : M Rd :=
  if x.1 = .sha256 then throwM .xz
  else blockLoop x.1 (x.2.rem.length + 1) [] x.2 >>= fun y =>
    liftE (xzFooterStage x.1 y.1 y.2 >>= xzEndStage)

theorem xzDecompress_eq (rd : Rd) : xzDecompress rd = liftE (parseStreamHeader rd) >>= xzBodyStage := by
  unfold xzBodyStage
  simp only [xzFooterStage, xzEndStage, liftE_bind, liftE_ite, liftE_throw, liftE_pure, mBind_assoc,
    mIte_bind, throwM_bind, mPure_bind]
  rfl

/-- `decode_stream` returns `Ok` only from its last statement, after `is_eof` answered `true` -/
theorem xzDecompress_post (rd : Rd) :
    Post (xzDecompress rd) fun rd' => rd'.rem = [] ∧ rd'.bad = false := by
  unfold xzDecompress
  refine .bind' fun _ => .guard <| .bind' fun _ => .bind' fun _ => .bind' fun _ => .guard <|
    .bind' fun _ => .bind' fun _ => .guard <| .guard <| .bind' fun _ => .guard <|
    .bind (.liftE fun _ => id) fun eof h => .ite (fun _ => .throw) fun hne => .pure ?_
  cases eof
  · exact absurd rfl hne
  · exact Rd.isEof_true_iff.1 h

/-! ## `parse_lzma` -/

/-- the optional property byte and state reset of `parse_lzma`; `cls = (status >>> 5) &&& 3` is the
reset class of the chunk (`≥ 1`: reset the state, `≥ 2`: read new properties first) -/
def lzma2PropsStage (d : Lzma2Decoder) (rd : Rd) (cls : Nat) : Except Err (DState × Rd) :=
  if cls ≥ 1 then do
    let x ← (if cls ≥ 2 then do
        let y ← lzErr rd.readU8
        if y.1.toNat ≥ 225 then throw .lzma
        else if y.1.toNat % 9 + y.1.toNat / 9 % 5 > 4 then throw .lzma
        else pure (({ lc := y.1.toNat % 9, lp := y.1.toNat / 9 % 5, pb := y.1.toNat / 9 / 5 } : Props), y.2)
      else pure (d.lzmaState.props, rd))
    let st ← d.lzmaState.resetState x.1
    pure (st, x.2)
  else pure (d.lzmaState, rd)

/-- the end of a chunk's payload: the range coder must be finished -/
def lzma2EndStage (rd : Rd) (rest : Bytes) (q : DState × Accum × RC × Rd) :
    Except Err (Lzma2Decoder × Accum × Rd) := do
  let fin ← q.2.2.1.isFinishedOk q.2.2.2
  if !fin then throw .lzma else pure ({ lzmaState := q.1 }, q.2.1, rd.unsplit q.2.2.2 rest)

/-- the payload of an LZMA chunk: `packed` bytes of range-coded symbols -/
def lzma2Payload (st : DState) (a0 : Accum) (rd : Rd) (packed : Nat) :
    M (Lzma2Decoder × Accum × Rd) := do
  let r ← liftE (lzErr (RC.new (rd.split packed).1))
  let q ← st.processMode .finish a0 r.1 r.2
  liftE (lzma2EndStage rd (rd.split packed).2 q)

def parseLzmaM (d : Lzma2Decoder) (accum : Accum) (rd : Rd) (status : Nat) :
    M (Lzma2Decoder × Accum × Rd) :=
  if status &&& 0x80 = 0 then throwM .lzma
  else do
    let x ← liftE (lzErr rd.readU16BE)
    let y ← liftE (lzErr x.2.readU16BE)
    let a0 ← (if (status >>> 5) &&& 0x3 = 3 then accum.reset else pure accum)
    let z ← liftE (lzma2PropsStage d y.2 ((status >>> 5) &&& 0x3))
    lzma2Payload (z.1.setUnpackedSize (some ((((status &&& 0x1F) <<< 16) ||| x.1) + 1 + a0.len)))
      a0 z.2 (y.1 + 1)

theorem parseLzma_eq_M (d : Lzma2Decoder) (accum : Accum) (rd : Rd) (status : Nat) :
    d.parseLzma accum rd status = parseLzmaM d accum rd status := by
  simp only [parseLzmaM, lzma2Payload, lzma2PropsStage, lzma2EndStage, liftE_bind, liftE_ite,
    liftE_throw, liftE_pure, mBind_assoc, mIte_bind, throwM_bind, mPure_bind]
  rfl

end Lzma
