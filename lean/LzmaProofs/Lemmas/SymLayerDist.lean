/-
  Symbol layer, part 2: arithmetic of position slots and the round trip of
  `decode_distance`, then the whole `symTree`.
-/
import LzmaProofs.Lemmas.SymLayer
namespace Lzma

/-! ## position slots -/

theorem posSlotOf_small (d : Nat) (h : d < 4) : posSlotOf d = d := by
  simp [posSlotOf, h]

/-- for `d ≥ 4`: with `m = bitLen d - 2` and `bit` = bit `m` of `d`,
`slot = 2(m+1) + bit` and `d ∈ [(2+bit)·2^m, (2+bit)·2^m + 2^m)`. -/
theorem posSlot_facts (d : Nat) (h4 : 4 ≤ d) :
    ∃ m bit, 1 ≤ m ∧ bit ≤ 1 ∧ posSlotOf d = 2 * (m + 1) + bit ∧
      (2 + bit) * 2 ^ m ≤ d ∧ d < (2 + bit) * 2 ^ m + 2 ^ m ∧ (d < 2 ^ 32 → m ≤ 30) := by
  have hd0 : d ≠ 0 := by omega
  have hL2 : 2 ≤ Nat.log2 d := (Nat.le_log2 hd0).2 (by simpa using h4)
  obtain ⟨m, hm⟩ : ∃ m, Nat.log2 d = m + 1 := ⟨Nat.log2 d - 1, by omega⟩
  have hlo : 2 ^ (m + 1) ≤ d := hm ▸ Nat.log2_self_le hd0
  have hhi : d < 2 ^ (m + 2) := by have := Nat.lt_log2_self (n := d); rwa [hm] at this
  have hP : 0 < 2 ^ m := Nat.pow_pos (by decide)
  have hq2 : 2 ≤ d / 2 ^ m := by
    rw [Nat.le_div_iff_mul_le hP]; rw [Nat.pow_succ] at hlo; omega
  have hq4 : d / 2 ^ m < 4 := by
    rw [Nat.div_lt_iff_lt_mul hP]; rw [Nat.pow_succ, Nat.pow_succ] at hhi; omega
  have hdm := Nat.div_add_mod d (2 ^ m)
  have hmod := Nat.mod_lt d hP
  -- the two leading bits of `d` are `1` and `bit`
  have hq : 2 + d / 2 ^ m % 2 = d / 2 ^ m := by omega
  refine ⟨m, d / 2 ^ m % 2, by omega, by omega, ?_, ?_, ?_, ?_⟩
  · have hnot : ¬ d < 4 := by omega
    simp only [posSlotOf, hnot, if_false, bitLen, hd0, hm]
    rw [shr_and_one]
    have e1 : m + 1 + 1 - 1 = m + 1 := by omega
    have e2 : m + 1 + 1 - 2 = m := by omega
    rw [e1, e2]
  · rw [hq, Nat.mul_comm]; omega
  · rw [hq, Nat.mul_comm]; omega
  · intro h32
    have : Nat.log2 d < 32 := (Nat.log2_lt hd0).2 h32
    omega

theorem bitLen_bounds (d : Nat) (h : d ≠ 0) : 2 ^ (bitLen d - 1) ≤ d ∧ d < 2 ^ bitLen d := by
  simp only [bitLen, h, if_false, Nat.add_sub_cancel]
  exact ⟨Nat.log2_self_le h, Nat.lt_log2_self⟩

theorem posSlotOf_lt_64 (d : Nat) (hd : d < 2 ^ 32) : posSlotOf d < 64 := by
  by_cases h : d < 4
  · rw [posSlotOf_small d h]; omega
  · obtain ⟨m, bit, _, hb, hs, _, _, hm⟩ := posSlot_facts d (by omega)
    have := hm hd; omega

theorem posSlotOf_ge_4 (d : Nat) (h4 : 4 ≤ d) : 4 ≤ posSlotOf d := by
  obtain ⟨m, bit, hm1, _, hs, _, _, _⟩ := posSlot_facts d h4
  omega

/-- decoder-side quantities of a slot `≥ 4` -/
theorem slot_decomp (m bit : Nat) (hb : bit ≤ 1) :
    ((2 * (m + 1) + bit) >>> 1) - 1 = m ∧
    (2 ^^^ ((2 * (m + 1) + bit) &&& 1)) <<< m = (2 + bit) * 2 ^ m := by
  have h1 : (2 * (m + 1) + bit) >>> 1 = m + 1 := by
    rw [Nat.shiftRight_eq_div_pow]; omega
  have h2 : (2 * (m + 1) + bit) &&& 1 = bit := by
    rw [Nat.and_one_is_mod]; omega
  rw [h1, h2, Nat.shiftLeft_eq]
  obtain rfl | rfl : bit = 0 ∨ bit = 1 := by omega
  · exact ⟨by omega, rfl⟩
  · exact ⟨by omega, rfl⟩

/-- for slots 4..13 the offset `base - slot` never underflows -/
theorem slot_le_base (m bit : Nat) (hb : bit ≤ 1) :
    2 * (m + 1) + bit ≤ (2 + bit) * 2 ^ m := by
  have h : m + 1 ≤ 2 ^ m := Nat.succ_le_of_lt (Nat.lt_pow_self (by decide))
  obtain rfl | rfl : bit = 0 ∨ bit = 1 := by omega
  · omega
  · omega

/-! ## `decode_distance` -/

theorem distTree_roundtrip (l d : Nat) (hd : d < 2 ^ 32) (rest : List Ev) :
    runEv (distTree l) (distEv l d ++ rest) = some (d, rest) := by
  unfold distTree distEv
  dsimp only
  rw [List.append_assoc,
    runEv_bind_of_eq (bitTree_roundtrip _ 6 (posSlotOf d) (by simpa using posSlotOf_lt_64 d hd) _)]
  by_cases h4 : d < 4
  · rw [posSlotOf_small d h4]; simp [h4]
  · obtain ⟨m, bit, hm1, hb, hs, hlo, hhi, _⟩ := posSlot_facts d (by omega)
    obtain ⟨hnd, hbase⟩ := slot_decomp m bit hb
    have hnot : ¬ (2 * (m + 1) + bit < 4) := by omega
    rw [hs]
    simp only [hnot, if_false, hnd, hbase]
    generalize hB : (2 + bit) * 2 ^ m = base at *
    have hr : d - base < 2 ^ m := by omega
    by_cases h14 : 2 * (m + 1) + bit < 14
    · have hle : 2 * (m + 1) + bit ≤ base := hB ▸ slot_le_base m bit hb
      simp only [h14, if_true, subChk, hle]
      rw [runEv_map_of_eq (revBitTree_roundtrip _ _ m (d - base) hr rest)]
      congr 2; omega
    · have hm4 : 4 ≤ m := by omega
      obtain ⟨k, rfl⟩ : ∃ k, m = k + 4 := ⟨m - 4, by omega⟩
      simp only [h14, if_false, Nat.add_sub_cancel, List.append_assoc]
      have hr4 : (d - base) >>> 4 < 2 ^ k := by
        rw [Nat.shiftRight_eq_div_pow, Nat.div_lt_iff_lt_mul (by decide)]
        rw [Nat.pow_add] at hr; exact hr
      have h15 : (d - base) &&& 0xF = (d - base) % 2 ^ 4 := Nat.and_two_pow_sub_one_eq_mod _ 4
      rw [runEv_bind_of_eq (directBits_roundtrip k _ hr4 _), h15,
        runEv_map_of_eq (revBitTree_roundtrip _ 0 4 _ (Nat.mod_lt _ (by decide)) rest)]
      congr 2
      rw [Nat.shiftRight_eq_div_pow, Nat.shiftLeft_eq]
      have := Nat.div_add_mod (d - base) (2 ^ 4)
      omega

/-! ## one symbol -/

/-- well-formed raw symbols: what a conforming encoder may emit -/
def RawSym.WF : RawSym → Prop
  | .lit b => b < 256
  | .shortRep => True
  | .rep idx l => idx ≤ 3 ∧ l < 272
  | .mtch l d => l < 272 ∧ d < 2 ^ 32

instance : DecidablePred RawSym.WF := fun s => by
  cases s <;> simp only [RawSym.WF] <;> infer_instance

/-- decoder and encoder contexts agree (the match byte only matters for a
literal in a state `≥ 7`) -/
structure CtxMatch (c : Ctx) (e : ECtx) (s : RawSym) : Prop where
  state : c.state = e.state
  posState : c.posState = e.posState
  litRow : (∃ b, s = .lit b) → c.litRow = .ok e.litRow
  matchByte : (∃ b, s = .lit b) → e.state ≥ 7 → c.matchByte = .ok e.matchByte

theorem sym_roundtrip_lemma (c : Ctx) (e : ECtx) (s : RawSym) (hc : CtxMatch c e s) (hs : s.WF)
    (rest : List Ev) : runEv (symTree c) (rawSymEvents e s ++ rest) = some (s, rest) := by
  obtain ⟨hst, hps, hrow, hmb⟩ := hc
  unfold symTree
  rw [hst, hps]
  cases s with
  | lit b =>
    have hb : b < 256 := hs
    have hrow := hrow ⟨b, rfl⟩
    simp only [rawSymEvents, List.cons_append, runEv_bit_cons, Bool.not_false, if_true, hrow]
    by_cases h7 : e.state ≥ 7
    · have hmb := hmb ⟨b, rfl⟩ h7
      simp only [h7, if_true, hmb]
      rw [runEv_bind_of_eq (litMatched_roundtrip _ b _ hb rest)]
      simp [subChk, Nat.mod_eq_of_lt hb]
    · simp only [h7, if_false]
      rw [runEv_bind_of_eq (litPlain_roundtrip _ b hb rest)]
      simp [subChk, Nat.mod_eq_of_lt hb]
  | shortRep =>
    simp [rawSymEvents]
  | rep idx l =>
    obtain ⟨hidx, hl⟩ : idx ≤ 3 ∧ l < 272 := hs
    have : idx = 0 ∨ idx = 1 ∨ idx = 2 ∨ idx = 3 := by omega
    rcases this with h | h | h | h <;> subst h <;>
      simp [rawSymEvents, runEv_map_of_eq (lenTree_roundtrip true e.posState l hl rest)]
  | mtch l d =>
    obtain ⟨hl, hd⟩ : l < 272 ∧ d < 2 ^ 32 := hs
    simp only [rawSymEvents, List.cons_append, List.nil_append, runEv_bit_cons, Bool.not_true,
      Bool.false_eq_true, if_false, List.append_assoc]
    rw [runEv_bind_of_eq (lenTree_roundtrip false e.posState l hl _),
      runEv_map_of_eq (distTree_roundtrip l d hd rest)]

/-- the position slot of the end marker's distance field -/
theorem posSlotOf_marker : posSlotOf 0xFFFFFFFF = 63 := by decide +kernel

end Lzma
