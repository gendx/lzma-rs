/-
  C07: LZMA2.  Every chunk consumes its control byte, so the chunk loop's bound
  `rem.length + 1` is never hit; the decoder state and the accumulating window keep their
  invariants from chunk to chunk.
-/
import LzmaProofs.Lemmas.SafetyLzma
namespace Lzma
namespace Safety

def Lzma2DecoderInv (d : Lzma2Decoder) : Prop := DStateInv d.lzmaState

theorem zeroProps_ok : PropsOk Lzma2Decoder.zeroProps := by decide

theorem Lzma2Decoder_new_safe : ESafe Lzma2DecoderInv Lzma2Decoder.new := by
  unfold Lzma2Decoder.new
  refine (DState_new_safe zeroProps_ok none).bind ?_
  intro st ⟨hst, _⟩
  exact ESafe_pure.mpr hst

theorem Lzma2Decoder_reset_safe {d : Lzma2Decoder} (hd : Lzma2DecoderInv d) :
    ESafe Lzma2DecoderInv d.reset := by
  unfold Lzma2Decoder.reset
  refine (resetState_safe hd zeroProps_ok).bind ?_
  intro st ⟨hst, _⟩
  exact ESafe_pure.mpr hst

theorem parseUncompressed_safe (accum : Accum) (rd : Rd) (resetDict : Bool) (ha : AccumInv accum) :
    MSafe (fun x => AccumInv x.1 ∧ x.2.rem.length ≤ rd.rem.length)
      (Lzma2Decoder.parseUncompressed accum rd resetDict) := by
  unfold Lzma2Decoder.parseUncompressed
  refine MSafe.bind (MSafe.liftE (lzErr_safe (readU16BE_safe rd))) ?_
  rintro ⟨u, rd1⟩ ⟨h1, _⟩
  dsimp only
  have tail : ∀ accum1 : Accum, AccumInv accum1 →
      MSafe (fun x => AccumInv x.1 ∧ x.2.rem.length ≤ rd.rem.length) (do
      let x ← liftE (lzErr (rd1.readExact (u + 1)))
      pure (accum1.appendBytes x.1, x.2)) := by
    intro accum1 ha1
    refine MSafe.bind (MSafe.liftE (lzErr_safe (readExact_safe rd1 (u + 1)))) ?_
    rintro ⟨buf, rd2⟩ ⟨h2, _⟩
    refine MSafe_pure.mpr ⟨AccumInv_appendBytes ha1 _, ?_⟩
    dsimp only at h1 h2 ⊢; omega
  split
  · exact MSafe.bind (Accum.reset_safe _) (fun a ha1 => tail a ha1)
  · exact tail accum ha

theorem lzma2_props_of_byte {pb : Nat} (h : ¬ pb ≥ 225) :
    PropsOk { lc := pb % 9, lp := pb / 9 % 5, pb := pb / 9 / 5 } := props_of_byte h

theorem lzma2PropsStage_safe {d : Lzma2Decoder} (hd : Lzma2DecoderInv d) (rd : Rd) (cls : Nat) :
    ESafe (fun x => DStateInv x.1 ∧ x.2.rem.length ≤ rd.rem.length) (lzma2PropsStage d rd cls) := by
  unfold lzma2PropsStage
  split
  · refine ESafe.bind (P := fun x : Props × Rd => PropsOk x.1 ∧ x.2.rem.length ≤ rd.rem.length) ?_ ?_
    · split
      · refine (lzErr_safe (readU8_safe rd)).bind ?_
        rintro ⟨b, rd1⟩ h1
        dsimp only
        split
        · rfl
        · rename_i hpb
          split
          · rfl
          · exact ESafe_pure.mpr ⟨props_of_byte hpb, by dsimp only at h1 ⊢; omega⟩
      · exact ESafe_pure.mpr ⟨⟨hd.lc, hd.lp, hd.pb⟩, Nat.le_refl _⟩
    · rintro ⟨np, rd1⟩ ⟨hnp, h1⟩
      exact (resetState_safe hd hnp).bind fun st ⟨hst, _⟩ => ESafe_pure.mpr ⟨hst, h1⟩
  · exact ESafe_pure.mpr ⟨hd, Nat.le_refl _⟩

theorem lzma2EndStage_safe (rd : Rd) (rest : Bytes) {q : DState × Accum × RC × Rd}
    (hst : DStateInv q.1) (ha : AccumInv q.2.1) :
    ESafe (fun x => Lzma2DecoderInv x.1 ∧ AccumInv x.2.1 ∧
        x.2.2.rem.length = q.2.2.2.rem.length + rest.length) (lzma2EndStage rd rest q) := by
  unfold lzma2EndStage
  refine (isFinishedOk_safe _ _).bind fun fin _ => ?_
  split
  · rfl
  · exact ESafe_pure.mpr ⟨hst, ha, unsplit_length _ _ _⟩

theorem lzma2Payload_safe {st : DState} {a0 : Accum} (hst : DStateInv st) (ha : AccumInv a0)
    (rd : Rd) (packed : Nat) :
    MSafe (fun x => Lzma2DecoderInv x.1 ∧ AccumInv x.2.1 ∧ x.2.2.rem.length ≤ rd.rem.length)
      (lzma2Payload st a0 rd packed) := by
  unfold lzma2Payload
  have hlen := split_length rd packed
  refine MSafe.bind (MSafe.liftE (lzErr_safe (RC_new_safe (rd.split packed).1))) ?_
  rintro ⟨rc, t1⟩ ⟨hrc, h1⟩
  refine MSafe.bind (processMode_safe (ω := Accum) .finish t1 hst ha hrc) ?_
  rintro ⟨st2, a2, rc2, t2⟩ ⟨hst2, ha2, _, h2⟩
  refine MSafe.liftE ((lzma2EndStage_safe rd _ hst2 ha2).mono ?_)
  rintro x ⟨g1, g2, g3⟩
  exact ⟨g1, g2, by dsimp only at h1 h2 g3; omega⟩

theorem parseLzma_safe {d : Lzma2Decoder} (hd : Lzma2DecoderInv d) (accum : Accum) (rd : Rd)
    (status : Nat) (ha : AccumInv accum) :
    MSafe (fun x => Lzma2DecoderInv x.1 ∧ AccumInv x.2.1 ∧ x.2.2.rem.length ≤ rd.rem.length)
      (d.parseLzma accum rd status) := by
  rw [parseLzma_eq_M]
  unfold parseLzmaM
  split
  · exact MSafe_throwM.mpr rfl
  refine MSafe.bind (MSafe.liftE (lzErr_safe (readU16BE_safe rd))) ?_
  rintro ⟨u, rd1⟩ ⟨h1, _⟩
  refine MSafe.bind (MSafe.liftE (lzErr_safe (readU16BE_safe rd1))) ?_
  rintro ⟨p, rd2⟩ ⟨h2, _⟩
  refine MSafe.bind (P := AccumInv) ?_ ?_
  · split
    · exact Accum.reset_safe _
    · exact MSafe_pure.mpr ha
  intro a0 ha0
  refine MSafe.bind (MSafe.liftE (lzma2PropsStage_safe hd rd2 _)) ?_
  rintro ⟨st, rd3⟩ ⟨hst, h3⟩
  refine (lzma2Payload_safe (setUnpackedSize_inv hst _) ha0 rd3 _).mono ?_
  rintro x ⟨g1, g2, g3⟩
  exact ⟨g1, g2, by dsimp only at h1 h2 h3 g3; omega⟩

theorem chunkLoop_safe : ∀ (fuel : Nat) (d : Lzma2Decoder) (accum : Accum) (rd : Rd),
    Lzma2DecoderInv d → AccumInv accum → rd.rem.length < fuel →
    MSafe (fun x => Lzma2DecoderInv x.1 ∧ AccumInv x.2.1 ∧ x.2.2.rem.length ≤ rd.rem.length)
      (Lzma2Decoder.chunkLoop fuel d accum rd) := by
  intro fuel
  induction fuel with
  | zero => intro d accum rd _ _ hf; omega
  | succ fuel ih =>
    intro d accum rd hd ha hf
    unfold Lzma2Decoder.chunkLoop
    refine MSafe.bind (MSafe.liftE (lzErr_safe (readU8_safe rd))) ?_
    rintro ⟨status, rd1⟩ h1
    dsimp only at h1 ⊢
    have next : ∀ {d1 : Lzma2Decoder} {accum1 : Accum} {rd2 : Rd}, Lzma2DecoderInv d1 →
        AccumInv accum1 → rd2.rem.length ≤ rd1.rem.length →
        MSafe (fun x => Lzma2DecoderInv x.1 ∧ AccumInv x.2.1 ∧ x.2.2.rem.length ≤ rd.rem.length)
          (Lzma2Decoder.chunkLoop fuel d1 accum1 rd2) := fun hd1 ha1 h2 =>
      (ih _ _ _ hd1 ha1 (by omega)).mono fun _ ⟨h3, h3', h4⟩ => ⟨h3, h3', by omega⟩
    split
    · exact MSafe_pure.mpr ⟨hd, ha, by dsimp only; omega⟩
    · split
      · refine MSafe.bind (parseUncompressed_safe accum rd1 true ha) ?_
        rintro ⟨accum1, rd2⟩ ⟨ha1, h2⟩
        exact next hd ha1 h2
      · split
        · refine MSafe.bind (parseUncompressed_safe accum rd1 false ha) ?_
          rintro ⟨accum1, rd2⟩ ⟨ha1, h2⟩
          exact next hd ha1 h2
        · refine MSafe.bind (parseLzma_safe hd accum rd1 _ ha) ?_
          rintro ⟨d1, accum1, rd2⟩ ⟨hd1, ha1, h2⟩
          exact next hd1 ha1 h2

theorem Lzma2Decoder_decompress_safe {d : Lzma2Decoder} (hd : Lzma2DecoderInv d) (rd : Rd) :
    MSafe (fun x => Lzma2DecoderInv x.1 ∧ x.2.rem.length ≤ rd.rem.length) (d.decompress rd) := by
  unfold Lzma2Decoder.decompress
  dsimp only
  refine MSafe.bind (chunkLoop_safe _ d _ rd hd (AccumInv_fromStream _) (by omega)) ?_
  rintro ⟨d1, accum1, rd1⟩ ⟨hd1, _, h1⟩
  dsimp only
  refine MSafe.bind (Accum.finish_safe _) ?_
  intro _ _
  exact MSafe_pure.mpr ⟨hd1, h1⟩

theorem lzma2Decompress_safe (rd : Rd) :
    MSafe (fun rd' => rd'.rem.length ≤ rd.rem.length) (lzma2Decompress rd) := by
  unfold lzma2Decompress
  refine MSafe.bind (MSafe.liftE Lzma2Decoder_new_safe) ?_
  intro d hd
  refine MSafe.bind (Lzma2Decoder_decompress_safe hd rd) ?_
  rintro ⟨_, rd1⟩ ⟨_, h1⟩
  exact MSafe_pure.mpr h1

theorem lzma2Decompress_no_panic (rd : Rd) (snk : Sink) (w : String) :
    (lzma2Decompress rd snk).2 ≠ .error (.panic w) :=
  (lzma2Decompress_safe rd snk).ne_panic w

theorem lzma2Decompress_terminates (rd : Rd) (snk : Sink) :
    (lzma2Decompress rd snk).2 ≠ .error .fuel :=
  (lzma2Decompress_safe rd snk).ne_fuel

end Safety
end Lzma
