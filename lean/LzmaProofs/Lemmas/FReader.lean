/-
  The fragmented reader `FRd` against the flat reader `Rd` (C13).  Each primitive of `FRd` gets a
  closed form on a list of non-empty pieces; on related readers (`Sim fr rd`: no empty piece, same
  bytes, same end kind) it then gives related results (`RelE` on `Except`, with `RelV S` = equal
  value and `S`-related rest; nested `RelV` for tuples).  `FTake`/`view`: `io::Take` over `FRd` is
  `take`/`unsplit`.  The range decoder and `runDec`, written over an abstract byte source
  (`ByteSrc`), are the model's at `Rd` (`…G_Rd`) and map related sources (`ByteSrcRel`) to related
  results (`…G_rel`).
-/
import LzmaModel.FReader
namespace Lzma

def RelE (R : α → β → Prop) : Except Err α → Except Err β → Prop
  | .ok a, .ok b => R a b
  | .error e, .error e' => e = e'
  | _, _ => False

@[simp] theorem RelE_ok_ok {R : α → β → Prop} {a b} : RelE R (.ok a) (.ok b) ↔ R a b := Iff.rfl
@[simp] theorem RelE_err_err {R : α → β → Prop} {e e'} :
    RelE R (.error e) (.error e') ↔ e = e' := Iff.rfl
@[simp] theorem RelE_pure_pure {R : α → β → Prop} {a b} :
    RelE R (pure a : Except Err α) (pure b : Except Err β) ↔ R a b := Iff.rfl

/-- The case analysis of `RelE`: both fail with the same error, or both succeed with related
values.  `mono`, `bind`, `map` are instances; it is used directly where the code branches on a
result with `match` instead of `>>=`. -/
@[elab_as_elim]
theorem RelE.elim {R : α → β → Prop} {motive : Except Err α → Except Err β → Prop}
    {x : Except Err α} {y : Except Err β} (h : RelE R x y)
    (error : ∀ e, motive (.error e) (.error e)) (ok : ∀ a b, R a b → motive (.ok a) (.ok b)) :
    motive x y :=
  match x, y, h with
  | .error e, .error _, h => h ▸ error e
  | .ok a, .ok b, h => ok a b h

theorem RelE.mono {R S : α → β → Prop} {x : Except Err α} {y : Except Err β}
    (h : RelE R x y) (hRS : ∀ a b, R a b → S a b) : RelE S x y :=
  h.elim (fun _ => rfl) hRS

theorem RelE.bind {R : α → β → Prop} {S : γ → δ → Prop}
    {x : Except Err α} {y : Except Err β} {f : α → Except Err γ} {g : β → Except Err δ}
    (hxy : RelE R x y) (hfg : ∀ a b, R a b → RelE S (f a) (g b)) :
    RelE S (x >>= f) (y >>= g) :=
  hxy.elim (fun _ => rfl) hfg

theorem RelE.map {R : α → β → Prop} {S : γ → δ → Prop}
    {x : Except Err α} {y : Except Err β} {f : α → γ} {g : β → δ}
    (hxy : RelE R x y) (hfg : ∀ a b, R a b → S (f a) (g b)) :
    RelE S (f <$> x) (g <$> y) :=
  hxy.elim (fun _ => rfl) hfg

theorem RelE.join {R : α → γ → Prop} {R' : β → γ → Prop} {T : α → β → Prop}
    {x : Except Err α} {y : Except Err β} {z : Except Err γ}
    (h1 : RelE R x z) (h2 : RelE R' y z) (hT : ∀ a b c, R a c → R' b c → T a b) :
    RelE T x y :=
  match x, z, h1 with
  | .error _, .error _, h1 => match y, h2 with
    | .error _, h2 => h1.trans h2.symm
  | .ok a, .ok c, h1 => match y, h2 with
    | .ok b, h2 => hT a b c h1 h2

/-- a reader-independent computation is related to itself, with what is known about its result -/
theorem RelE.refl_of {P : α → Prop} (x : Except Err α) (h : ∀ a, x = .ok a → P a) :
    RelE (fun a b => a = b ∧ P a) x x :=
  match x, h with
  | .error _, _ => rfl
  | .ok a, h => ⟨rfl, h a rfl⟩

theorem RelE.refl_eq (x : Except Err α) : RelE (· = ·) x x :=
  (RelE.refl_of (P := fun _ => True) x fun _ _ => trivial).mono fun _ _ h => h.1

theorem RelE.eq {x y : Except Err α} (h : RelE (· = ·) x y) : x = y :=
  h.elim (fun _ => rfl) fun _ _ h => congrArg _ h

def RelV {ρ₁ ρ₂ : Type} (S : ρ₁ → ρ₂ → Prop) (x : α × ρ₁) (y : α × ρ₂) : Prop :=
  x.1 = y.1 ∧ S x.2 y.2

theorem RelE.bindV {ρ₁ ρ₂ : Type} {S : ρ₁ → ρ₂ → Prop} {T : γ → δ → Prop}
    {x : Except Err (α × ρ₁)} {y : Except Err (α × ρ₂)}
    {f : α × ρ₁ → Except Err γ} {g : α × ρ₂ → Except Err δ} (hxy : RelE (RelV S) x y)
    (hfg : ∀ v a b, S a b → RelE T (f (v, a)) (g (v, b))) : RelE T (x >>= f) (y >>= g) :=
  hxy.bind fun (v, a) (_, b) ⟨hv, hs⟩ => by cases hv; exact hfg v a b hs

theorem RelE.bindEq {T : γ → δ → Prop} {x y : Except Err α} {f : α → Except Err γ}
    {g : α → Except Err δ} (hxy : RelE (· = ·) x y) (hfg : ∀ a, RelE T (f a) (g a)) :
    RelE T (x >>= f) (y >>= g) :=
  hxy.bind fun a _ e => e ▸ hfg a

theorem RelE.ite {R : α → β → Prop} {c : Prop} [Decidable c] {x x' : Except Err α}
    {y y' : Except Err β} (ht : RelE R x y) (he : RelE R x' y') :
    RelE R (if c then x else x') (if c then y else y') := by
  split <;> assumption

theorem RelE.throw_bind {S : γ → δ → Prop} (e : Err) {f : α → Except Err γ} {g : β → Except Err δ} :
    RelE S ((throw e : Except Err α) >>= f) ((throw e : Except Err β) >>= g) := rfl

namespace FRd

def Sim (fr : FRd) (rd : Rd) : Prop := fr.WF ∧ fr.toRd = rd
abbrev SimV (x : α × FRd) (y : α × Rd) : Prop := RelV Sim x y

theorem Sim.self {fr : FRd} (h : fr.WF) : Sim fr fr.toRd := ⟨h, rfl⟩

theorem Sim.rem {fr : FRd} {rd : Rd} (h : Sim fr rd) : rd.rem = fr.join := by
  rw [← h.2]; rfl
theorem Sim.bad {fr : FRd} {rd : Rd} (h : Sim fr rd) : rd.bad = fr.bad := by
  rw [← h.2]; rfl

theorem Sim.length {fr : FRd} {rd : Rd} (h : Sim fr rd) : fr.join.length = rd.rem.length := by
  rw [h.rem]

@[simp] theorem join_mk (fs : List Bytes) (b : Bool) : (FRd.mk fs b).join = fs.flatten := rfl
@[simp] theorem toRd_mk (fs : List Bytes) (b : Bool) :
    (FRd.mk fs b).toRd = { rem := fs.flatten, bad := b } := rfl
@[simp] theorem toRd_rem (r : FRd) : r.toRd.rem = r.join := rfl
@[simp] theorem toRd_bad (r : FRd) : r.toRd.bad = r.bad := rfl
@[simp] theorem WF_mk (fs : List Bytes) (b : Bool) : (FRd.mk fs b).WF ↔ ∀ f ∈ fs, f ≠ [] := Iff.rfl
@[simp] theorem endErr_mk (fs : List Bytes) (b : Bool) :
    (FRd.mk fs b).endErr = if b then .io else .eof := rfl
theorem WF_ofFrags (fs : List Bytes) (b : Bool) : (ofFrags fs b).WF := by
  intro f hf
  simp [ofFrags] at hf
  exact hf.2

theorem join_ofFrags (fs : List Bytes) (b : Bool) : (ofFrags fs b).join = fs.flatten := by
  simp only [ofFrags, join]
  induction fs with
  | nil => rfl
  | cons f rest ih =>
    cases f with
    | nil => simpa [List.filter] using ih
    | cons x t => simp [List.filter, ih]

theorem join_eq_nil_iff {r : FRd} (h : r.WF) : r.join = [] ↔ r.frags = [] := by
  cases r with
  | mk fs b =>
    cases fs with
    | nil => simp
    | cons f rest =>
      have := h f (by simp)
      simp [this]

@[simp] theorem fillBuf_nil (b : Bool) :
    (FRd.mk [] b).fillBuf = if b then .error .io else .ok [] := rfl
@[simp] theorem fillBuf_cons (f : Bytes) (rest : List Bytes) (b : Bool) :
    (FRd.mk (f :: rest) b).fillBuf = .ok f := rfl
@[simp] theorem consume_nil (b : Bool) (n : Nat) : (FRd.mk [] b).consume n = FRd.mk [] b := rfl
theorem consume_cons (f : Bytes) (rest : List Bytes) (b : Bool) (n : Nat) :
    (FRd.mk (f :: rest) b).consume n =
      if n < f.length then FRd.mk (f.drop n :: rest) b else FRd.mk rest b := rfl

theorem splitFrags_zero (fs : List Bytes) : splitFrags fs 0 = ([], fs) := by
  cases fs <;> simp [splitFrags]

theorem splitFrags_cons {f : Bytes} {rest : List Bytes} {n : Nat} (hn : n ≠ 0) :
    splitFrags (f :: rest) n =
      if f.length ≤ n then
        (f :: (splitFrags rest (n - f.length)).1, (splitFrags rest (n - f.length)).2)
      else ([f.take n], f.drop n :: rest) := by
  simp [splitFrags, hn]

theorem splitFrags_cons_fst {f : Bytes} {rest : List Bytes} {n : Nat} (hn : n ≠ 0) :
    (splitFrags (f :: rest) n).1 = f.take n :: (splitFrags rest (n - f.length)).1 := by
  rw [splitFrags_cons hn]
  split
  · rw [List.take_of_length_le ‹_›]
  · rw [show n - f.length = 0 by omega, splitFrags_zero]

theorem splitFrags_spec (fs : List Bytes) (hwf : ∀ f ∈ fs, f ≠ []) (n : Nat) :
    (splitFrags fs n).1.flatten = fs.flatten.take n ∧
    (splitFrags fs n).2.flatten = fs.flatten.drop n ∧
    (∀ f ∈ (splitFrags fs n).1, f ≠ []) ∧ (∀ f ∈ (splitFrags fs n).2, f ≠ []) := by
  induction fs generalizing n with
  | nil => simp [splitFrags]
  | cons f rest ih =>
    obtain ⟨hf, hrest⟩ := List.forall_mem_cons.1 hwf
    by_cases hn : n = 0
    · simpa [hn, splitFrags_zero, hf] using hrest
    · obtain ⟨i1, i2, i3, i4⟩ := ih hrest (n - f.length)
      rw [splitFrags_cons hn]
      split
      · rename_i hle
        simpa [i1, i2, hf, List.take_append, List.drop_append, List.take_of_length_le hle,
          List.drop_of_length_le hle] using ⟨i3, i4⟩
      · have hlt : n < f.length := by omega
        have : ¬ f.length ≤ n := by omega
        simpa [List.take_append_of_le_length (Nat.le_of_lt hlt),
          List.drop_append_of_le_length (Nat.le_of_lt hlt), hn, hf, this] using hrest

theorem fillBuf_sim {fr : FRd} {rd : Rd} (h : Sim fr rd) :
    RelE (fun piece (_ : Unit) => (∃ t, rd.rem = piece ++ t) ∧ (piece = [] ↔ rd.rem = []))
      fr.fillBuf rd.fillBuf := by
  obtain ⟨hwf, rfl⟩ := h
  obtain ⟨_ | ⟨f, rest⟩, b⟩ := fr
  · cases b <;> simp [Rd.fillBuf]
  · simp [Rd.fillBuf, (List.forall_mem_cons.1 hwf).1]

theorem consume_spec {r : FRd} (h : r.WF) {piece : Bytes} (hp : r.fillBuf = .ok piece)
    {n : Nat} (hn : n ≤ piece.length) :
    (r.consume n).WF ∧ (r.consume n).bad = r.bad ∧ (r.consume n).join = r.join.drop n := by
  obtain ⟨_ | ⟨f, rest⟩, b⟩ := r
  · cases b <;> simp_all
  · obtain ⟨hf, hrest⟩ := List.forall_mem_cons.1 h
    obtain rfl := Except.ok.inj hp
    rw [consume_cons]
    split
    · rename_i hlt
      refine ⟨List.forall_mem_cons.2 ⟨fun h0 => ?_, hrest⟩, rfl, ?_⟩
      · simp at h0; omega
      · simp [List.drop_append_of_le_length (Nat.le_of_lt hlt)]
    · obtain rfl : n = f.length := by omega
      exact ⟨hrest, rfl, by simp⟩

theorem consume_sim {fr : FRd} {rd : Rd} (h : Sim fr rd) {piece : Bytes}
    (hp : fr.fillBuf = .ok piece) {n : Nat} (hn : n ≤ piece.length) :
    Sim (fr.consume n) { rd with rem := rd.rem.drop n } := by
  obtain ⟨hwf, rfl⟩ := h
  obtain ⟨h1, h2, h3⟩ := consume_spec hwf hp hn
  exact ⟨h1, by simp [toRd, h2, h3]⟩

@[simp] theorem read_nil (b : Bool) (cap : Nat) :
    (FRd.mk [] b).read cap = if b then .error .io else .ok ([], FRd.mk [] b) := by
  cases b <;> simp [read]

theorem read_cons (f : Bytes) (rest : List Bytes) (b : Bool) (cap : Nat) :
    (FRd.mk (f :: rest) b).read cap =
      .ok (f.take cap, (FRd.mk (f :: rest) b).consume (min cap f.length)) := by
  simp [read]

theorem read_ok {r : FRd} (h : r.WF) {cap : Nat} {bs : Bytes} {r' : FRd}
    (hr : r.read cap = .ok (bs, r')) :
    r'.WF ∧ r'.bad = r.bad ∧ r.join = bs ++ r'.join ∧ bs.length ≤ cap ∧
    (bs = [] ↔ cap = 0 ∨ r.join = []) := by
  obtain ⟨_ | ⟨f, rest⟩, b⟩ := r
  · cases b <;> simp at hr
    obtain ⟨rfl, rfl⟩ := hr
    simp
  · have hf := (List.forall_mem_cons.1 h).1
    rw [read_cons] at hr
    cases hr
    obtain ⟨c1, c2, c3⟩ := consume_spec h (piece := f) rfl (Nat.min_le_right cap f.length)
    refine ⟨c1, c2, ?_, by simp; omega, by simp [hf]⟩
    rw [c3, join_mk, List.flatten_cons, List.drop_append_of_le_length (Nat.min_le_right ..),
      ← List.append_assoc, List.take_eq_take_min, List.take_append_drop]

theorem read_error {r : FRd} (h : r.WF) {cap : Nat} {e : Err} :
    r.read cap = .error e ↔ (r.join = [] ∧ r.bad = true ∧ e = .io) := by
  obtain ⟨_ | ⟨f, rest⟩, b⟩ := r
  · cases b <;> simp [eq_comm]
  · simp [read_cons, (List.forall_mem_cons.1 h).1]

theorem readExact_zero (r : FRd) : r.readExact 0 = .ok ([], r) := by
  unfold readExact; simp

theorem readExact_cons {f : Bytes} (hf : f ≠ []) (rest : List Bytes) (b : Bool) {n : Nat}
    (hn : n ≠ 0) :
    (FRd.mk (f :: rest) b).readExact n =
      if n < f.length then .ok (f.take n, FRd.mk (f.drop n :: rest) b)
      else (fun x => (f ++ x.1, x.2)) <$> (FRd.mk rest b).readExact (n - f.length) := by
  have hne : (f.take n).isEmpty = false := by
    cases f <;> cases n <;> simp_all
  rw [readExact, if_neg hn, read_cons]
  simp only [hne, Bool.false_eq_true, dite_false, consume_cons, List.length_take]
  by_cases hlt : n < f.length
  · simp [hlt, Nat.min_eq_left (Nat.le_of_lt hlt), readExact_zero]
  · have hle : f.length ≤ n := by omega
    simp only [hlt, if_false, Nat.min_eq_right hle, Nat.lt_irrefl, List.take_of_length_le hle]
    cases (FRd.mk rest b).readExact (n - f.length) <;> rfl

theorem readU8_cons (x : UInt8) (t : Bytes) (rest : List Bytes) (b : Bool) :
    (FRd.mk ((x :: t) :: rest) b).readU8 = .ok (x, (FRd.mk ((x :: t) :: rest) b).consume 1) := by
  rw [readU8, readExact_cons (by simp) rest b (by simp), consume_cons]
  cases t <;> simp [readExact_zero, bind, Except.bind, pure, Except.pure, Functor.map, Except.map]

/-- `read_exact n` takes the first `n` bytes and leaves the pieces `take n` leaves behind;
it fails exactly when fewer than `n` bytes remain -/
theorem readExact_mk (fs : List Bytes) (hwf : ∀ f ∈ fs, f ≠ []) (b : Bool) (n : Nat) :
    (FRd.mk fs b).readExact n =
      if n ≤ fs.flatten.length then .ok (fs.flatten.take n, FRd.mk (splitFrags fs n).2 b)
      else .error (if b then .io else .eof) := by
  by_cases hn : n = 0
  · simp [hn, readExact_zero, splitFrags_zero]
  induction fs generalizing n with
  | nil =>
    have : ¬ n ≤ 0 := by omega
    rw [readExact]; cases b <;> simp [hn, this]
  | cons f rest ih =>
    obtain ⟨hf, hrest⟩ := List.forall_mem_cons.1 hwf
    rw [readExact_cons hf rest b hn, splitFrags_cons hn]
    by_cases hlt : n < f.length
    · have : ¬ f.length ≤ n := by omega
      simp [hlt, this, List.take_append_of_le_length (Nat.le_of_lt hlt)]; omega
    · have hle : f.length ≤ n := by omega
      by_cases hn' : n - f.length = 0
      · obtain rfl : n = f.length := by omega
        simp [readExact_zero, splitFrags_zero, Functor.map, Except.map]
      · have hc : n ≤ (f ++ rest.flatten).length ↔ n - f.length ≤ rest.flatten.length := by
          rw [List.length_append]; omega
        rw [ih hrest _ hn', if_neg hlt, if_pos hle, List.flatten_cons]
        simp only [hc, List.take_append, List.take_of_length_le hle]
        split <;> rfl

theorem readExact_sim {fr : FRd} {rd : Rd} (h : Sim fr rd) (n : Nat) :
    RelE SimV (fr.readExact n) (rd.readExact n) := by
  obtain ⟨hwf, rfl⟩ := h
  obtain ⟨fs, b⟩ := fr
  obtain ⟨-, s2, -, s4⟩ := splitFrags_spec fs hwf n
  rw [readExact_mk fs hwf, Rd.readExact, toRd_mk]
  split
  · exact ⟨rfl, s4, by simp [s2]⟩
  · rfl

theorem _root_.Lzma.Rd.readU8_eq_readExact (rd : Rd) :
    rd.readU8 = (do let (bs, r) ← rd.readExact 1; pure (bs.headD 0, r)) := by
  obtain ⟨_ | ⟨x, t⟩, bad⟩ := rd <;> simp [Rd.readU8, Rd.readExact, bind, Except.bind, pure, Except.pure]

/-- the byteorder reads and `read_tag` (`decode/util.rs`) are a `read_exact` followed by a pure
function of the bytes, the same on both sides -/
theorem readExact_map_sim {fr : FRd} {rd : Rd} (h : Sim fr rd) (n : Nat) (g : Bytes → β) :
    RelE SimV (do let (bs, r) ← fr.readExact n; pure (g bs, r))
              (do let (bs, r) ← rd.readExact n; pure (g bs, r)) :=
  (readExact_sim h n).bind fun _ _ ⟨hv, hs⟩ => ⟨congrArg g hv, hs⟩

theorem readU8_sim {fr : FRd} {rd : Rd} (h : Sim fr rd) :
    RelE SimV fr.readU8 rd.readU8 := by
  rw [Rd.readU8_eq_readExact]; exact readExact_map_sim h 1 (·.headD 0)

theorem isEof_sim {fr : FRd} {rd : Rd} (h : Sim fr rd) :
    RelE (· = ·) fr.isEof rd.isEof := by
  obtain ⟨hwf, rfl⟩ := h
  obtain ⟨_ | ⟨f, rest⟩, b⟩ := fr
  · cases b <;> rfl
  · simp [isEof, Rd.isEof, bind, Except.bind, pure, Except.pure, (List.forall_mem_cons.1 hwf).1]

theorem flushZeroPadding_nil (b : Bool) :
    (FRd.mk [] b).flushZeroPadding = if b then .error .io else .ok (true, FRd.mk [] b) := by
  rw [flushZeroPadding]
  cases b <;> simp

theorem flushZeroPadding_cons (f : Bytes) (rest : List Bytes) (b : Bool) (hf : f ≠ []) :
    (FRd.mk (f :: rest) b).flushZeroPadding =
      if f.all (· == 0) then (FRd.mk rest b).flushZeroPadding
      else .ok (false, FRd.mk (f :: rest) b) := by
  rw [flushZeroPadding]
  split
  · rename_i e he; simp at he
  · rename_i piece he
    obtain rfl := Except.ok.inj he
    simp [hf, consume_cons]

/-- the flat reader sees all remaining bytes at once -/
theorem _root_.Lzma.Rd.flushZeroPadding_eq (rem : Bytes) (b : Bool) :
    Rd.flushZeroPadding ⟨rem, b⟩ =
      if rem.all (· == 0) then (if b then .error .io else .ok (true, ⟨[], b⟩))
      else .ok (false, ⟨rem, b⟩) := by
  cases rem <;> simp [Rd.flushZeroPadding]

/-- result relation for `flush_zero_padding`: the verdicts agree; on `true` the
readers agree; on `false` the fragmented reader may additionally have consumed
leading all-zero pieces, so its remainder is a suffix of the flat one (cut after
zero bytes only). -/
def FlushRel (x : Bool × FRd) (y : Bool × Rd) : Prop :=
  x.1 = y.1 ∧ x.2.WF ∧ x.2.bad = y.2.bad ∧
  (x.1 = true → x.2.toRd = y.2) ∧
  (x.1 = false → ∃ zs : Bytes, zs.all (· == 0) = true ∧ y.2.rem = zs ++ x.2.join)

theorem flushZeroPadding_sim {fr : FRd} {rd : Rd} (h : Sim fr rd) :
    RelE FlushRel fr.flushZeroPadding rd.flushZeroPadding := by
  obtain ⟨hwf, rfl⟩ := h
  obtain ⟨fs, b⟩ := fr
  rw [toRd_mk, Rd.flushZeroPadding_eq]
  -- the loop has dropped the leading all-zero pieces `zs`
  suffices ∀ zs : Bytes, zs.all (· == 0) = true →
      RelE FlushRel (FRd.mk fs b).flushZeroPadding
        (if (zs ++ fs.flatten).all (· == 0) then (if b then .error .io else .ok (true, ⟨[], b⟩))
         else .ok (false, ⟨zs ++ fs.flatten, b⟩)) from this [] rfl
  induction fs with
  | nil =>
    intro zs hzs
    rw [flushZeroPadding_nil]
    cases b <;> simp [hzs, FlushRel]
  | cons f rest ih =>
    obtain ⟨hf, hrest⟩ := List.forall_mem_cons.1 hwf
    intro zs hzs
    rw [flushZeroPadding_cons f rest b hf]
    by_cases hz : f.all (· == 0) = true
    · simpa [hz] using ih hrest (zs ++ f) (by simp [hzs, hz])
    · simp only [hz, hzs, List.flatten_cons, List.all_append, Bool.false_and, Bool.and_false,
        Bool.false_eq_true, if_false]
      exact ⟨rfl, hwf, rfl, nofun, fun _ => ⟨zs, hzs, rfl⟩⟩

theorem take_sim {fr : FRd} {rd : Rd} (h : Sim fr rd) (n : Nat) :
    Sim (fr.take n).1 (rd.split n).1 ∧
    (∀ f ∈ (fr.take n).2, f ≠ []) ∧ (fr.take n).2.flatten = (rd.split n).2 := by
  obtain ⟨hwf, rfl⟩ := h
  obtain ⟨s1, s2, s3, s4⟩ := splitFrags_spec fr.frags hwf n
  exact ⟨⟨s3, by simp [take, Rd.split, toRd, join, s1]⟩, s4, s2⟩

theorem unsplit_sim {fr inner : FRd} {rd innerRd : Rd} (h : Sim fr rd) (hi : Sim inner innerRd)
    {rest : List Bytes} {rb : Bytes} (hr : (∀ f ∈ rest, f ≠ []) ∧ rest.flatten = rb) :
    Sim (fr.unsplit inner rest) (rd.unsplit innerRd rb) := by
  obtain ⟨hwf, rfl⟩ := h
  obtain ⟨hiwf, rfl⟩ := hi
  obtain ⟨hrest, rfl⟩ := hr
  refine ⟨fun g hg => ?_, by simp [unsplit, Rd.unsplit, toRd, join]⟩
  exact (List.mem_append.1 hg).elim (hiwf g) (hrest g)

/-! ## `io::Take` as std implements it is the sub-reader of `take` -/

namespace FTake

theorem view_fillBuf (t : FTake) : t.fillBuf = t.view.fillBuf := by
  obtain ⟨⟨fs, bad⟩, limit⟩ := t
  by_cases h0 : limit = 0
  · simp [FTake.fillBuf, view, take, h0, splitFrags_zero]
  · cases fs with
    | nil => cases bad <;> simp [FTake.fillBuf, view, take, splitFrags, h0, Nat.pos_of_ne_zero h0]
    | cons f rest => simp [FTake.fillBuf, view, take, splitFrags_cons_fst h0, h0]

/-- `Take::consume` acts on the view as `consume`; the bytes beyond the limit are untouched -/
theorem view_consume (t : FTake) (h : t.inner.WF) {piece : Bytes} (hp : t.fillBuf = .ok piece)
    {n : Nat} (hn : n ≤ piece.length) :
    (t.consume n).view = t.view.consume n ∧ (t.consume n).inner.WF ∧
    (t.consume n).inner.join.drop (t.consume n).limit = t.inner.join.drop t.limit := by
  obtain ⟨⟨fs, bad⟩, limit⟩ := t
  cases fs with
  | nil =>
    -- nothing is exposed at the end, so `n = 0`
    obtain rfl : n = 0 := by
      by_cases h0 : limit = 0 <;> cases bad <;> simp [FTake.fillBuf, h0] at hp <;> subst hp <;>
        exact Nat.le_zero.1 hn
    exact ⟨rfl, h, rfl⟩
  | cons f rest =>
    have hf := (List.forall_mem_cons.1 h).1
    have hfl : 0 < f.length := List.length_pos_iff.2 hf
    -- the request stays within the exposed piece, which stays within the limit
    have hnl : n ≤ limit ∧ n ≤ f.length := by
      by_cases h0 : limit = 0 <;> simp [FTake.fillBuf, h0] at hp <;> subst hp <;> simp at hn <;> omega
    have hmin : min n limit = n := by omega
    obtain ⟨c1, c2, c3⟩ := consume_spec h (piece := f) rfl hnl.2
    refine ⟨?_, by simpa [FTake.consume, hmin] using c1, ?_⟩
    · have hbad : (((FRd.mk (f :: rest) bad).consume n).bad &&
            decide (((FRd.mk (f :: rest) bad).consume n).join.length < limit - n)) =
          (bad && decide ((f :: rest).flatten.length < limit)) := by
        have : (f :: rest).flatten.length - n < limit - n ↔ (f :: rest).flatten.length < limit := by
          simp only [List.flatten_cons, List.length_append]; omega
        rw [c2, c3, join_mk, List.length_drop]
        simp only [this]
      simp only [FTake.consume, hmin, view, take, hbad, join_mk]
      by_cases h0 : limit = 0
      · obtain rfl : n = 0 := by omega
        simp [h0, splitFrags_zero, consume_cons, hfl]
      · rw [splitFrags_cons_fst h0, consume_cons, consume_cons, List.length_take]
        by_cases hlt : n < f.length
        · by_cases hlt' : n < limit
          · have : n < min limit f.length := by omega
            simp [hlt, this, splitFrags_cons_fst (show limit - n ≠ 0 by omega), List.drop_take,
              show limit - n - (f.length - n) = limit - f.length by omega]
          · have : ¬ n < min limit f.length := by omega
            simp [hlt, this, show limit - n = 0 by omega, show limit - f.length = 0 by omega,
              splitFrags_zero]
        · obtain rfl : n = f.length := by omega
          simp [Nat.min_eq_right hnl.1]
    · simp only [FTake.consume, hmin, c3, List.drop_drop]
      congr 1; omega

theorem view_read (t : FTake) (h : t.inner.WF) (cap : Nat) :
    RelE (fun x y => x.1 = y.1 ∧ x.2.view = y.2 ∧ x.2.inner.WF ∧
        x.2.inner.join.drop x.2.limit = t.inner.join.drop t.limit)
      (t.read cap) (t.view.read cap) := by
  unfold FTake.read FRd.read
  rw [← view_fillBuf]
  by_cases h0 : t.limit = 0
  · have hv : t.view.consume 0 = t.view := by
      obtain ⟨⟨fs, bad⟩, limit⟩ := t
      simp only at h0; subst h0
      simp [view, take, splitFrags_zero]
    simp only [h0, if_true, FTake.fillBuf, List.take_nil, List.length_nil, hv, RelE_ok_ok]
    exact ⟨trivial, trivial, h, trivial⟩
  · cases hfb : t.inner.fillBuf with
    | error e => simp [h0, FTake.fillBuf, hfb]
    | ok buf =>
      have hfb' : t.fillBuf = .ok (buf.take t.limit) := by simp [FTake.fillBuf, h0, hfb]
      have hlen : (buf.take (min cap t.limit)).length ≤ (buf.take t.limit).length := by
        simp only [List.length_take]; omega
      have hk : (buf.take (min cap t.limit)).length ≤ t.limit := by
        simp only [List.length_take]; omega
      obtain ⟨c1, c2, c3⟩ := view_consume t h hfb' hlen
      have hrec : ({ inner := t.inner.consume (buf.take (min cap t.limit)).length,
                     limit := t.limit - (buf.take (min cap t.limit)).length } : FTake) =
          t.consume (buf.take (min cap t.limit)).length := by
        simp only [FTake.consume, Nat.min_eq_left hk]
      simp only [h0, if_false, hfb', hrec, RelE_ok_ok, List.take_take]
      exact ⟨trivial, c1, c2, c3⟩

end FTake

/-- one round of `get_multibyte` on a reader whose first piece starts with `x`.  (Unfolding
`getMultibyteAux` on a numeral runs through all its rounds at once; this rule stops where the
data does.) -/
theorem getMultibyteAux_cons (fuel i result : Nat) (acc : Bytes) (x : UInt8) (t : Bytes)
    (rest : List Bytes) (b : Bool) :
    FRd.getMultibyteAux (fuel + 1) i result acc (FRd.mk ((x :: t) :: rest) b) =
      if x.toNat &&& 0x80 = 0 then
        .ok (result ^^^ ((x.toNat &&& 0x7F) <<< (i * 7)), acc ++ [x],
          (FRd.mk ((x :: t) :: rest) b).consume 1)
      else FRd.getMultibyteAux fuel (i + 1) (result ^^^ ((x.toNat &&& 0x7F) <<< (i * 7)))
        (acc ++ [x]) ((FRd.mk ((x :: t) :: rest) b).consume 1) := by
  rw [FRd.getMultibyteAux, readU8_cons]; rfl

end FRd

structure ByteSrcRel {ρ₁ ρ₂ : Type} [ByteSrc ρ₁] [ByteSrc ρ₂] (S : ρ₁ → ρ₂ → Prop) : Prop where
  readU8 : ∀ a b, S a b → RelE (RelV S) (ByteSrc.readU8 a) (ByteSrc.readU8 b)
  readU32BE : ∀ a b, S a b → RelE (RelV S) (ByteSrc.readU32BE a) (ByteSrc.readU32BE b)
  isEof : ∀ a b, S a b → RelE (· = ·) (ByteSrc.isEof a) (ByteSrc.isEof b)

theorem FRd.byteSrcRel : ByteSrcRel FRd.Sim :=
  ⟨fun _ _ h => FRd.readU8_sim h, fun _ _ h => FRd.readExact_map_sim h 4 beVal, fun _ _ h => FRd.isEof_sim h⟩

/-! the generic functions at `Rd` are the model's functions -/
theorem RC.newG_Rd : RC.newG (ρ := Rd) = RC.new := rfl
theorem RC.normalizeG_Rd : RC.normalizeG (ρ := Rd) = RC.normalize := rfl
theorem RC.getBitG_Rd : RC.getBitG (ρ := Rd) = RC.getBit := rfl
theorem RC.decodeBitG_Rd : RC.decodeBitG (ρ := Rd) = RC.decodeBit := rfl
theorem RC.isFinishedOkG_Rd : RC.isFinishedOkG (ρ := Rd) = RC.isFinishedOk := rfl

theorem runDecG_Rd [ProbStore σ ι] (update : Bool) (c : Coder ι α) (s : σ) (rc : RC) (rd : Rd) :
    runDecG update c s rc rd = runDec update c s rc rd := by
  induction c generalizing s rc rd with
  | ret a => rfl
  | fail e => rfl
  | bit i k ih =>
    simp only [runDecG, runDec, RC.decodeBitG_Rd]
    cases ProbStore.get s i with
    | error e => rfl
    | ok p =>
      simp only []
      cases RC.decodeBit update p rc rd with
      | error e => rfl
      | ok x => exact ih _ _ _ _
  | direct k ih =>
    simp only [runDecG, runDec, RC.getBitG_Rd]
    cases RC.getBit rc rd with
    | error e => rfl
    | ok x => exact ih _ _ _ _

section generic
variable {ρ₁ ρ₂ : Type} [ByteSrc ρ₁] [ByteSrc ρ₂] {S : ρ₁ → ρ₂ → Prop}

theorem RC.newG_rel (hS : ByteSrcRel S) {a : ρ₁} {b : ρ₂} (h : S a b) :
    RelE (RelV S) (RC.newG a) (RC.newG b) :=
  (hS.readU8 a b h).bindV fun _ a1 b1 h1 =>
    (hS.readU32BE a1 b1 h1).bindV fun _ _ _ h2 => ⟨rfl, h2⟩

theorem RC.normalizeG_rel (hS : ByteSrcRel S) (rc : RC) {a : ρ₁} {b : ρ₂} (h : S a b) :
    RelE (RelV S) (RC.normalizeG rc a) (RC.normalizeG rc b) :=
  RelE.ite ((hS.readU8 a b h).bindV fun _ _ _ h1 => ⟨rfl, h1⟩) ⟨rfl, h⟩

theorem RC.getBitG_rel (hS : ByteSrcRel S) (rc : RC) {a : ρ₁} {b : ρ₂} (h : S a b) :
    RelE (RelV (RelV S)) (RC.getBitG rc a) (RC.getBitG rc b) :=
  (RC.normalizeG_rel hS _ h).bindV fun _ _ _ h1 => ⟨rfl, rfl, h1⟩

theorem RC.decodeBitG_rel (hS : ByteSrcRel S) (update : Bool) (p : Nat) (rc : RC)
    {a : ρ₁} {b : ρ₂} (h : S a b) :
    RelE (RelV (RelV (RelV S))) (RC.decodeBitG update p rc a) (RC.decodeBitG update p rc b) := by
  -- every branch ends in `normalize` followed by `pure (bit, p', rc, rd)`
  have hn : ∀ rc' (bit : Bool) (p' : Nat),
      RelE (RelV (RelV (RelV S)))
        (do let (rc, rd) ← RC.normalizeG rc' a; pure (bit, p', rc, rd))
        (do let (rc, rd) ← RC.normalizeG rc' b; pure (bit, p', rc, rd)) :=
    fun rc' _ _ => (RC.normalizeG_rel hS rc' h).bindV fun _ _ _ h1 => ⟨rfl, rfl, rfl, h1⟩
  refine (RelE.refl_eq _).bindEq fun bound => RelE.ite ?_ ?_
  · cases update
    · exact hn _ _ _
    · exact (RelE.refl_eq _).bindEq fun d => (RelE.refl_eq _).bindEq fun p' => hn _ _ _
  · exact (RelE.refl_eq _).bindEq fun code => (RelE.refl_eq _).bindEq fun range => hn _ _ _

theorem RC.isFinishedOkG_rel (hS : ByteSrcRel S) (rc : RC) {a : ρ₁} {b : ρ₂} (h : S a b) :
    RelE (· = ·) (RC.isFinishedOkG rc a) (RC.isFinishedOkG rc b) :=
  RelE.ite (hS.isEof a b h) rfl

theorem runDecG_rel [ProbStore σ ι] (hS : ByteSrcRel S) (update : Bool) (c : Coder ι α)
    (s : σ) (rc : RC) {a : ρ₁} {b : ρ₂} (h : S a b) :
    RelE (RelV (RelV (RelV S))) (runDecG update c s rc a) (runDecG update c s rc b) := by
  induction c generalizing s rc a b with
  | ret x => exact ⟨rfl, rfl, rfl, h⟩
  | fail e => exact rfl
  | bit i k ih =>
    simp only [runDecG]
    split
    · exact rfl
    next p _ =>
      refine (RC.decodeBitG_rel hS update p rc h).elim (fun _ => rfl) ?_
      rintro ⟨_, _, _, _⟩ ⟨_, _, _, _⟩ ⟨⟨⟩, ⟨⟩, ⟨⟩, h4⟩
      exact ih _ _ _ h4
  | direct k ih =>
    simp only [runDecG]
    refine (RC.getBitG_rel hS rc h).elim (fun _ => rfl) ?_
    rintro ⟨_, _, _⟩ ⟨_, _, _⟩ ⟨⟨⟩, ⟨⟩, h3⟩
    exact ih _ _ _ h3

end generic

theorem runDecF_sim [ProbStore σ ι] (update : Bool) (c : Coder ι α) (s : σ) (rc : RC)
    {fr : FRd} {rd : Rd} (h : FRd.Sim fr rd) :
    RelE (RelV (RelV (RelV FRd.Sim))) (runDecF update c s rc fr) (runDec update c s rc rd) := by
  rw [← runDecG_Rd]
  exact runDecG_rel FRd.byteSrcRel update c s rc h

end Lzma
